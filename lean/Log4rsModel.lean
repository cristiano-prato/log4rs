import Log4rsModel.Base.Proto
import Log4rsModel.Base.Str
import Log4rsModel.Base.Outcome
import Log4rsModel.Base.Level
import Log4rsModel.Base.Style
import Log4rsModel.Routing.Config
import Log4rsModel.Pattern.Format
import Log4rsModel.Roller.Model
import Log4rsModel.Literals.Model
import Log4rsModel.Literals.Spec
import Log4rsModel.Literals.Lemmas
import Log4rsModel.Properties.C20
import Log4rsModel.Base.Bytes
import Log4rsModel.Pattern.Writers
import Log4rsModel.Pattern.TextLemmas
import Log4rsModel.Pattern.WriteAllLemmas
import Log4rsModel.Pattern.PieceLemmas
import Log4rsModel.Pattern.TreeLemmas
import Log4rsModel.Properties.C10
import Log4rsModel.Routing.ListInduction
import Log4rsModel.Routing.Builder
import Log4rsModel.Routing.BuilderLemmas
import Log4rsModel.Routing.Filters
import Log4rsModel.Routing.FiltersLemmas
import Log4rsModel.Properties.C13
import Log4rsModel.Properties.C03
import Log4rsModel.Json.Model
import Log4rsModel.Json.Spec
import Log4rsModel.Json.LemmasStr
import Log4rsModel.Json.LemmasObj
import Log4rsModel.Json.LemmasLine
import Log4rsModel.Properties.C12
import Log4rsModel.EnvExpand.Model
import Log4rsModel.EnvExpand.Spec
import Log4rsModel.EnvExpand.LemmasStr
import Log4rsModel.EnvExpand.LemmasScan
import Log4rsModel.EnvExpand.LemmasFixed
import Log4rsModel.EnvExpand.LemmasSpec
import Log4rsModel.Properties.C19
import Log4rsModel.Console.Model
import Log4rsModel.Console.Spec
import Log4rsModel.Console.Lemmas
import Log4rsModel.Properties.C18
import Log4rsModel.Routing.Tree
import Log4rsModel.Routing.Spec
import Log4rsModel.Routing.LemmasStr
import Log4rsModel.Routing.LemmasTree
import Log4rsModel.Routing.LemmasSpec
import Log4rsModel.Routing.LemmasBuild
import Log4rsModel.Properties.C01
import Log4rsModel.Properties.C02
import Log4rsModel.TimeTrigger.Model
import Log4rsModel.TimeTrigger.Spec
import Log4rsModel.TimeTrigger.Lemmas
import Log4rsModel.Properties.C16
import Log4rsModel.Reconfig.Swap
import Log4rsModel.Reconfig.Reloader
import Log4rsModel.Reconfig.Spec
import Log4rsModel.Reconfig.LemmasSwap
import Log4rsModel.Reconfig.LemmasReloader
import Log4rsModel.Properties.C15
import Log4rsModel.ConfigDoc.Value
import Log4rsModel.ConfigDoc.Schema
import Log4rsModel.ConfigDoc.Pipeline
import Log4rsModel.ConfigDoc.Spec
import Log4rsModel.ConfigDoc.Lemmas
import Log4rsModel.ConfigDoc.LemmasRender
import Log4rsModel.Properties.C14
import Log4rsModel.Console.Formatted
import Log4rsModel.Console.SpecFormatted
import Log4rsModel.Console.LemmasFormatted
import Log4rsModel.Json.LemmasHist
import Log4rsModel.Properties.Compose
import Log4rsModel.Rolling.BufWriter
import Log4rsModel.Rolling.File
import Log4rsModel.Rolling.Lemmas
import Log4rsModel.Rolling.LemmasConc
import Log4rsModel.Rolling.LemmasLock
import Log4rsModel.Rolling.LemmasNoLoss
import Log4rsModel.Rolling.LemmasRolling
import Log4rsModel.Rolling.LemmasWindow
import Log4rsModel.Rolling.Lock
import Log4rsModel.Rolling.Model
import Log4rsModel.Rolling.Spec
import Log4rsModel.Roller.Crash
import Log4rsModel.Roller.Lemmas
import Log4rsModel.Roller.LemmasCrash
import Log4rsModel.Roller.LemmasHist
import Log4rsModel.Roller.LemmasName
import Log4rsModel.Roller.Name
import Log4rsModel.Roller.Spec
import Log4rsModel.Pattern.Ast
import Log4rsModel.Pattern.Chunk
import Log4rsModel.Pattern.Encode
import Log4rsModel.Pattern.ChunkLemmas
import Log4rsModel.Pattern.EncodeLemmas
import Log4rsModel.Pattern.MeaningLemmas
import Log4rsModel.Pattern.DenoteLemmas
import Log4rsModel.Pattern.Parser
import Log4rsModel.Pattern.ParserLemmas
import Log4rsModel.Pattern.ParseStepLemmas
import Log4rsModel.Pattern.AstLemmas
import Log4rsModel.Pattern.RoundTripLemmas
import Log4rsModel.Properties.C04
import Log4rsModel.Properties.C05
import Log4rsModel.Properties.C06
import Log4rsModel.Properties.C07
import Log4rsModel.Properties.C08
import Log4rsModel.Properties.C09
import Log4rsModel.Properties.C11
import Log4rsModel.Properties.C17
import Log4rsModel.Roller.Background
import Log4rsModel.Roller.LemmasBg
import Log4rsModel.EnvExpand.CallSites
import Log4rsModel.EnvExpand.LemmasHist
import Log4rsModel.EnvExpand.LemmasSites
import Log4rsModel.Json.Grammar
import Log4rsModel.Json.LemmasGrammar
import Log4rsModel.Pattern.Bridge
import Log4rsModel.Pattern.WidthSpec
import Log4rsModel.Pattern.WidthSpecLemmas
import Log4rsModel.Pattern.WritersErr
import Log4rsModel.Pattern.WritersErrLemmas
import Log4rsModel.Properties.C10Bridge
import Log4rsModel.Properties.C16Rolling
import Log4rsModel.Reconfig.Facade
import Log4rsModel.Reconfig.LemmasFacade
import Log4rsModel.Rolling.Ext06Lemmas
import Log4rsModel.Rolling.Ext06Spec
import Log4rsModel.Rolling.Ext06Write
import Log4rsModel.Rolling.Ext06WriteLemmas
import Log4rsModel.Rolling.Ext17Once
import Log4rsModel.Rolling.Ext17OnceLemmas
import Log4rsModel.Rolling.Ext17Refine
import Log4rsModel.Rolling.Ext17Roller
import Log4rsModel.Rolling.Ext17Spec
import Log4rsModel.Rolling.Ext17Startup
import Log4rsModel.Rolling.ExtOpen
import Log4rsModel.Routing.FiltersCompose
import Log4rsModel.Routing.LemmasChain
import Log4rsModel.Routing.LogRecord
import Log4rsModel.TimeTrigger.Historic
import Log4rsModel.ConfigDoc.LemmasIsolation
import Log4rsModel.ConfigDoc.Refine
import Log4rsModel.Literals.Duration
import Log4rsModel.Literals.DurationArith
import Log4rsModel.Literals.DurationLemmas
import Log4rsModel.Literals.DurationSpec
import Log4rsModel.Reconfig.LemmasSpecTrace
import Log4rsModel.Rolling.LockSmall
import Log4rsModel.System.Model
import Log4rsModel.System.Spec
import Log4rsModel.System.Lemmas
import Log4rsModel.Properties.System
import Log4rsModel.System.Reconfig
import Log4rsModel.System.ReconfigSpec
import Log4rsModel.System.ReconfigLemmas
import Log4rsModel.System.ReconfigC15
import Log4rsModel.Properties.System2
import Log4rsModel.ConfigDoc.SchemaTable
import Log4rsModel.Pattern.ChunkTable
import Log4rsModel.Pattern.ChunkTableLemmas
import Log4rsModel.Json.FieldTable
import Log4rsModel.System.RollingSpec
import Log4rsModel.System.RollingLemmas
import Log4rsModel.Properties.System3
