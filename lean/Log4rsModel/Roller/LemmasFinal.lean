import Log4rsModel.Roller.LemmasCrash
import Log4rsModel.Roller.FinalSplit
/-
The states inside the final step (Roller/FinalSplit.lean): a final step that wrote slot `base`,
failed, and removed what it wrote again leaves a disk with the guarantee of a step boundary.
-/
namespace Log4rs.Roller

theorem beforeFinal_eq (r : RollerCfg) (file : Path) (d : Disk) (hc : r.count ≠ 0) :
    beforeFinal r file d = applyShifts r (r.count - 1) d := by
  have hlen : (shiftSteps r.base (r.count - 1)).length = r.count - 1 := by
    unfold shiftSteps
    rw [List.length_map, List.length_reverse, List.length_range]
  unfold beforeFinal
  rw [crashAfter_eq r file _ d hc, steps_eq, List.take_left' hlen, runOk_shifts]

theorem beforeFinal_facts {r : RollerCfg} (hinj : NamesInj r) {file : Path} (hfa : FileApart r file)
    (hc : r.count ≠ 0) (d : Disk) :
    (beforeFinal r file d).get? file = d.get? file ∧
      (slot r (beforeFinal r file d) r.base = none ∨ r.count = 1) ∧
      (r.count = 1 → beforeFinal r file d = d) := by
  rw [beforeFinal_eq r file d hc]
  refine ⟨get?_applyShifts_other _ _ _ _ (fun j _ => (hfa _).symm), ?_, fun h1 => by rw [h1]; rfl⟩
  cases h : r.count - 1 with
  | zero => exact Or.inr ((Nat.succ_pred hc).symm.trans (congrArg Nat.succ h))
  | succ m => exact Or.inl ((slot_applyShifts hinj (m + 1) d).1 (Nat.succ_le_succ (Nat.zero_le m)))

theorem readBack_erase_free {r : RollerCfg} (hinj : NamesInj r) {file : Path} (hfa : FileApart r file)
    (dec : Bytes → Bytes) (d : Disk) (h : slot r d r.base = none) :
    readBack dec r file (d.erase (r.nameOf r.base)) = readBack dec r file d := by
  apply readBack_congr
  · intro j _
    show (d.erase _).get? _ = d.get? _
    rw [Disk.get?_erase]
    cases j with
    | zero => exact (if_pos rfl).trans h.symm
    | succ j =>
      have hne : r.nameOf (r.base + (j + 1)) ≠ r.nameOf r.base := fun e =>
        Nat.succ_ne_zero j (Nat.add_left_cancel (hinj _ (r.base + 0) e))
      rw [if_neg hne]
  · rw [Disk.get?_erase, if_neg (hfa _).symm]

/-- a final step that fails half-way and removes its destination again is safe (any window,
any compression): the reading is a suffix of the reading at the start of the rotation and keeps
everything the completed rotation retains -/
theorem failedFinal_discard_safe {r : RollerCfg} (hinj : NamesInj r) {file : Path}
    (hfa : FileApart r file) (dec : Bytes → Bytes) (hdec : ∀ x, dec (r.enc x) = x)
    (hc : r.count ≠ 0) (d : Disk) :
    readBack dec r file (failedFinal true r file d) <:+ readBack dec r file d ∧
      retain dec r file d <:+ readBack dec r file (failedFinal true r file d) := by
  obtain ⟨hfile, hslot, hone⟩ := beforeFinal_facts hinj hfa hc d
  have hsand : readBack dec r file (beforeFinal r file d) <:+ readBack dec r file d ∧
      retain dec r file d <:+ readBack dec r file (beforeFinal r file d) :=
    crash_sandwich hinj hfa dec hdec hc (r.count - 1) d
  unfold failedFinal
  cases hx : (beforeFinal r file d).get? file with
  | none => exact hsand
  | some c =>
    show readBack dec r file ((beforeFinal r file d).erase (r.nameOf r.base)) <:+ _ ∧
      _ <:+ readBack dec r file ((beforeFinal r file d).erase (r.nameOf r.base))
    rcases hslot with hs | h1
    · rw [readBack_erase_free hinj hfa dec _ hs]
      exact hsand
    · -- a window of one slot: the old archive is the oldest chunk and is due for eviction; what
      -- is left is the rolled chunk, and the completed rotation holds exactly that
      rw [hone h1] at hx ⊢
      have hrb : readBack dec r file (d.erase (r.nameOf r.base)) = [c] := by
        unfold readBack
        rw [h1, Disk.get?_erase, if_neg (hfa _).symm, hx]
        show (((d.erase (r.nameOf r.base)).get? (r.nameOf r.base)).toList ++ []).map dec ++ [c] = [c]
        rw [Disk.get?_erase_same]
        rfl
      have hret : retain dec r file d = [c] := by
        obtain ⟨d', hroll, hq⟩ := fixedWindowRoll_ok r file d c hc hfa hx
        unfold retain readBack
        rw [hroll, h1]
        show ((d'.get? (r.nameOf r.base)).toList ++ []).map dec ++ (d'.get? file).toList = [c]
        rw [hq, if_pos rfl, hq, if_neg (hfa _).symm, if_pos rfl]
        show [dec (r.enc c)] = [c]
        rw [hdec]
      rw [hrb, hret]
      refine ⟨?_, List.suffix_refl _⟩
      unfold readBack
      rw [hx]
      exact List.suffix_append _ _

end Log4rs.Roller
