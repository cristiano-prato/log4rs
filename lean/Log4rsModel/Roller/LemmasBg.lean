import Log4rsModel.Roller.Background
import Log4rsModel.Roller.Lemmas
/-
Background rotation: at most one rotation thread in flight; at quiescence the disk equals the
foreground disk (for fresh temp names and fault-free rotation threads).
-/
namespace Log4rs.Roller

theorem bgStep_phase1 {w : Bool} {r : RollerCfg} {file : Path} {s s' : BgSt} {x : Bytes} {tmp : Path}
    (h : bgStep w r file s (.phase1 x tmp) = some s') :
    s.waiting = none ∧ s.disk.get? tmp = none ∧
      s' = { s with disk := moveFile file tmp (s.disk.set file x), waiting := some tmp } := by
  simp only [bgStep] at h
  split at h
  · cases h
  · rename_i hcond
    simp only [Bool.or_eq_true, Option.isSome_iff_ne_none, ne_eq, decide_eq_true_eq, not_or,
      Decidable.not_not] at hcond
    cases h
    exact ⟨hcond.1.1, hcond.2, rfl⟩

theorem bgStep_spawn {r : RollerCfg} {file : Path} {s s' : BgSt}
    (h : bgStep true r file s .spawn = some s') :
    ∃ t, s.waiting = some t ∧ s.ready = true ∧
      s' = { s with ready := false, threads := s.threads ++ [t], waiting := none } := by
  simp only [bgStep] at h
  cases hw : s.waiting with
  | none => rw [hw] at h; cases h
  | some t =>
    cases hr : s.ready with
    | false => rw [hw, hr] at h; cases h
    | true => rw [hw, hr] at h; cases h; exact ⟨t, rfl, rfl, rfl⟩

theorem bgStep_finish {w : Bool} {r : RollerCfg} {file : Path} {s s' : BgSt} {i : Nat}
    {f : Nat → Bool} (h : bgStep w r file s (.finish i f) = some s') :
    ∃ t, s.threads[i]? = some t ∧
      s' = { s with disk := phase2 r t f s.disk, threads := s.threads.eraseIdx i, ready := true } := by
  simp only [bgStep] at h
  cases ht : s.threads[i]? with
  | none => rw [ht] at h; cases h
  | some t => rw [ht] at h; cases h; exact ⟨t, rfl, rfl⟩

/-- `ready` is true exactly when no rotation thread is unfinished, and there is at most one -/
def BgInv (s : BgSt) : Prop := s.threads.length ≤ 1 ∧ (s.ready = true ↔ s.threads = [])

theorem bgInv_init (d : Disk) : BgInv (BgSt.init d) := ⟨Nat.zero_le 1, iff_of_true rfl rfl⟩

theorem eq_singleton_of_getElem? {l : List Path} {i : Nat} {t : Path} (hl : l.length ≤ 1)
    (ht : l[i]? = some t) : i = 0 ∧ l = [t] := by
  match l, i, hl, ht with
  | [a], 0, _, ht => exact ⟨rfl, by rw [Option.some.inj ht]⟩
  | [_], i + 1, _, ht => exact nomatch ht
  | _ :: _ :: _, _, hl, _ => exact absurd hl (by simp)

theorem bgInv_step (r : RollerCfg) (file : Path) (s s' : BgSt) (e : BgEv) (h : BgInv s)
    (hs : bgStep true r file s e = some s') : BgInv s' := by
  cases e with
  | phase1 x tmp =>
    -- the threads and the flag are not touched
    obtain ⟨_, _, rfl⟩ := bgStep_phase1 hs
    exact h
  | spawn =>
    -- enabled only when `ready`, i.e. no thread is left; afterwards there is one and `ready` is off
    obtain ⟨t, _, hr, rfl⟩ := bgStep_spawn hs
    show (s.threads ++ [t]).length ≤ 1 ∧ (false = true ↔ s.threads ++ [t] = [])
    rw [h.2.1 hr]
    exact ⟨Nat.le_refl 1, (fun h => nomatch h), (fun h => nomatch h)⟩
  | finish i f =>
    -- the only thread finishes: none is left and `ready` is on
    obtain ⟨t, ht, rfl⟩ := bgStep_finish hs
    obtain ⟨rfl, hth⟩ := eq_singleton_of_getElem? h.1 ht
    show (s.threads.eraseIdx 0).length ≤ 1 ∧ (true = true ↔ s.threads.eraseIdx 0 = [])
    rw [hth]
    exact ⟨Nat.zero_le 1, iff_of_true rfl rfl⟩

theorem bgInv_run (r : RollerCfg) (file : Path) (evs : List BgEv) (s s' : BgSt) (h : BgInv s)
    (hr : bgRun true r file evs s = some s') : BgInv s' := by
  induction evs generalizing s with
  | nil => cases hr; exact h
  | cons e rest ih =>
    rw [bgRun] at hr
    cases hs : bgStep true r file s e with
    | none => rw [hs] at hr; cases hr
    | some s1 => rw [hs] at hr; exact ih s1 (bgInv_step r file s s1 e h hs) hr

/-- phase 2 from the temp file does to every other path what the foreground roll does: the two
rolls differ only in where the rolled content comes from -/
theorem phase2_vs_foreground {r : RollerCfg}
    (hg : r.base + r.count ≤ U32_MOD) (hc : r.count ≠ 0)
    {file t : Path} (hfa : FileApart r file) (hta : FileApart r t)
    (D F : Disk) (x : Bytes) (hx : D.get? t = some x)
    (hnames : ∀ i, D.get? (r.nameOf i) = F.get? (r.nameOf i))
    (q : Path) (hq1 : q ≠ t) (hq2 : q ≠ file) (hq : D.get? q = F.get? q) :
    (phase2 r t (fun _ => false) D).get? q =
      (rollU32 r file (fun _ => false) (F.set file x)).2.get? q := by
  obtain ⟨d1, h1, hd1⟩ := fixedWindowRoll_ok r t D x hc hta hx
  obtain ⟨d2, h2, hd2⟩ :=
    fixedWindowRoll_ok r file (F.set file x) x hc hfa (Disk.get?_set_same)
  unfold phase2
  rw [h1, rollU32_disk hg, h2]
  show d1.get? q = d2.get? q
  rw [hd1, hd2, if_neg hq1, if_neg hq2,
    get?_applyShifts_congr r _ (fun i => (hnames i).trans (Disk.get?_set_ne _ _ (hfa i)).symm)
      (hq.trans (Disk.get?_set_ne _ _ hq2).symm)]

/-- the background state against the foreground disk `F` after the rolls whose rotation has
finished: the pending temp files hold the contents not yet rotated; everything else agrees -/
structure BgRel (r : RollerCfg) (file : Path) (d0 : Disk) (s : BgSt) (done : List Bytes)
    (px : List (Path × Bytes)) : Prop where
  inv : BgInv s
  temps : px.map Prod.fst = s.threads ++ s.waiting.toList
  nodup : (px.map Prod.fst).Nodup
  held : ∀ e ∈ px, s.disk.get? e.1 = some e.2 ∧ (rollMany r file done d0).get? e.1 = none ∧
    e.1 ≠ file ∧ FileApart r e.1
  logfile : s.disk.get? file = if px.isEmpty then (rollMany r file done d0).get? file else none
  rest : ∀ q, q ∉ px.map Prod.fst → q ≠ file → s.disk.get? q = (rollMany r file done d0).get? q

theorem bgRel_init (r : RollerCfg) (file : Path) (d0 : Disk) : BgRel r file d0 (BgSt.init d0) [] [] :=
  { inv := bgInv_init d0, temps := rfl, nodup := List.nodup_nil, held := fun _ he => (nomatch he),
    logfile := rfl, rest := fun _ _ _ => rfl }

theorem bgRel_phase1 {r : RollerCfg} {file : Path} {d0 : Disk} {s s' : BgSt} {done : List Bytes}
    {px : List (Path × Bytes)} (x : Bytes) (tmp : Path)
    (h : BgRel r file d0 s done px) (hs : bgStep true r file s (.phase1 x tmp) = some s')
    (hne : tmp ≠ file) (hap : ∀ i, r.nameOf i ≠ tmp) :
    BgRel r file d0 s' done (px ++ [(tmp, x)]) := by
  obtain ⟨hw, hfree, rfl⟩ := bgStep_phase1 hs
  -- the new disk: the written file now sits under the temp name
  have hD := get?_moveFile_some (d := s.disk.set file x) tmp Disk.get?_set_same
  have hnotin : tmp ∉ px.map Prod.fst := fun hin => by
    obtain ⟨e, he, rfl⟩ := List.mem_map.1 hin
    have := (h.held e he).1
    rw [hfree] at this; cases this
  refine { inv := h.inv, temps := ?_, nodup := ?_, held := ?_, logfile := ?_, rest := ?_ }
  · show (px ++ [(tmp, x)]).map Prod.fst = s.threads ++ (some tmp).toList
    rw [List.map_append, h.temps, hw]
    exact List.append_nil _ ▸ rfl
  · rw [List.map_append, List.nodup_append]
    refine ⟨h.nodup, by simp, fun a ha b hb => ?_⟩
    cases List.mem_singleton.1 hb
    intro e; subst e; exact hnotin ha
  · intro e he
    show (moveFile file tmp (s.disk.set file x)).get? e.1 = _ ∧ _
    rcases List.mem_append.1 he with he | he
    · obtain ⟨h1, h2, h3, h4⟩ := h.held e he
      have hne1 : e.1 ≠ tmp := fun e' => hnotin (e' ▸ List.mem_map_of_mem he)
      rw [hD, if_neg hne1, if_neg h3, Disk.get?_set_ne _ _ h3]
      exact ⟨h1, h2, h3, h4⟩
    · cases List.mem_singleton.1 he
      rw [hD, if_pos rfl]
      exact ⟨rfl, (h.rest tmp hnotin hne).symm.trans hfree, hne, hap⟩
  · show (moveFile file tmp (s.disk.set file x)).get? file = _
    rw [hD, if_neg hne.symm, if_pos rfl]
    cases px <;> rfl
  · intro q hq hqf
    rw [List.map_append, List.mem_append, not_or] at hq
    show (moveFile file tmp (s.disk.set file x)).get? q = _
    rw [hD, if_neg (fun e => hq.2 (List.mem_singleton.2 e)), if_neg hqf, Disk.get?_set_ne _ _ hqf]
    exact h.rest q hq.1 hqf

theorem bgRel_spawn {r : RollerCfg} {file : Path} {d0 : Disk} {s s' : BgSt} {done : List Bytes}
    {px : List (Path × Bytes)}
    (h : BgRel r file d0 s done px) (hs : bgStep true r file s .spawn = some s') :
    BgRel r file d0 s' done px := by
  have hinv := bgInv_step r file s s' .spawn h.inv hs
  obtain ⟨t, hw, _, rfl⟩ := bgStep_spawn hs
  exact { inv := hinv, temps := by simp [h.temps, hw],
          nodup := h.nodup, held := h.held, logfile := h.logfile, rest := h.rest }

theorem bgRel_finish {r : RollerCfg} {file : Path} {d0 : Disk} {s s' : BgSt} {done : List Bytes}
    {px : List (Path × Bytes)} (i : Nat) (f : Nat → Bool)
    (hg : r.base + r.count ≤ U32_MOD) (hc : r.count ≠ 0)
    (hfa : FileApart r file)
    (h : BgRel r file d0 s done px) (hs : bgStep true r file s (.finish i f) = some s')
    (hf : ∀ k, f k = false) :
    ∃ t x px2, px = (t, x) :: px2 ∧ BgRel r file d0 s' (done ++ [x]) px2 := by
  have hinv := bgInv_step r file s s' (.finish i f) h.inv hs
  cases (funext hf : f = fun _ => false)
  obtain ⟨t, ht, rfl⟩ := bgStep_finish hs
  -- one thread in flight: it is the head of the pending list
  obtain ⟨rfl, hthreads⟩ := eq_singleton_of_getElem? h.inv.1 ht
  have htemps := h.temps
  rw [hthreads] at htemps
  match px, h, htemps with
  | [], _, htemps => cases htemps
  | (t', x) :: px2, h, htemps =>
    obtain ⟨rfl, htemps2⟩ := List.cons.inj htemps
    refine ⟨t', x, px2, rfl, ?_⟩
    obtain ⟨hx, hFt, htf, hta⟩ := h.held (t', x) (List.mem_cons_self ..)
    have hnd := List.nodup_cons.1 h.nodup
    -- agreement on archive names
    have hnames : ∀ j, s.disk.get? (r.nameOf j) = (rollMany r file done d0).get? (r.nameOf j) :=
      fun j => h.rest _ (fun hin => by
        obtain ⟨e, he, hee⟩ := List.mem_map.1 hin
        exact (h.held e he).2.2.2 j hee.symm) (hfa j)
    -- neither roll touches a path that is neither its file nor a name
    have hframeD : ∀ q, q ≠ t' → (∀ j, q ≠ r.nameOf j) →
        (phase2 r t' (fun _ => false) s.disk).get? q = s.disk.get? q := fun q h1 h2 =>
      fixedWindowRoll_frame r t' _ s.disk q h1 (fun j _ _ => h2 j)
    have hframeF : ∀ q, q ≠ file → (∀ j, q ≠ r.nameOf j) →
        (rollMany r file (done ++ [x]) d0).get? q = (rollMany r file done d0).get? q := by
      intro q h1 h2
      rw [rollMany_append]
      exact rollMany_frame r file [x] hg q h1 (fun j _ _ => h2 j) _
    refine { inv := hinv, temps := ?_, nodup := hnd.2, held := ?_, logfile := ?_, rest := ?_ }
    · show px2.map Prod.fst = s.threads.eraseIdx 0 ++ s.waiting.toList
      rw [hthreads]
      exact htemps2
    · intro e he
      obtain ⟨h1, h2, h3, h4⟩ := h.held e (List.mem_cons_of_mem _ he)
      have hne : e.1 ≠ t' := fun e' => hnd.1 (List.mem_map.2 ⟨e, he, e'⟩)
      refine ⟨?_, ?_, h3, h4⟩
      · show (phase2 r t' (fun _ => false) s.disk).get? e.1 = _
        rw [hframeD e.1 hne (fun j e' => h4 j e'.symm)]; exact h1
      · rw [hframeF e.1 h3 (fun j e' => h4 j e'.symm)]; exact h2
    · -- the log path is empty on both sides
      show (phase2 r t' (fun _ => false) s.disk).get? file = _
      rw [hframeD file htf.symm (fun j e' => hfa j e'.symm), h.logfile,
        rollMany_file_gone r file done x hg hc hfa d0]
      exact (ite_self none).symm
    · intro q hq hqf
      show (phase2 r t' (fun _ => false) s.disk).get? q = _
      by_cases hqt : q = t'
      · -- the temp file is consumed; the foreground never had it
        subst hqt
        rw [hframeF q htf (fun j e' => hta j e'.symm), hFt]
        exact fixedWindowRoll_file_gone r q _ x hc hta hx
      · rw [rollMany_append]
        exact phase2_vs_foreground hg hc hfa hta s.disk _ x hx hnames q hqt hqf
          (h.rest q (fun hin => (List.mem_cons.1 hin).elim hqt hq) hqf)

theorem bgRel_run {r : RollerCfg} {file : Path} {d0 : Disk}
    (hg : r.base + r.count ≤ U32_MOD) (hc : r.count ≠ 0)
    (hfa : FileApart r file) (evs : List BgEv) :
    ∀ (s s' : BgSt) (done : List Bytes) (px : List (Path × Bytes)),
      BgRel r file d0 s done px → bgRun true r file evs s = some s' →
      tempsApart r file evs → faultFree evs →
      ∃ done' px', BgRel r file d0 s' done' px' ∧
        done' ++ px'.map Prod.snd = done ++ px.map Prod.snd ++ rolledContents evs := by
  induction evs with
  | nil =>
    intro s s' done px h hr _ _
    cases hr
    exact ⟨done, px, h, (List.append_nil _).symm⟩
  | cons e rest ih =>
    intro s s' done px h hr hta hff
    rw [bgRun] at hr
    cases hs : bgStep true r file s e with
    | none => rw [hs] at hr; cases hr
    | some s1 =>
      rw [hs] at hr
      cases e with
      | phase1 x tmp =>
        obtain ⟨h1, h2, h3⟩ := hta
        obtain ⟨done', px', hr', heq⟩ := ih s1 s' done _ (bgRel_phase1 x tmp h hs h1 h2) hr h3 hff
        exact ⟨done', px', hr', by rw [heq]; simp [rolledContents]⟩
      | spawn =>
        obtain ⟨done', px', hr', heq⟩ := ih s1 s' done px (bgRel_spawn h hs) hr hta hff
        exact ⟨done', px', hr', heq⟩
      | finish i f =>
        obtain ⟨t, x, px2, hpx, hrel⟩ := bgRel_finish i f hg hc hfa h hs hff.1
        obtain ⟨done', px', hr', heq⟩ := ih s1 s' _ px2 hrel hr hta hff.2
        exact ⟨done', px', hr', by rw [heq, hpx]; simp [rolledContents]⟩

/-- the names need not be injective: both sides run the same moves -/
theorem bg_quiescent_eq_foreground {r : RollerCfg} {file : Path} (d0 : Disk)
    (hg : r.base + r.count ≤ U32_MOD) (hc : r.count ≠ 0)
    (hfa : FileApart r file) (evs : List BgEv) (s' : BgSt)
    (hr : bgRun true r file evs (BgSt.init d0) = some s')
    (hta : tempsApart r file evs) (hff : faultFree evs) (hq : s'.quiescent) :
    ∀ q, s'.disk.get? q = (rollMany r file (rolledContents evs) d0).get? q := by
  obtain ⟨done', px', hrel, heq⟩ :=
    bgRel_run hg hc hfa evs _ s' [] [] (bgRel_init r file d0) hr hta hff
  have hpx : px' = [] := by
    have := hrel.temps
    rw [hq.1, hq.2] at this
    exact List.map_eq_nil_iff.1 this
  cases hpx
  rw [List.map_nil, List.append_nil] at heq
  cases heq
  intro q
  by_cases hqf : q = file
  · rw [hqf]; exact hrel.logfile
  · exact hrel.rest q (fun h => nomatch h) hqf

end Log4rs.Roller
