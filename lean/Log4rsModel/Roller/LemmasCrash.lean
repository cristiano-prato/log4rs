import Log4rsModel.Roller.Lemmas
import Log4rsModel.Roller.Crash
/-
Rotation facts for C08: every step of a rotation, executed in the state the previous steps left,
turns the oldest-to-newest reading into a suffix of itself (the only thing that can disappear is
the oldest chunk, and only when it is due for eviction). Hence every prefix of the steps (crash),
every failing step (fault) and the completed rotation are linked by the suffix order.
-/
namespace Log4rs.Roller

theorem windowChunks_congr (r : RollerCfg) (d d' : Disk) (n : Nat)
    (h : ∀ j, j < n → slot r d' (r.base + j) = slot r d (r.base + j)) :
    windowChunks r d' n = windowChunks r d n := by
  induction n with
  | zero => rfl
  | succ n ih =>
    show (slot r d' (r.base + n)).toList ++ _ = (slot r d (r.base + n)).toList ++ _
    rw [h n (Nat.lt_succ_self n), ih (fun j hj => h j (Nat.lt_succ_of_lt hj))]

/-- the reading of `a + b` slots: the upper `b` (a window that starts `a` slots higher), then the
lower `a` -/
theorem windowChunks_add (r : RollerCfg) (d : Disk) (a b : Nat) :
    windowChunks r d (a + b) =
      windowChunks { r with base := r.base + a } d b ++ windowChunks r d a := by
  induction b with
  | zero => rfl
  | succ b ih =>
    show (slot r d (r.base + (a + b))).toList ++ windowChunks r d (a + b) =
      ((slot r d (r.base + a + b)).toList ++ _) ++ _
    rw [ih, List.append_assoc, Nat.add_assoc]

theorem mem_windowChunks {r : RollerCfg} {d : Disk} {n : Nat} {y : Bytes}
    (h : y ∈ windowChunks r d n) : ∃ j, j < n ∧ slot r d (r.base + j) = some y := by
  induction n with
  | zero => exact nomatch h
  | succ n ih =>
    rcases List.mem_append.1 h with h | h
    · exact ⟨n, Nat.lt_succ_self n, Option.mem_toList.1 h⟩
    · obtain ⟨j, hj, e⟩ := ih h
      exact ⟨j, Nat.lt_succ_of_lt hj, e⟩

theorem mem_readBack {dec : Bytes → Bytes} {r : RollerCfg} {file : Path} {d : Disk} {y : Bytes}
    (h : y ∈ readBack dec r file d) :
    (∃ j z, j < r.count ∧ slot r d (r.base + j) = some z ∧ dec z = y) ∨ d.get? file = some y := by
  rcases List.mem_append.1 h with h | h
  · obtain ⟨z, hz, e⟩ := List.mem_map.1 h
    obtain ⟨j, hj, hs⟩ := mem_windowChunks hz
    exact Or.inl ⟨j, z, hj, hs, e⟩
  · exact Or.inr (Option.mem_toList.1 h)

theorem readBack_congr (dec : Bytes → Bytes) (r : RollerCfg) (file : Path) (d d' : Disk)
    (hs : ∀ j, j < r.count → slot r d' (r.base + j) = slot r d (r.base + j))
    (hf : d'.get? file = d.get? file) : readBack dec r file d' = readBack dec r file d := by
  unfold readBack
  rw [windowChunks_congr r d d' r.count hs, hf]

theorem readBack_split (dec : Bytes → Bytes) {r : RollerCfg} (file : Path) (d : Disk) {b : Nat}
    (hn : r.count = 1 + b) :
    readBack dec r file d =
      (windowChunks { r with base := r.base + 1 } d b).map dec ++
        ((slot r d r.base).toList.map dec ++ (d.get? file).toList) := by
  have hsplit := windowChunks_add r d 1 b
  rw [← hn] at hsplit
  unfold readBack
  rw [hsplit]
  show (_ ++ ((slot r d r.base).toList ++ [])).map dec ++ _ = _
  rw [List.append_nil, List.map_append, List.append_assoc]

/-- a shift whose destination is empty, or is the last slot of the window (`b = 0`): the window
reads as before, or has lost its oldest chunk -/
theorem windowChunks_shift {r : RollerCfg} (hinj : NamesInj r) (j b : Nat) (d : Disk)
    (hdst : slot r d (r.base + j + 1) = none ∨ b = 0) :
    windowChunks r (moveFile (r.nameOf (r.base + j)) (r.nameOf (r.base + j + 1)) d) (j + 2 + b) <:+
      windowChunks r d (j + 2 + b) := by
  cases hj : slot r d (r.base + j) with
  | none => rw [moveFile_none _ hj]; exact List.suffix_refl _
  | some y =>
    -- the slots above `j+1` and below `j` are not touched
    have hup := windowChunks_congr { r with base := r.base + (j + 2) } d
      (moveFile (r.nameOf (r.base + j)) (r.nameOf (r.base + j + 1)) d) b (fun i _ => by
        show slot r _ (r.base + (j + 2) + i) = slot r d (r.base + (j + 2) + i)
        have habove : r.base + j + 1 < r.base + (j + 2) + i :=
          Nat.lt_of_lt_of_le (Nat.lt_succ_self _) (Nat.le_add_right _ i)
        exact slot_shift_other hinj _ d _ (Nat.ne_of_gt (Nat.lt_of_succ_lt habove)) (Nat.ne_of_gt habove))
    have hlow := windowChunks_congr r d
      (moveFile (r.nameOf (r.base + j)) (r.nameOf (r.base + j + 1)) d) j (fun i hi =>
        slot_shift_other hinj _ d _ (Nat.ne_of_lt (Nat.add_lt_add_left hi _))
          (Nat.ne_of_lt (Nat.lt_succ_of_lt (Nat.add_lt_add_left hi _))))
    rw [windowChunks_add, windowChunks_add r d, hup]
    show _ ++ ((slot r _ (r.base + j + 1)).toList ++ ((slot r _ (r.base + j)).toList ++ _)) <:+
      _ ++ ((slot r d (r.base + j + 1)).toList ++ ((slot r d (r.base + j)).toList ++ _))
    rw [slot_shift_dst, slot_shift_src hinj, hj, hlow]
    rcases hdst with h | h
    · rw [h]; exact List.suffix_refl _
    · subst h; exact ⟨(slot r d (r.base + j + 1)).toList, rfl⟩

theorem readBack_shift {r : RollerCfg} (hinj : NamesInj r) {file : Path} (hfa : FileApart r file)
    (dec : Bytes → Bytes) (m b : Nat) (hn : r.count = m + 2 + b) (d : Disk)
    (hdst : slot r d (r.base + m + 1) = none ∨ b = 0) :
    readBack dec r file (moveFile (r.nameOf (r.base + m)) (r.nameOf (r.base + m + 1)) d) <:+
      readBack dec r file d := by
  unfold readBack
  rw [get?_moveFile_other _ _ _ _ (hfa _).symm (hfa _).symm, hn]
  exact List.suffix_append_self_iff.2 ((windowChunks_shift hinj m b d hdst).map dec)

def runOk (r : RollerCfg) (file : Path) (ss : List Step) (d : Disk) : Disk :=
  (runSteps r file (fun _ => false) 0 ss d).2

theorem runOk_shift (r : RollerCfg) (file : Path) (i : Nat) (ss : List Step) (d : Disk) :
    runOk r file (Step.shift i :: ss) d = runOk r file ss (moveFile (r.nameOf i) (r.nameOf (i + 1)) d) := by
  unfold runOk
  rw [runSteps_cons_ok _ _ _ _ _ _ _ _ rfl rfl, runSteps_nofault_index _ _ _ (0 + 1) 0]

theorem runOk_shifts (r : RollerCfg) (file : Path) (m : Nat) (d : Disk) :
    runOk r file (shiftSteps r.base m) d = applyShifts r m d := by
  have := runSteps_shifts_nofault r file m [] d
  rw [List.append_nil] at this
  exact congrArg Prod.snd this

theorem runOk_final (r : RollerCfg) (file : Path) (d : Disk) :
    runOk r file [Step.final] d =
      match finalStep r.comp r.codec file (r.nameOf r.base) d with
      | .ok d' => d'
      | .error _ => d := by
  unfold runOk
  rw [runSteps]
  show (match finalStep r.comp r.codec file (r.nameOf r.base) d with
    | .error e => (Except.error e, d)
    | .ok d' => (Except.ok d', d')).2 = _
  cases finalStep r.comp r.codec file (r.nameOf r.base) d <;> rfl

/-- the last step keeps the reading, except that with a window of one slot (`b = 0`) the old
archive (the oldest chunk) is replaced -/
theorem readBack_final {r : RollerCfg} (hinj : NamesInj r) {file : Path} (hfa : FileApart r file)
    (dec : Bytes → Bytes) (hdec : ∀ x, dec (r.enc x) = x) (b : Nat) (hn : r.count = 1 + b) (d : Disk)
    (hfree : slot r d r.base = none ∨ b = 0) :
    readBack dec r file (runOk r file [Step.final] d) <:+ readBack dec r file d := by
  cases hx : d.get? file with
  | none =>
    -- nothing to roll: the plain move does nothing, the codecs fail in `open`
    have : runOk r file [Step.final] d = d := by
      rw [runOk_final]
      by_cases hcomp : r.comp = .none
      · rw [hcomp]
        exact moveFile_none _ hx
      · rw [finalStep_codec hcomp, hx]
    rw [this]
    exact List.suffix_refl _
  | some x =>
    obtain ⟨d', hd', hq⟩ := finalStep_ok r file (r.nameOf r.base) d x hx (hfa _)
    have : runOk r file [Step.final] d = d' := by rw [runOk_final, hd']
    have hup : windowChunks { r with base := r.base + 1 } d' b =
        windowChunks { r with base := r.base + 1 } d b :=
      windowChunks_congr _ _ _ _ (fun j _ => by
        have hne : r.nameOf (r.base + 1 + j) ≠ r.nameOf r.base := fun e =>
          Nat.ne_of_gt (Nat.lt_of_lt_of_le (Nat.lt_succ_self r.base) (Nat.le_add_right _ j)) (hinj _ _ e)
        show d'.get? _ = d.get? _
        rw [hq, if_neg hne, if_neg (hfa _)])
    rw [this, readBack_split dec file d' hn, readBack_split dec file d hn, hup, hx]
    show _ ++ ((d'.get? (r.nameOf r.base)).toList.map dec ++ (d'.get? file).toList) <:+ _
    rw [hq, if_pos rfl, hq, if_neg (hfa _).symm, if_pos rfl]
    show _ ++ ([dec (r.enc x)] ++ []) <:+ _
    rw [hdec]
    rcases hfree with h | h
    · rw [h]; exact List.suffix_refl _
    · subst h; exact List.suffix_append _ _

/-- Along a rotation of `m` shifts and the last step, started where the destination of the first
shift is empty or is the last slot of the window: stopping after `k` steps leaves a reading that is
a suffix of the reading at the start, and the reading of the completed rotation is a suffix of it.
(After each shift its source is empty, and that is the destination of the next.) -/
theorem crash_chain {r : RollerCfg} (hinj : NamesInj r) {file : Path} (hfa : FileApart r file)
    (dec : Bytes → Bytes) (hdec : ∀ x, dec (r.enc x) = x) (m b : Nat) (hn : r.count = m + 1 + b)
    (d : Disk) (hfree : slot r d (r.base + m) = none ∨ b = 0) (k : Nat) :
    readBack dec r file (runOk r file ((shiftSteps r.base m ++ [Step.final]).take k) d) <:+
        readBack dec r file d ∧
      readBack dec r file (runOk r file (shiftSteps r.base m ++ [Step.final]) d) <:+
        readBack dec r file (runOk r file ((shiftSteps r.base m ++ [Step.final]).take k) d) := by
  induction m generalizing b d k with
  | zero =>
    have hfin := readBack_final hinj hfa dec hdec b (by rw [hn, Nat.zero_add]) d hfree
    cases k with
    | zero => exact ⟨List.suffix_refl _, hfin⟩
    | succ k =>
      show readBack dec r file (runOk r file ([Step.final].take (k + 1)) d) <:+ _ ∧
        _ <:+ readBack dec r file (runOk r file ([Step.final].take (k + 1)) d)
      rw [List.take_succ_cons, List.take_nil]
      exact ⟨hfin, List.suffix_refl _⟩
  | succ m ih =>
    have hstep := readBack_shift hinj hfa dec m b hn d hfree
    have ih' := ih (b + 1) (by rw [hn, Nat.add_assoc, Nat.add_comm 1 b])
      (moveFile (r.nameOf (r.base + m)) (r.nameOf (r.base + m + 1)) d)
      (Or.inl (slot_shift_src hinj _ d))
    rw [shiftSteps_succ, List.cons_append, runOk_shift]
    cases k with
    | zero => exact ⟨List.suffix_refl _, (ih' 0).2.trans hstep⟩
    | succ k =>
      rw [List.take_succ_cons, runOk_shift]
      exact ⟨(ih' k).1.trans hstep, (ih' k).2⟩

theorem crashAfter_eq (r : RollerCfg) (file : Path) (k : Nat) (d : Disk) (hc : r.count ≠ 0) :
    crashAfter r file k d = runOk r file ((steps r.base r.count).take k) d :=
  if_neg hc

/-- after any number `k` of completed steps the reading is a
suffix of the reading before the rotation, and the reading of the completed rotation (`retain`) is
a suffix of it. -/
theorem crash_sandwich {r : RollerCfg} (hinj : NamesInj r) {file : Path} (hfa : FileApart r file)
    (dec : Bytes → Bytes) (hdec : ∀ x, dec (r.enc x) = x) (hc : r.count ≠ 0) (k : Nat) (d : Disk) :
    readBack dec r file (crashAfter r file k d) <:+ readBack dec r file d ∧
      retain dec r file d <:+ readBack dec r file (crashAfter r file k d) := by
  unfold retain fixedWindowRoll
  rw [crashAfter_eq r file k d hc, if_neg hc, steps_eq]
  exact crash_chain hinj hfa dec hdec (r.count - 1) 0 (Nat.succ_pred hc).symm d (Or.inr rfl) k

theorem runSteps_fault_disk (r : RollerCfg) (file : Path) (fault : Nat → Bool) (ss : List Step)
    (k0 : Nat) (d : Disk) : ∃ j, (runSteps r file fault k0 ss d).2 = runOk r file (ss.take j) d := by
  induction ss generalizing k0 d with
  | nil => exact ⟨0, rfl⟩
  | cons s rest ih =>
    rw [runSteps]
    cases hf : fault k0 with
    | true => exact ⟨0, rfl⟩
    | false =>
      cases hst : applyStep r file s d with
      | error e => exact ⟨0, rfl⟩
      | ok d' =>
        obtain ⟨j, hj⟩ := ih (k0 + 1) d'
        refine ⟨j + 1, hj.trans ?_⟩
        unfold runOk
        rw [List.take_succ_cons, runSteps_cons_ok _ _ _ _ _ _ _ _ rfl hst,
          runSteps_nofault_index _ _ _ (0 + 1) 0]

/-- whatever step fails, the disk the roller leaves is the disk after some number of completed
steps — a crash state -/
theorem fault_is_crash (r : RollerCfg) (file : Path) (fault : Nat → Bool) (d : Disk) :
    ∃ k, (fixedWindowRoll r file fault d).2 = crashAfter r file k d := by
  unfold fixedWindowRoll
  by_cases hc : r.count = 0
  · have hcr : ∀ k, crashAfter r file k d = if k = 0 then d else d.erase file := fun k => if_pos hc
    rw [if_pos hc]
    cases fault 0 with
    | true => exact ⟨0, (hcr 0).symm⟩
    | false =>
      cases d.get? file with
      | none => exact ⟨0, (hcr 0).symm⟩
      | some x => exact ⟨1, (hcr 1).symm⟩
  · rw [if_neg hc]
    obtain ⟨j, hj⟩ := runSteps_fault_disk r file fault (steps r.base r.count) 0 d
    exact ⟨j, hj.trans (crashAfter_eq r file j d hc).symm⟩

theorem flat_suffix {a b : List Bytes} (h : a <:+ b) : flat a <:+ flat b := by
  obtain ⟨t, ht⟩ := h
  exact ⟨flat t, by rw [← ht]; exact List.flatten_append.symm⟩

end Log4rs.Roller
