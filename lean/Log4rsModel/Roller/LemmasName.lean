import Log4rsModel.Roller.Name
/-
Injectivity of the slot naming: two different replacement texts never produce the same string
from a pattern that contains `{}`; decimal rendering is injective; hence `name p` is injective
whenever the environment expansion does not identify two substituted patterns.
-/
namespace Log4rs.Roller
open Log4rs.Str

theorem length_substIdx_mono (d1 d2 : List Char) (h : d1.length ≤ d2.length) (p : List Char) :
    (substIdx d1 p).length ≤ (substIdx d2 p).length := by
  fun_induction substIdx d1 p with
  | case1 => simp [substIdx]
  | case2 rest ih => simp only [substIdx, List.length_append]; omega
  | case3 c rest hne ih =>
    rw [substIdx.eq_3 _ _ _ hne]
    simp only [List.length_cons]; omega

theorem eq_of_add_eq_add {a b c d : Nat} (h : a + b = c + d) (h1 : a ≤ c → b ≤ d)
    (h2 : c ≤ a → d ≤ b) : a = c := by
  omega

theorem substIdx_inj (p : List Char) (hp : hasHole p = true) (d1 d2 : List Char)
    (h : substIdx d1 p = substIdx d2 p) : d1 = d2 := by
  induction p using hasHole.induct with
  | case1 => simp [hasHole] at hp
  | case2 rest =>
    -- `d1 ++ …d1… = d2 ++ …d2…`, and the tails are at least as long as the texts are: the texts
    -- have the same length, so they are the two heads
    simp only [substIdx] at h
    have hlen := congrArg List.length h
    simp only [List.length_append] at hlen
    exact (List.append_inj h (eq_of_add_eq_add hlen (fun hle => length_substIdx_mono d1 d2 hle rest)
      (fun hle => length_substIdx_mono d2 d1 hle rest))).1
  | case3 c rest hne ih =>
    rw [substIdx.eq_3 _ _ _ hne, substIdx.eq_3 _ _ _ hne] at h
    rw [hasHole.eq_3 _ _ hne] at hp
    exact ih hp (List.cons.inj h).2

theorem decimal_inj (i j : Nat) (h : decimal i = decimal j) : i = j := by
  have hi := @Nat.ofDigitChars_ten_toDigits i
  have hj := @Nat.ofDigitChars_ten_toDigits j
  unfold decimal at h
  rw [h] at hi
  omega

/-- `pattern.replace("{}", i)` is injective in `i` for every pattern the builder accepts -/
theorem substIdx_decimal_inj (p : List Char) (hp : hasHole p = true) (i j : Nat)
    (h : substIdx (decimal i) p = substIdx (decimal j) p) : i = j :=
  decimal_inj i j (substIdx_inj p hp _ _ h)

end Log4rs.Roller
