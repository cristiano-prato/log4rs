import Log4rsModel.Roller.LemmasCrash
/-
The appender of C08 (`Roller/Crash.lean`) and its histories ("followed by any continuation of the
history"): the stream under the primitive operations, the rotating append as an equation in
`rotationStart` and `processRoll`, the invariant `Good` of an appender object that has been built,
and the per-operation stream guarantees (plain append, rotating append with an arbitrary fault
oracle, fault-free rotation, restart), all for the open-option logic of the fixed code
(`truncateEveryReopen = false`: truncation only at the first open of the appender's life).
-/
namespace Log4rs.Roller

theorem readBack_set_file {r : RollerCfg} {file : Path} (hfa : FileApart r file) (dec : Bytes → Bytes)
    (d : Disk) (v : Bytes) :
    readBack dec r file (d.set file v) = (windowChunks r d r.count).map dec ++ [v] := by
  unfold readBack
  rw [windowChunks_congr r d _ _ (fun j _ => slot_set_file hfa d v _), Disk.get?_set_same]
  rfl

/-- reopening without truncation keeps the stream (it may add an empty active file) -/
theorem stream_reopen_keep {r : RollerCfg} {file : Path} (hfa : FileApart r file) (dec : Bytes → Bytes)
    (d : Disk) : flat (readBack dec r file (reopen false file d)) = flat (readBack dec r file d) := by
  unfold reopen
  cases h : d.get? file with
  | some v => rfl
  | none =>
    show flat (readBack dec r file (d.set file [])) = _
    rw [readBack_set_file hfa]
    simp [readBack, h, flat]

theorem stream_writeRec (c : AppCfg) (hfa : FileApart c.roller c.file) (dec : Bytes → Bytes)
    (rec : Bytes) (st : AppState) :
    flat (readBack dec c.roller c.file (writeRec c rec st).disk) =
      flat (readBack dec c.roller c.file st.disk) ++ rec := by
  show flat (readBack dec c.roller c.file (st.disk.set c.file _)) = _
  rw [readBack_set_file hfa]
  cases h : st.disk.get? c.file <;> simp [readBack, h, flat]

theorem getWriter_keep (c : AppCfg) (hfa : FileApart c.roller c.file) (dec : Bytes → Bytes)
    (st : AppState) (h : c.truncates st = false) :
    flat (readBack dec c.roller c.file (getWriter c st).disk) =
      flat (readBack dec c.roller c.file st.disk) := by
  unfold getWriter
  by_cases hw : st.writerOpen = true
  · rw [if_pos hw]
  · rw [if_neg hw, h]
    exact stream_reopen_keep hfa dec _

theorem truncates_false {c : AppCfg} {st : AppState} (htr : c.truncateEveryReopen = false)
    (h : st.openedOnce = true) : c.truncates st = false := by
  unfold AppCfg.truncates
  cases c.mode with
  | append => rfl
  | truncate => rw [htr, h]; rfl

theorem appendOp_plain (c : AppCfg) (fault : Nat → Bool) (rec : Bytes) (st : AppState) :
    appendOp c fault false rec st = (.ok, writeRec c rec (getWriter c st)) := by
  unfold appendOp
  cases c.pre <;> rfl

theorem rotationStart_pre {c : AppCfg} (h : c.pre = true) (rec : Bytes) (st : AppState) :
    rotationStart c rec st = getWriter c st := by
  unfold rotationStart; rw [h]; rfl

theorem rotationStart_post {c : AppCfg} (h : c.pre = false) (rec : Bytes) (st : AppState) :
    rotationStart c rec st = writeRec c rec (getWriter c st) := by
  unfold rotationStart; rw [h]; rfl

/-- the rotating append: the roll runs on `rotationStart`; a pre-process trigger writes the record
after a successful roll, through a reopened writer -/
theorem appendOp_roll (c : AppCfg) (fault : Nat → Bool) (rec : Bytes) (st : AppState) :
    appendOp c fault true rec st =
      if c.pre && (processRoll c fault (rotationStart c rec st)).1 == .ok then
        (.ok, writeRec c rec (getWriter c (processRoll c fault (rotationStart c rec st)).2))
      else processRoll c fault (rotationStart c rec st) := by
  cases hp : c.pre with
  | false =>
    rw [rotationStart_post hp]
    unfold appendOp
    rw [hp]
    rfl
  | true =>
    rw [rotationStart_pre hp]
    unfold appendOp
    rw [hp]
    show (match processRoll c fault (getWriter c st) with
      | (.ok, st') => (AppRes.ok, writeRec c rec (getWriter c st'))
      | (e, st') => (e, st')) = _
    rcases processRoll c fault (getWriter c st) with ⟨res, st'⟩
    cases res <;> rfl

theorem processRoll_guarded (c : AppCfg) (fault : Nat → Bool) (st : AppState)
    (hg : c.roller.base + c.roller.count ≤ U32_MOD) :
    processRoll c fault st =
      (match (fixedWindowRoll c.roller c.file fault st.disk).1 with
        | .ok _ => AppRes.ok
        | .error _ => AppRes.err,
       { st with disk := (fixedWindowRoll c.roller c.file fault st.disk).2, writerOpen := false }) := by
  unfold processRoll
  rw [rollU32_guarded hg]
  rcases fixedWindowRoll c.roller c.file fault st.disk with ⟨res, d''⟩
  cases res <;> rfl

theorem rotationStart_opened (c : AppCfg) (rec : Bytes) (st : AppState)
    (hinv : st.writerOpen = true → st.openedOnce = true) :
    (rotationStart c rec st).openedOnce = true := by
  have : (getWriter c st).openedOnce = true := by
    unfold getWriter
    by_cases hw : st.writerOpen = true
    · rw [if_pos hw]; exact hinv hw
    · rw [if_neg hw]
  cases hp : c.pre with
  | true => rw [rotationStart_pre hp]; exact this
  | false => rw [rotationStart_post hp]; exact this

theorem appendOp_roll_outcome (c : AppCfg) (fault : Nat → Bool) (rec : Bytes) (st : AppState)
    (hg : c.roller.base + c.roller.count ≤ U32_MOD)
    (hinv : st.writerOpen = true → st.openedOnce = true) :
    (appendOp c fault true rec st).1 ≠ .panic ∧
    ((appendOp c fault true rec st).1 = .err →
      (∃ k, (appendOp c fault true rec st).2.disk =
          crashAfter c.roller c.file k (rotationStart c rec st).disk) ∧
        (appendOp c fault true rec st).2.writerOpen = false ∧
        (appendOp c fault true rec st).2.openedOnce = true) := by
  rw [appendOp_roll]
  split
  · exact ⟨(fun h => nomatch h), (fun h => nomatch h)⟩
  · rw [processRoll_guarded c fault _ hg]
    refine ⟨?_, fun _ => ⟨fault_is_crash _ _ _ _, rfl, rotationStart_opened c rec st hinv⟩⟩
    cases (fixedWindowRoll c.roller c.file fault (rotationStart c rec st).disk).1 with
    | ok v => exact fun h => nomatch h
    | error e => exact fun h => nomatch h

/-- invariant of the state of an appender object that has been built: it has opened its file
before, and while its writer is open the file exists -/
structure Good (c : AppCfg) (st : AppState) : Prop where
  opened : st.openedOnce = true
  file : st.writerOpen = true → ∃ v, st.disk.get? c.file = some v

/-- oldest-to-newest bytes on disk -/
def stm (dec : Bytes → Bytes) (c : AppCfg) (d : Disk) : Bytes := flat (readBack dec c.roller c.file d)

theorem reopen_file (t : Bool) (file : Path) (d : Disk) : ∃ v, (reopen t file d).get? file = some v := by
  unfold reopen
  cases t with
  | true => exact ⟨[], Disk.get?_set_same⟩
  | false =>
    cases h : d.get? file with
    | some v => exact ⟨v, h⟩
    | none => exact ⟨[], Disk.get?_set_same⟩

theorem good_getWriter {c : AppCfg} {st : AppState} (h : Good c st) :
    Good c (getWriter c st) ∧ (getWriter c st).writerOpen = true := by
  unfold getWriter
  by_cases hw : st.writerOpen = true
  · rw [if_pos hw]; exact ⟨h, hw⟩
  · rw [if_neg hw]
    exact ⟨⟨rfl, fun _ => reopen_file _ _ _⟩, rfl⟩

theorem good_restart (c : AppCfg) (d : Disk) : Good c (restartOp c d) :=
  ⟨rfl, fun _ => reopen_file _ _ _⟩

theorem good_writeRec {c : AppCfg} {st : AppState} (rec : Bytes) (h : Good c st) :
    Good c (writeRec c rec st) :=
  ⟨h.opened, fun _ => ⟨_, Disk.get?_set_same⟩⟩

theorem good_processRoll {c : AppCfg} {st : AppState} (fault : Nat → Bool) (h : Good c st) :
    Good c (processRoll c fault st).2 := by
  unfold processRoll
  rcases rollU32 c.roller c.file fault st.disk with ⟨res, d⟩
  cases res <;> exact ⟨h.opened, fun hw => nomatch hw⟩

/-- when the rotation starts the writer is open, so the file to roll exists -/
theorem good_rotationStart {c : AppCfg} {st : AppState} (rec : Bytes) (h : Good c st) :
    Good c (rotationStart c rec st) ∧ ∃ x, (rotationStart c rec st).disk.get? c.file = some x := by
  cases hp : c.pre with
  | true =>
    rw [rotationStart_pre hp]
    exact ⟨(good_getWriter h).1, (good_getWriter h).1.file (good_getWriter h).2⟩
  | false =>
    rw [rotationStart_post hp]
    exact ⟨good_writeRec rec (good_getWriter h).1, _, Disk.get?_set_same⟩

theorem good_appendOp {c : AppCfg} {st : AppState} (fault : Nat → Bool) (answer : Bool) (rec : Bytes)
    (h : Good c st) : Good c (appendOp c fault answer rec st).2 := by
  cases answer with
  | false => rw [appendOp_plain]; exact good_writeRec rec (good_getWriter h).1
  | true =>
    have hp := good_processRoll fault (good_rotationStart rec h).1
    rw [appendOp_roll]
    split
    · exact good_writeRec rec (good_getWriter hp).1
    · exact hp

/-- an operation of a history: an append (record, trigger answer, fault oracle of the rotation
it may start) or a restart (a fresh appender object on the same disk) -/
inductive HOp where
  | append (rec : Bytes) (answer : Bool) (fault : Nat → Bool)
  | restart

def runOp (c : AppCfg) : HOp → AppState → AppRes × AppState
  | .append rec answer fault, st => appendOp c fault answer rec st
  | .restart, st => (.ok, restartOp c st.disk)

def runHist (c : AppCfg) : List HOp → AppState → AppState
  | [], st => st
  | op :: rest, st => runHist c rest (runOp c op st).2

/-- the bytes an operation puts on disk: the record, unless a pre-process rotation failed -/
def writtenOp (c : AppCfg) : HOp → AppState → Bytes
  | .append rec answer fault, st =>
    if c.pre && answer && (appendOp c fault answer rec st).1 != .ok then [] else rec
  | .restart, _ => []

def writtenBy (c : AppCfg) : List HOp → AppState → Bytes
  | [], _ => []
  | op :: rest, st => writtenOp c op st ++ writtenBy c rest (runOp c op st).2

def HOp.isRestart : HOp → Bool
  | .restart => true
  | _ => false

theorem good_runOp {c : AppCfg} {st : AppState} (op : HOp) (h : Good c st) : Good c (runOp c op st).2 := by
  cases op with
  | append rec answer fault => exact good_appendOp fault answer rec h
  | restart => exact good_restart c _

theorem good_runHist {c : AppCfg} (hist : List HOp) {st : AppState} (h : Good c st) :
    Good c (runHist c hist st) := by
  induction hist generalizing st with
  | nil => exact h
  | cons op rest ih => exact ih (good_runOp op h)

/-- the reopen at the start of an append loses nothing; a post-process append has written its
record when the rotation starts -/
theorem stm_rotationStart (c : AppCfg) (dec : Bytes → Bytes) (rec : Bytes) (st : AppState)
    (htr : c.truncateEveryReopen = false) (hfa : FileApart c.roller c.file) (h : Good c st) :
    stm dec c (rotationStart c rec st).disk = stm dec c st.disk ++ (if c.pre then [] else rec) := by
  have hk := getWriter_keep c hfa dec st (truncates_false htr h.opened)
  unfold stm
  cases hp : c.pre with
  | true => rw [rotationStart_pre hp, hk]; exact (List.append_nil _).symm
  | false => rw [rotationStart_post hp, stream_writeRec c hfa dec, hk]; rfl

theorem stm_plain (c : AppCfg) (dec : Bytes → Bytes) (fault : Nat → Bool) (rec : Bytes) (st : AppState)
    (htr : c.truncateEveryReopen = false) (hfa : FileApart c.roller c.file) (h : Good c st) :
    (appendOp c fault false rec st).1 = .ok ∧
      stm dec c (appendOp c fault false rec st).2.disk = stm dec c st.disk ++ rec := by
  rw [appendOp_plain]
  refine ⟨rfl, ?_⟩
  unfold stm
  rw [stream_writeRec c hfa dec, getWriter_keep c hfa dec st (truncates_false htr h.opened)]

theorem stm_appendOp_roll (c : AppCfg) (dec : Bytes → Bytes) (fault : Nat → Bool) (rec : Bytes)
    (st : AppState) (htr : c.truncateEveryReopen = false)
    (hg : c.roller.base + c.roller.count ≤ U32_MOD) (hfa : FileApart c.roller c.file)
    (h : Good c st) :
    stm dec c (appendOp c fault true rec st).2.disk =
      stm dec c (fixedWindowRoll c.roller c.file fault (rotationStart c rec st).disk).2 ++
        (if c.pre && (appendOp c fault true rec st).1 == .ok then rec else []) := by
  rw [appendOp_roll]
  split
  · rename_i hcond
    have hop : c.truncates (processRoll c fault (rotationStart c rec st)).2 = false :=
      truncates_false htr (good_processRoll fault (good_rotationStart rec h).1).opened
    show stm dec c (writeRec c rec _).disk = _ ++ if c.pre && AppRes.ok == .ok then rec else []
    rw [(Bool.and_eq_true_iff.1 hcond).1]
    unfold stm
    rw [stream_writeRec c hfa dec, getWriter_keep c hfa dec _ hop, processRoll_guarded c fault _ hg]
    rfl
  · rw [processRoll_guarded c fault _ hg]
    exact (List.append_nil _).symm

/-- the rotating append, any fault oracle, both trigger kinds, both open modes: never a panic;
what the completed rotation would retain (plus the record, when a pre-process rotation went
through) is a suffix of the stream on disk, which is a suffix of the stream at rotation start -/
theorem stm_rotating (c : AppCfg) (dec : Bytes → Bytes) (fault : Nat → Bool) (rec : Bytes) (st : AppState)
    (htr : c.truncateEveryReopen = false)
    (hg : c.roller.base + c.roller.count ≤ U32_MOD) (hc : c.roller.count ≠ 0)
    (hinj : NamesInj c.roller) (hfa : FileApart c.roller c.file)
    (hdec : ∀ x, dec (c.roller.enc x) = x) (h : Good c st) :
    (appendOp c fault true rec st).1 ≠ .panic ∧
    flat (retain dec c.roller c.file (rotationStart c rec st).disk) ++
        (if c.pre && (appendOp c fault true rec st).1 == .ok then rec else []) <:+
      stm dec c (appendOp c fault true rec st).2.disk ∧
    stm dec c (appendOp c fault true rec st).2.disk <:+
      stm dec c (rotationStart c rec st).disk ++
        (if c.pre && (appendOp c fault true rec st).1 == .ok then rec else []) := by
  -- the roll leaves a crash state of the rotation, and those are sandwiched
  obtain ⟨k, hk⟩ := fault_is_crash c.roller c.file fault (rotationStart c rec st).disk
  obtain ⟨s1, s2⟩ := crash_sandwich hinj hfa dec hdec hc k (rotationStart c rec st).disk
  rw [← hk] at s1 s2
  rw [stm_appendOp_roll c dec fault rec st htr hg hfa h]
  exact ⟨(appendOp_roll_outcome c fault rec st hg (fun _ => h.opened)).1,
    List.suffix_append_self_iff.2 (flat_suffix s2), List.suffix_append_self_iff.2 (flat_suffix s1)⟩

/-- a restart keeps the stream in append mode; in truncate mode it discards the active file, as
`append(false)` asks for, and nothing else -/
theorem stm_restart (c : AppCfg) (dec : Bytes → Bytes) (d : Disk) (hfa : FileApart c.roller c.file) :
    stm dec c (restartOp c d).disk =
      match c.mode with
      | .append => stm dec c d
      | .truncate => flat ((windowChunks c.roller d c.roller.count).map dec) := by
  unfold restartOp getWriter stm
  simp only [Bool.false_eq_true, if_false, AppCfg.truncates, Bool.not_false, Bool.or_true]
  cases c.mode with
  | append => exact stream_reopen_keep hfa dec d
  | truncate =>
    simp only [reopen, if_true]
    rw [readBack_set_file hfa]
    simp [flat]

end Log4rs.Roller
