import Log4rsModel.Roller.Spec
/-
The disk, `moveFile`, one shift seen on the slots, the shift phase as a pure function, and one roll
resp. successive rolls of the fixed-window roller on a window. Everything is stated through
`Disk.get?` (the order of the association list is irrelevant).

Hypotheses used throughout, stated explicitly where needed:
  `NamesInj r`     : the slot naming is injective            (C07_name_injective discharges it)
  `FileApart r f`  : the rolled file is not one of the slot names
-/
namespace Log4rs.Roller

namespace Disk

theorem find_filter_ne (l : List (Path × Bytes)) (p q : Path) (h : q ≠ p) :
    (l.filter (fun e => e.1 ≠ p)).find? (fun e => e.1 = q) = l.find? (fun e => e.1 = q) := by
  rw [List.find?_filter]
  congr 1
  funext a
  by_cases hq : a.1 = q
  · simp [hq, h]
  · simp [hq]

theorem find_filter_same (l : List (Path × Bytes)) (p : Path) :
    (l.filter (fun e => e.1 ≠ p)).find? (fun e => e.1 = p) = none := by
  rw [List.find?_filter]
  simp

@[simp] theorem get?_erase_same (d : Disk) (p : Path) : (d.erase p).get? p = none := by
  show ((d.files.filter (fun e => e.1 ≠ p)).find? (fun e => e.1 = p)).map (·.2) = none
  rw [find_filter_same]; rfl

theorem get?_erase_ne (d : Disk) {p q : Path} (h : q ≠ p) : (d.erase p).get? q = d.get? q := by
  show ((d.files.filter (fun e => e.1 ≠ p)).find? (fun e => e.1 = q)).map (·.2) = _
  rw [find_filter_ne _ _ _ h]; rfl

@[simp] theorem get?_set_same {d : Disk} {p : Path} {c : Bytes} : (d.set p c).get? p = some c := by
  show (((d.files.filter (fun e => e.1 ≠ p)) ++ [(p, c)]).find? (fun e => e.1 = p)).map (·.2) = _
  rw [List.find?_append, find_filter_same]; simp

theorem get?_set_ne (d : Disk) {p q : Path} (c : Bytes) (h : q ≠ p) :
    (d.set p c).get? q = d.get? q := by
  have hpq : ¬ p = q := fun e => h e.symm
  show (((d.files.filter (fun e => e.1 ≠ p)) ++ [(p, c)]).find? (fun e => e.1 = q)).map (·.2) =
    (d.files.find? (fun e => e.1 = q)).map (·.2)
  rw [List.find?_append, find_filter_ne _ _ _ h]
  cases d.files.find? (fun e => e.1 = q) <;> simp [hpq]

theorem get?_erase (d : Disk) (p q : Path) :
    (d.erase p).get? q = if q = p then none else d.get? q := by
  by_cases h : q = p
  · rw [if_pos h, h, get?_erase_same]
  · rw [if_neg h, get?_erase_ne d h]

theorem get?_set (d : Disk) (p q : Path) (c : Bytes) :
    (d.set p c).get? q = if q = p then some c else d.get? q := by
  by_cases h : q = p
  · rw [if_pos h, h, get?_set_same]
  · rw [if_neg h, get?_set_ne d c h]

end Disk

theorem moveFile_none {src : Path} {d : Disk} (dst : Path) (h : d.get? src = none) :
    moveFile src dst d = d := by
  unfold moveFile; rw [h]

theorem get?_moveFile_some {src : Path} {d : Disk} {c : Bytes} (dst : Path) (h : d.get? src = some c)
    (q : Path) :
    (moveFile src dst d).get? q = if q = dst then some c else if q = src then none else d.get? q := by
  unfold moveFile; rw [h]
  show ((d.erase src).set dst c).get? q = _
  rw [Disk.get?_set, Disk.get?_erase]

theorem get?_moveFile_other (src dst : Path) (d : Disk) (q : Path) (h1 : q ≠ src) (h2 : q ≠ dst) :
    (moveFile src dst d).get? q = d.get? q := by
  cases h : d.get? src with
  | none => rw [moveFile_none dst h]
  | some c => rw [get?_moveFile_some dst h, if_neg h2, if_neg h1]

theorem get?_moveFile_congr (src dst : Path) {d e : Disk} {q : Path}
    (hs : d.get? src = e.get? src) (hq : d.get? q = e.get? q) :
    (moveFile src dst d).get? q = (moveFile src dst e).get? q := by
  cases h : e.get? src with
  | none => rw [moveFile_none dst h, moveFile_none dst (hs.trans h), hq]
  | some c => rw [get?_moveFile_some dst h, get?_moveFile_some dst (hs.trans h), hq]

def NamesInj (r : RollerCfg) : Prop := ∀ i j, r.nameOf i = r.nameOf j → i = j

def FileApart (r : RollerCfg) (file : Path) : Prop := ∀ i, r.nameOf i ≠ file

theorem slot_shift_src {r : RollerCfg} (hinj : NamesInj r) (a : Nat) (d : Disk) :
    slot r (moveFile (r.nameOf a) (r.nameOf (a + 1)) d) a = none := by
  unfold slot
  cases h : d.get? (r.nameOf a) with
  | none => rw [moveFile_none _ h, h]
  | some c =>
    rw [get?_moveFile_some _ h, if_neg (fun e => Nat.ne_of_lt (Nat.lt_succ_self a) (hinj _ _ e)),
      if_pos rfl]

theorem slot_shift_dst (r : RollerCfg) (a : Nat) (d : Disk) :
    slot r (moveFile (r.nameOf a) (r.nameOf (a + 1)) d) (a + 1) =
      match slot r d a with
      | some c => some c
      | none => slot r d (a + 1) := by
  unfold slot
  cases h : d.get? (r.nameOf a) with
  | none => rw [moveFile_none _ h]
  | some c => rw [get?_moveFile_some _ h, if_pos rfl]

theorem slot_shift_other {r : RollerCfg} (hinj : NamesInj r) (a : Nat) (d : Disk) (i : Nat)
    (h1 : i ≠ a) (h2 : i ≠ a + 1) :
    slot r (moveFile (r.nameOf a) (r.nameOf (a + 1)) d) i = slot r d i :=
  get?_moveFile_other _ _ _ _ (fun e => h1 (hinj _ _ e)) (fun e => h2 (hinj _ _ e))

/-- the shifts `base+m-1 → base+m, …, base → base+1`, in this (oldest-first) order -/
def applyShifts (r : RollerCfg) : Nat → Disk → Disk
  | 0, d => d
  | m + 1, d => applyShifts r m (moveFile (r.nameOf (r.base + m)) (r.nameOf (r.base + m + 1)) d)

def shiftSteps (base m : Nat) : List Step :=
  (List.range m).reverse.map (fun j => Step.shift (base + j))

theorem shiftSteps_succ (base m : Nat) :
    shiftSteps base (m + 1) = Step.shift (base + m) :: shiftSteps base m := by
  simp [shiftSteps, List.range_succ]

theorem steps_eq (base count : Nat) : steps base count = shiftSteps base (count - 1) ++ [Step.final] := rfl

theorem get?_applyShifts_other (r : RollerCfg) (m : Nat) (d : Disk) (q : Path)
    (h : ∀ j, j ≤ m → q ≠ r.nameOf (r.base + j)) : (applyShifts r m d).get? q = d.get? q := by
  induction m generalizing d with
  | zero => rfl
  | succ m ih =>
    show (applyShifts r m _).get? q = _
    rw [ih _ (fun j hj => h j (Nat.le_succ_of_le hj))]
    exact get?_moveFile_other _ _ _ _ (h m (Nat.le_succ m)) (h (m + 1) (Nat.le_refl _))

theorem get?_applyShifts_congr (r : RollerCfg) (m : Nat) {d e : Disk} {q : Path}
    (hn : ∀ i, d.get? (r.nameOf i) = e.get? (r.nameOf i)) (hq : d.get? q = e.get? q) :
    (applyShifts r m d).get? q = (applyShifts r m e).get? q := by
  induction m generalizing d e with
  | zero => exact hq
  | succ m ih =>
    exact ih (fun i => get?_moveFile_congr _ _ (hn _) (hn i)) (get?_moveFile_congr _ _ (hn _) hq)

theorem slot_applyShifts_other {r : RollerCfg} (hinj : NamesInj r) (m : Nat) (d : Disk) (i : Nat)
    (h : i < r.base ∨ r.base + m < i) : slot r (applyShifts r m d) i = slot r d i := by
  apply get?_applyShifts_other
  intro j hj e
  cases hinj _ _ e
  exact h.elim (Nat.not_lt.2 (Nat.le_add_right _ _)) (Nat.not_lt.2 (Nat.add_le_add_left hj _))

/-- the window after the shift phase, slot by slot: every archive moves up by one; the top slot
of the phase (`base+m`) keeps its old content only when the slot below it was empty -/
theorem slot_applyShifts {r : RollerCfg} (hinj : NamesInj r) (m : Nat) (d : Disk) :
    (1 ≤ m → slot r (applyShifts r m d) r.base = none) ∧
    (∀ j, 1 ≤ j → j ≤ m → slot r (applyShifts r m d) (r.base + j) =
      match slot r d (r.base + j - 1) with
      | some y => some y
      | none => if j = m then slot r d (r.base + m) else none) := by
  induction m generalizing d with
  | zero =>
    exact ⟨fun h => absurd h (Nat.not_succ_le_zero 0),
      fun j h1 h2 => absurd (Nat.le_trans h1 h2) (Nat.not_succ_le_zero 0)⟩
  | succ m ih =>
    -- the top shift `base+m → base+m+1` runs first, on `d`; the other `m` shifts run on its result
    obtain ⟨ih0, ihj⟩ := ih (moveFile (r.nameOf (r.base + m)) (r.nameOf (r.base + m + 1)) d)
    refine ⟨fun _ => ?_, fun j h1 h2 => ?_⟩
    · cases m with
      | zero => exact slot_shift_src hinj r.base d
      | succ m => exact ih0 (Nat.succ_le_succ (Nat.zero_le m))
    · show slot r (applyShifts r m (moveFile _ _ d)) (r.base + j) = _
      rcases Nat.lt_or_ge j (m + 1) with hlt | hge
      · -- both slots lie below the top shift, except that for `j = m` slot `base+m` is its source
        have hbelow : r.base + j - 1 < r.base + m :=
          Nat.lt_of_lt_of_le (Nat.sub_one_lt (Nat.ne_of_gt (Nat.lt_of_lt_of_le h1 (Nat.le_add_left j _))))
            (Nat.add_le_add_left (Nat.le_of_lt_succ hlt) _)
        rw [ihj j h1 (Nat.le_of_lt_succ hlt), if_neg (Nat.ne_of_lt hlt),
          slot_shift_other hinj _ d _ (Nat.ne_of_lt hbelow) (Nat.ne_of_lt (Nat.lt_succ_of_lt hbelow))]
        cases slot r d (r.base + j - 1) with
        | some y => rfl
        | none =>
          show (if j = m then _ else none) = none
          by_cases hjm : j = m
          · rw [if_pos hjm]; exact slot_shift_src hinj _ d
          · rw [if_neg hjm]
      · -- the destination of the top shift, untouched afterwards
        cases Nat.le_antisymm h2 hge
        rw [slot_applyShifts_other hinj m _ (r.base + (m + 1)) (Or.inr (Nat.lt_succ_self _)), if_pos rfl]
        exact slot_shift_dst r (r.base + m) d

theorem runSteps_cons_ok (r : RollerCfg) (file : Path) (fault : Nat → Bool) (k : Nat) (s : Step)
    (rest : List Step) (d d' : Disk) (hf : fault k = false) (hst : applyStep r file s d = .ok d') :
    runSteps r file fault k (s :: rest) d = runSteps r file fault (k + 1) rest d' := by
  rw [runSteps]
  simp only [hf, Bool.false_eq_true, if_false, hst]

theorem runSteps_nofault_index (r : RollerCfg) (file : Path) (ss : List Step) (k k' : Nat) (d : Disk) :
    runSteps r file (fun _ => false) k ss d = runSteps r file (fun _ => false) k' ss d := by
  induction ss generalizing k k' d with
  | nil => rfl
  | cons s rest ih =>
    cases hst : applyStep r file s d with
    | error e => simp only [runSteps, Bool.false_eq_true, if_false, hst]
    | ok d' => rw [runSteps_cons_ok _ _ _ _ _ _ _ _ rfl hst, runSteps_cons_ok _ _ _ _ _ _ _ _ rfl hst,
        ih (k + 1) (k' + 1)]

/-- shift steps that meet no fault are `applyShifts` (from any base `b`: a step only uses the
names) -/
theorem runSteps_shifts (r : RollerCfg) (file : Path) (fault : Nat → Bool) (b m k : Nat)
    (rest : List Step) (d : Disk) (hf : ∀ i, k ≤ i → i < k + m → fault i = false) :
    runSteps r file fault k (shiftSteps b m ++ rest) d =
      runSteps r file fault (k + m) rest (applyShifts { r with base := b } m d) := by
  induction m generalizing k d with
  | zero => rfl
  | succ m ih =>
    have hk : fault k = false := hf k (Nat.le_refl k) (Nat.lt_add_of_pos_right (Nat.succ_pos m))
    have hf' : ∀ i, k + 1 ≤ i → i < k + 1 + m → fault i = false := fun i h1 h2 =>
      hf i (Nat.le_of_succ_le h1) (Nat.add_right_comm k 1 m ▸ h2)
    rw [shiftSteps_succ, List.cons_append, runSteps_cons_ok _ _ _ _ _ _ _ _ hk rfl, ih (k + 1) _ hf',
      Nat.add_right_comm]
    rfl

/-- shift steps under any fault oracle: a fault stops them with the lowest `a` shifts not run, or
all of them run and the rest of the steps follows -/
theorem runSteps_shifts_stop (r : RollerCfg) (file : Path) (fault : Nat → Bool) (b m k : Nat)
    (rest : List Step) (d : Disk) :
    (∃ a n e, m = n + a ∧ runSteps r file fault k (shiftSteps b m ++ rest) d =
        (.error e, applyShifts { r with base := b + a } n d)) ∨
    runSteps r file fault k (shiftSteps b m ++ rest) d =
      runSteps r file fault (k + m) rest (applyShifts { r with base := b } m d) := by
  induction m generalizing k d with
  | zero => exact Or.inr rfl
  | succ m ih =>
    rw [shiftSteps_succ, List.cons_append]
    cases hk : fault k with
    | true =>
      refine Or.inl ⟨m + 1, 0, .injected k, (Nat.zero_add _).symm, ?_⟩
      rw [runSteps, hk, if_pos rfl]
      rfl
    | false =>
      rw [runSteps_cons_ok _ _ _ _ _ _ _ _ hk rfl]
      rcases ih (k + 1) (moveFile (r.nameOf (b + m)) (r.nameOf (b + m + 1)) d) with ⟨a, n, e, hm, h⟩ | h
      · subst hm
        refine Or.inl ⟨a, n + 1, e, (Nat.add_right_comm n 1 a).symm, ?_⟩
        rw [h, Nat.add_comm n a, ← Nat.add_assoc]
        rfl
      · refine Or.inr ?_
        rw [h, Nat.add_right_comm]
        rfl

theorem runSteps_shifts_nofault (r : RollerCfg) (file : Path) (m : Nat) (rest : List Step) (d : Disk) :
    runSteps r file (fun _ => false) 0 (shiftSteps r.base m ++ rest) d =
      runSteps r file (fun _ => false) 0 rest (applyShifts r m d) :=
  (runSteps_shifts r file _ r.base m 0 rest d (fun _ _ _ => rfl)).trans
    (runSteps_nofault_index _ _ _ _ _ _)

theorem finalStep_codec {comp : Compression} (h : comp ≠ .none) (codec : Bytes → Bytes)
    (file dst : Path) (d : Disk) :
    finalStep comp codec file dst d =
      match d.get? file with
      | none => .error .notFound
      | some c => .ok ((d.set dst (codec c)).erase file) := by
  cases comp with
  | none => exact absurd rfl h
  | gzip => rfl
  | zstd => rfl

theorem enc_plain {r : RollerCfg} (h : r.comp = .none) (x : Bytes) : r.enc x = x := by
  unfold RollerCfg.enc
  rw [h]

theorem enc_codec {r : RollerCfg} (h : r.comp ≠ .none) (x : Bytes) : r.enc x = r.codec x := by
  unfold RollerCfg.enc
  cases hc : r.comp with
  | none => exact absurd hc h
  | gzip => rfl
  | zstd => rfl

theorem finalStep_ok (r : RollerCfg) (file dst : Path) (d : Disk)
    (x : Bytes) (hx : d.get? file = some x) (hne : dst ≠ file) :
    ∃ d', finalStep r.comp r.codec file dst d = .ok d' ∧
      ∀ q, d'.get? q = if q = dst then some (r.enc x) else if q = file then none else d.get? q := by
  by_cases hcomp : r.comp = .none
  · refine ⟨moveFile file dst d, by rw [hcomp]; rfl, fun q => ?_⟩
    rw [get?_moveFile_some dst hx, enc_plain hcomp]
  · refine ⟨(d.set dst (r.codec x)).erase file, by rw [finalStep_codec hcomp, hx], fun q => ?_⟩
    rw [Disk.get?_erase, Disk.get?_set, enc_codec hcomp]
    by_cases h1 : q = dst
    · rw [if_pos h1, if_pos h1, if_neg (h1 ▸ hne)]
    · rw [if_neg h1, if_neg h1]

theorem get?_finalStep_other (comp : Compression) (codec : Bytes → Bytes) (file dst : Path)
    (d d' : Disk) (q : Path) (h : finalStep comp codec file dst d = .ok d')
    (h1 : q ≠ file) (h2 : q ≠ dst) : d'.get? q = d.get? q := by
  by_cases hcomp : comp = .none
  · subst hcomp
    cases h
    exact get?_moveFile_other _ _ _ _ h1 h2
  · rw [finalStep_codec hcomp] at h
    cases hx : d.get? file with
    | none => rw [hx] at h; cases h
    | some x =>
      rw [hx] at h
      cases h
      rw [Disk.get?_erase_ne _ h1, Disk.get?_set_ne _ _ h2]

theorem finalStep_gone (comp : Compression) (codec : Bytes → Bytes) (file dst : Path) (d d' : Disk)
    (hne : dst ≠ file) (h : finalStep comp codec file dst d = .ok d') : d'.get? file = none := by
  by_cases hcomp : comp = .none
  · subst hcomp
    cases h
    cases hx : d.get? file with
    | none => rw [moveFile_none dst hx, hx]
    | some x => rw [get?_moveFile_some dst hx, if_neg hne.symm, if_pos rfl]
  · rw [finalStep_codec hcomp] at h
    cases hx : d.get? file with
    | none => rw [hx] at h; cases h
    | some x =>
      rw [hx] at h
      cases h
      exact Disk.get?_erase_same _ _

/-- `remove_file`: it fails, leaving the disk as it is, on the injected fault or on a missing file;
otherwise the file is gone -/
theorem deleteRoll_cases (file : Path) (fault : Nat → Bool) (d : Disk) :
    (∃ e, deleteRoll file fault d = (.error e, d) ∧ (fault 0 = true ∨ d.get? file = none)) ∨
    (fault 0 = false ∧ (∃ c, d.get? file = some c) ∧
      deleteRoll file fault d = (.ok (d.erase file), d.erase file)) := by
  unfold deleteRoll
  cases hf : fault 0 with
  | true => exact Or.inl ⟨_, rfl, Or.inl rfl⟩
  | false =>
    cases hg : d.get? file with
    | none => exact Or.inl ⟨_, rfl, Or.inr rfl⟩
    | some c => exact Or.inr ⟨rfl, ⟨c, rfl⟩, rfl⟩

/-- without a window the fixed-window roller is the delete roller -/
theorem fixedWindowRoll_eq_delete (r : RollerCfg) (file : Path) (fault : Nat → Bool) (d : Disk)
    (hc : r.count = 0) : fixedWindowRoll r file fault d = deleteRoll file fault d := by
  unfold fixedWindowRoll
  rw [if_pos hc]
  rfl

theorem fixedWindowRoll_ok (r : RollerCfg) (file : Path) (d : Disk) (x : Bytes)
    (hc : r.count ≠ 0) (hfa : FileApart r file) (hx : d.get? file = some x) :
    ∃ d', fixedWindowRoll r file (fun _ => false) d = (.ok d', d') ∧
      ∀ q, d'.get? q =
        if q = r.nameOf r.base then some (r.enc x)
        else if q = file then none else (applyShifts r (r.count - 1) d).get? q := by
  have hx2 : (applyShifts r (r.count - 1) d).get? file = some x := by
    rw [get?_applyShifts_other _ _ _ _ (fun j _ => (hfa _).symm)]; exact hx
  obtain ⟨d', hd', hq⟩ := finalStep_ok r file (r.nameOf r.base) _ x hx2 (hfa _)
  refine ⟨d', ?_, hq⟩
  unfold fixedWindowRoll
  rw [if_neg hc, steps_eq, runSteps_shifts_nofault,
    runSteps_cons_ok r file _ 0 Step.final [] _ d' rfl hd']
  rfl

theorem fixedWindowRoll_file_gone (r : RollerCfg) (file : Path) (d : Disk) (x : Bytes)
    (hc : r.count ≠ 0) (hfa : FileApart r file) (hx : d.get? file = some x) :
    (fixedWindowRoll r file (fun _ => false) d).2.get? file = none := by
  obtain ⟨d', hroll, hq⟩ := fixedWindowRoll_ok r file d x hc hfa hx
  rw [hroll, hq, if_neg (hfa r.base).symm, if_pos rfl]

theorem runSteps_frame (r : RollerCfg) (file : Path) (fault : Nat → Bool) (q : Path) (h1 : q ≠ file)
    (m : Nat) (k : Nat) (d : Disk) (h2 : ∀ j, j ≤ m → q ≠ r.nameOf (r.base + j)) :
    (runSteps r file fault k (shiftSteps r.base m ++ [Step.final]) d).2.get? q = d.get? q := by
  induction m generalizing k d with
  | zero =>
    show (runSteps r file fault k [Step.final] d).2.get? q = _
    rw [runSteps]
    cases fault k with
    | true => rfl
    | false =>
      show (match finalStep r.comp r.codec file (r.nameOf r.base) d with
        | .error e => (Except.error e, d) | .ok d' => (.ok d', d')).2.get? q = _
      cases hst : finalStep r.comp r.codec file (r.nameOf r.base) d with
      | error e => rfl
      | ok d' => exact get?_finalStep_other _ _ _ _ _ _ _ hst h1 (h2 0 (Nat.le_refl 0))
  | succ m ih =>
    rw [shiftSteps_succ, List.cons_append, runSteps]
    cases hf : fault k with
    | true => rfl
    | false =>
      show (runSteps r file fault (k + 1) _ (moveFile _ _ d)).2.get? q = _
      rw [ih _ _ (fun j hj => h2 j (Nat.le_succ_of_le hj))]
      exact get?_moveFile_other _ _ _ _ (h2 m (Nat.le_succ m)) (h2 (m + 1) (Nat.le_refl _))

theorem fixedWindowRoll_frame (r : RollerCfg) (file : Path) (fault : Nat → Bool) (d : Disk)
    (q : Path) (h1 : q ≠ file)
    (h2 : ∀ i, r.base ≤ i → i < r.base + r.count → q ≠ r.nameOf i) :
    (fixedWindowRoll r file fault d).2.get? q = d.get? q := by
  unfold fixedWindowRoll
  by_cases hc : r.count = 0
  · rw [if_pos hc]
    cases fault 0 with
    | true => rfl
    | false =>
      cases d.get? file with
      | none => rfl
      | some x => exact Disk.get?_erase_ne _ h1
  · rw [if_neg hc]
    exact runSteps_frame r file fault q h1 _ 0 d
      (fun j hj => h2 _ (Nat.le_add_right _ _)
        (Nat.add_lt_add_left (Nat.lt_of_le_of_lt hj (Nat.sub_one_lt hc)) _))

theorem rollU32_guarded {r : RollerCfg} {file : Path} {fault : Nat → Bool} {d : Disk}
    (hg : r.base + r.count ≤ U32_MOD) :
    rollU32 r file fault d = liftRoll (fixedWindowRoll r file fault d) :=
  if_neg (fun h => Nat.not_lt.2 hg h.2)

theorem rollU32_count_zero {r : RollerCfg} {file : Path} {fault : Nat → Bool} {d : Disk}
    (hc : r.count = 0) : rollU32 r file fault d = liftRoll (fixedWindowRoll r file fault d) :=
  if_neg (fun h => h.1 hc)

theorem liftRoll_snd (x : Except FsErr Disk × Disk) : (liftRoll x).2 = x.2 := by
  rcases x with ⟨res, d⟩
  cases res <;> rfl

theorem liftRoll_not_panic (x : Except FsErr Disk × Disk) : (liftRoll x).1.isPanic = false := by
  rcases x with ⟨res, d⟩
  cases res <;> rfl

theorem rollU32_disk {r : RollerCfg} {file : Path} {fault : Nat → Bool} {d : Disk}
    (hg : r.base + r.count ≤ U32_MOD) :
    (rollU32 r file fault d).2 = (fixedWindowRoll r file fault d).2 := by
  rw [rollU32_guarded hg, liftRoll_snd]

theorem rollU32_not_panic (r : RollerCfg) (file : Path) (fault : Nat → Bool) (d : Disk)
    (hg : r.base + r.count ≤ U32_MOD) : (rollU32 r file fault d).1.isPanic = false := by
  rw [rollU32_guarded hg, liftRoll_not_panic]

theorem missingResult_unchanged (r : RollerCfg) (d : Disk) :
    (r.missingResult d).2 = d ∧ (r.missingResult d).1.isPanic = false := by
  unfold RollerCfg.missingResult
  cases r.comp <;> exact ⟨rfl, rfl⟩

theorem rollProc_noprint (w : Bool) (r : RollerCfg) (file : Path) (fault : Nat → Bool) (d : Disk)
    (hp : r.printsOnError = false) :
    rollProc w r file fault d =
      if r.checksFileFirst && r.count != 0 && !d.has file then r.missingResult d
      else rollU32 r file fault d := by
  unfold rollProc
  rw [hp]
  rcases rollU32 r file fault d with ⟨res, d'⟩
  cases res <;> rfl

/-- a roller that keeps nothing and finds no file fails in `remove_file`; that is not an error
of a final move, so nothing is printed -/
theorem rollProc_missing_count_zero (w : Bool) (r : RollerCfg) (file : Path) (fault : Nat → Bool)
    (d : Disk) (hc : r.count = 0) (hx : d.get? file = none) :
    ∃ e, rollProc w r file fault d = (.err e, d) := by
  have hroll : ∃ e, rollU32 r file fault d = (.err e, d) := by
    rw [rollU32_count_zero hc]
    unfold fixedWindowRoll
    rw [if_pos hc, hx]
    cases fault 0 <;> exact ⟨_, rfl⟩
  obtain ⟨e, he⟩ := hroll
  refine ⟨e, ?_⟩
  have hfe : r.finalStepErr e = false := by cases e <;> simp [RollerCfg.finalStepErr, hc]
  unfold rollProc
  rw [he]
  simp [hfe, hc]

theorem rollU32_slots (r : RollerCfg) (file : Path) (d : Disk) (x : Bytes)
    (hg : r.base + r.count ≤ U32_MOD) (hc : r.count ≠ 0)
    (hinj : NamesInj r) (hfa : FileApart r file) (hx : d.get? file = some x) :
    ∃ d', rollU32 r file (fun _ => false) d = (.ok d', d') ∧ d'.get? file = none ∧
      ∀ i, slot r d' i =
        if i = r.base then some (r.enc x) else slot r (applyShifts r (r.count - 1) d) i := by
  obtain ⟨d', hroll, hq⟩ := fixedWindowRoll_ok r file d x hc hfa hx
  refine ⟨d', by rw [rollU32_guarded hg, hroll]; rfl,
    by rw [hq, if_neg (hfa r.base).symm, if_pos rfl], fun i => ?_⟩
  show d'.get? (r.nameOf i) = _
  rw [hq]
  by_cases hi : i = r.base
  · rw [if_pos (congrArg r.nameOf hi), if_pos hi]
  · rw [if_neg (fun e => hi (hinj _ _ e)), if_neg (hfa i), if_neg hi]
    rfl

/-- where no gap lies directly above an archive, "moved up by one" is simply the slot below -/
theorem movedUp_of_dense {a b : Option Bytes} (p : Prop) [Decidable p] :
    (p → a = none → b = none) →
    (match a with
      | some y => some y
      | none => if p then b else none) = a := by
  intro h
  cases a with
  | some y => rfl
  | none =>
    show (if p then b else none) = none
    by_cases hp : p
    · rw [if_pos hp, h hp rfl]
    · rw [if_neg hp]

/-- the window holds exactly the list `ws`, newest first, and nothing behind it -/
def WindowIs (r : RollerCfg) (d : Disk) (ws : List Bytes) : Prop :=
  ∀ j, j < r.count → slot r d (r.base + j) = ws[j]?

def rollMany (r : RollerCfg) (file : Path) : List Bytes → Disk → Disk
  | [], d => d
  | x :: xs, d => rollMany r file xs (rollU32 r file (fun _ => false) (d.set file x)).2

/-- the `n` newest slots hold the first `n` entries of `ws` (newest first); nothing is said about
the rest. `WindowIs` is the case `n = count`; `n = ws.length` speaks of the listed archives only. -/
def WindowOn (r : RollerCfg) (d : Disk) (n : Nat) (ws : List Bytes) : Prop :=
  ∀ j, j < n → j < r.count → slot r d (r.base + j) = ws[j]?

theorem WindowIs.on {r : RollerCfg} {d : Disk} {ws : List Bytes} (h : WindowIs r d ws) :
    WindowOn r d r.count ws := fun j _ hj => h j hj

theorem WindowOn.is_take {r : RollerCfg} {d : Disk} {n : Nat} {ws : List Bytes}
    (h : WindowOn r d n ws) (hn : r.count ≤ n) : WindowIs r d (ws.take r.count) := fun j hj => by
  rw [List.getElem?_take, if_pos hj]
  exact h j (Nat.lt_of_lt_of_le hj hn) hj

theorem slot_set_file {r : RollerCfg} {file : Path} (hfa : FileApart r file) (d : Disk) (x : Bytes)
    (i : Nat) : slot r (d.set file x) i = slot r d i :=
  Disk.get?_set_ne _ _ (hfa i)

/-- write `x` and roll: the described part of the window grows by the new archive — provided it
ends at the first gap (all of `ws` is there, `n ≤ ws.length`) or is the whole window -/
theorem WindowOn.roll {r : RollerCfg} {file : Path} {d : Disk} {n : Nat} {ws : List Bytes}
    (hw : WindowOn r d n ws) (hn : n ≤ ws.length ∨ r.count ≤ n) (x : Bytes)
    (hg : r.base + r.count ≤ U32_MOD) (hc : r.count ≠ 0) (hinj : NamesInj r) (hfa : FileApart r file) :
    WindowOn r (rollU32 r file (fun _ => false) (d.set file x)).2 (n + 1) (r.enc x :: ws) := by
  obtain ⟨d', h0, _, hs⟩ := rollU32_slots r file _ x hg hc hinj hfa Disk.get?_set_same
  rw [h0]
  intro j hj hjc
  rw [hs]
  cases j with
  | zero => exact if_pos rfl
  | succ j =>
    have hjn : j < n := Nat.lt_of_succ_lt_succ hj
    have hwj := hw j hjn (Nat.lt_of_succ_lt hjc)
    rw [if_neg (Nat.ne_of_gt (Nat.lt_add_of_pos_right (Nat.succ_pos j))),
      (slot_applyShifts hinj (r.count - 1) _).2 (j + 1) (Nat.succ_le_succ (Nat.zero_le j))
        (Nat.le_sub_one_of_lt hjc),
      Nat.add_succ_sub_one, slot_set_file hfa, slot_set_file hfa, List.getElem?_cons_succ, ← hwj]
    -- a gap at `j` is the end of the list: that is beyond `n`, or slot `j+1` is described as empty
    refine movedUp_of_dense (j + 1 = r.count - 1) (fun hlast hnone => ?_)
    rw [hwj, List.getElem?_eq_none_iff] at hnone
    rcases hn with hn | hn
    · exact absurd (Nat.lt_of_lt_of_le hjn hn) (Nat.not_lt.2 hnone)
    · rw [← hlast, hw (j + 1) (Nat.lt_of_lt_of_le hjc hn) hjc, List.getElem?_eq_none_iff]
      exact Nat.le_succ_of_le hnone

theorem WindowOn.rollMany {r : RollerCfg} {file : Path} (hg : r.base + r.count ≤ U32_MOD)
    (hc : r.count ≠ 0) (hinj : NamesInj r) (hfa : FileApart r file) (xs : List Bytes) {d : Disk}
    {n : Nat} {ws : List Bytes} (hw : WindowOn r d n ws) (hn : n ≤ ws.length ∨ r.count ≤ n) :
    WindowOn r (rollMany r file xs d) (n + xs.length) (xs.reverse.map r.enc ++ ws) := by
  induction xs generalizing d n ws with
  | nil => exact hw
  | cons x xs ih =>
    rw [List.reverse_cons, List.map_append, List.append_assoc, List.length_cons, ← Nat.succ_add_eq_add_succ]
    exact ih (hw.roll hn x hg hc hinj hfa) (hn.imp Nat.succ_le_succ Nat.le_succ_of_le)

theorem rollMany_append (r : RollerCfg) (file : Path) (xs ys : List Bytes) (d : Disk) :
    rollMany r file (xs ++ ys) d = rollMany r file ys (rollMany r file xs d) := by
  induction xs generalizing d with
  | nil => rfl
  | cons x xs ih => exact ih _

theorem rollMany_file_gone (r : RollerCfg) (file : Path) (xs : List Bytes) (x : Bytes)
    (hg : r.base + r.count ≤ U32_MOD) (hc : r.count ≠ 0) (hfa : FileApart r file) (d : Disk) :
    (rollMany r file (xs ++ [x]) d).get? file = none := by
  rw [rollMany_append]
  show (rollU32 r file (fun _ => false) ((rollMany r file xs d).set file x)).2.get? file = none
  rw [rollU32_disk hg]
  exact fixedWindowRoll_file_gone r file _ x hc hfa (Disk.get?_set_same)

theorem rollMany_frame (r : RollerCfg) (file : Path) (xs : List Bytes)
    (hg : r.base + r.count ≤ U32_MOD) (q : Path) (h1 : q ≠ file)
    (h2 : ∀ i, r.base ≤ i → i < r.base + r.count → q ≠ r.nameOf i) (d : Disk) :
    (rollMany r file xs d).get? q = d.get? q := by
  induction xs generalizing d with
  | nil => rfl
  | cons x xs ih =>
    show (rollMany r file xs _).get? q = _
    rw [ih, rollU32_disk hg, fixedWindowRoll_frame r file _ _ q h1 h2,
      Disk.get?_set_ne _ _ h1]

end Log4rs.Roller
