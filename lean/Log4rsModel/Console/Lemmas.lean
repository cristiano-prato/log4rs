import Log4rsModel.Console.Spec
/-
Lemmas for C18, patterns without width parameters: the colour decision in the statement's
vocabulary; `set_style` for every buffer length; the SGR grammar with its strict parser and
scanner; the model of `FormattedChunk::Highlight` against the token-level specification, for
every nesting; several appenders in one process.
-/
namespace Log4rs.Console
open Log4rs Log4rs.Console.Spec

theorem render_append (a b : List Tok) : render (a ++ b) = render a ++ render b := by
  induction a with
  | nil => rfl
  | cons t ts ih => cases t <;> simp [render, ih]

theorem render_bytes (bs : Bytes) : render (bs.map Tok.byte) = bs := by
  induction bs with
  | nil => rfl
  | cons b bs ih => simp [render, ih]

theorem literalBytes_append (a b : List Tok) :
    literalBytes (a ++ b) = literalBytes a ++ literalBytes b := by
  induction a with
  | nil => rfl
  | cons t ts ih => cases t <;> simp [literalBytes, ih]

theorem literalBytes_bytes (bs : Bytes) : literalBytes (bs.map Tok.byte) = bs := by
  induction bs with
  | nil => rfl
  | cons b bs ih => simp [literalBytes, ih]

theorem sgrToks_append (a b : List Tok) : sgrToks (a ++ b) = sgrToks a ++ sgrToks b := by
  induction a with
  | nil => rfl
  | cons t ts ih => cases t <;> simp [sgrToks, ih]

theorem sgrToks_bytes (bs : Bytes) : sgrToks (bs.map Tok.byte) = [] := by
  induction bs with
  | nil => rfl
  | cons b bs ih => simpa [sgrToks] using ih

theorem mem_literalBytes (toks : List Tok) (b : Nat) (h : Tok.byte b ∈ toks) :
    b ∈ literalBytes toks := by
  induction toks with
  | nil => cases h
  | cons t ts ih =>
    cases t <;> simp only [literalBytes, List.mem_cons, Tok.byte.injEq, reduceCtorEq, false_or] at h ⊢
    · exact h.imp id ih
    · exact ih h

theorem mem_sgrToks (toks : List Tok) (s : Style) (h : Tok.sgr s ∈ toks) : s ∈ sgrToks toks := by
  induction toks with
  | nil => cases h
  | cons t ts ih =>
    cases t <;> simp only [sgrToks, List.mem_cons, Tok.sgr.injEq, reduceCtorEq, false_or] at h ⊢
    · exact ih h
    · exact h.imp id ih

theorem EnvVal.test_false (v : EnvVal) : v.test false = isSet v := by cases v <;> rfl

theorem EnvVal.test_true (v : EnvVal) : v.test true = !(v == .zero) := by cases v <;> rfl

theorem EnvVal.test_nonUnicode (v : EnvVal) (d : Bool) :
    (if v = .nonUnicode then EnvVal.unset else v).test d = v.test d := by
  cases v <;> rfl

theorem colorMode_eq (e : Env) :
    colorMode e =
      if isSet e.noColor then .never
      else if isSet e.clicolorForce then .always
      else if e.clicolor == .zero then .never else .auto := by
  simp only [colorMode, EnvVal.test_false, EnvVal.test_true]
  cases e.clicolor == EnvVal.zero <;> rfl

/-- a colour writer is obtained exactly when the statement's cascade enables colour -/
theorem isTty_eq_colourEnabled (e : Env) (tty : Bool) :
    (writerKind (colorMode e) tty).isTty = colourEnabled e tty := by
  rw [colorMode_eq, colourEnabled]
  cases isSet e.noColor <;> cases isSet e.clicolorForce <;> cases e.clicolor == EnvVal.zero <;>
    cases tty <;> rfl

/-- `do_write` does not look at the writer kind -/
theorem doWrite_eq (kind : WriterKind) (tty ttyOnly : Bool) :
    doWrite kind tty ttyOnly = shouldWrite tty ttyOnly := rfl

theorem mem_allEnvVals (v : EnvVal) : v ∈ allEnvVals ↔ v ≠ .nonUnicode := by
  cases v <;> decide

theorem mem_allEnvValsExt (v : EnvVal) : v ∈ allEnvValsExt := by
  cases v <;> decide

theorem mem_allEnvs_iff (e : Env) : e ∈ allEnvs ↔ e.inQuantifier = true := by
  rcases e with ⟨a, b, c⟩
  simp only [allEnvs, List.mem_flatMap, List.mem_map, Env.mk.injEq, Env.inQuantifier,
    Bool.and_eq_true, bne_iff_ne, ne_eq, ← mem_allEnvVals]
  constructor
  · rintro ⟨a', ha, b', hb, c', hc, rfl, rfl, rfl⟩
    exact ⟨⟨ha, hb⟩, hc⟩
  · rintro ⟨⟨ha, hb⟩, hc⟩
    exact ⟨a, ha, b, hb, c, hc, rfl, rfl, rfl⟩

theorem mem_allEnvsExt (e : Env) : e ∈ allEnvsExt := by
  rcases e with ⟨a, b, c⟩
  simp [allEnvsExt, mem_allEnvValsExt]

theorem mem_allColors_iff (o : Option Nat) : o ∈ allColors ↔ ∀ c, o = some c → c < 8 := by
  have : allColors = none :: (List.range 8).map some := rfl
  rw [this]
  cases o <;> simp

theorem mem_allStyles_iff (s : Style) :
    s ∈ allStyles ↔ ((∀ c, s.text = some c → c < 8) ∧ (∀ c, s.background = some c → c < 8)) := by
  have hi : ∀ o : Option Bool, o ∈ allIntense := by
    intro o
    rcases o with _ | _ | _ <;> decide
  rcases s with ⟨t, b, i⟩
  simp [allStyles, ← mem_allColors_iff, hi]

theorem allStyles_length : allStyles.length = 243 := by decide +kernel

def colorSeq (tag : Nat) : Option Nat → Bytes
  | some c => [59, tag, 48 + c] | none => []

def intenseSeq : Option Bool → Bytes
  | some true => [59, 49] | some false => [59, 50, 50] | none => []

theorem sgr_eq (s : Style) :
    sgr s = 27 :: (([91, 48] ++ colorSeq 51 s.text ++ colorSeq 52 s.background ++
      intenseSeq s.intense) ++ [109]) := by
  rcases s with ⟨_ | t, _ | b, _ | _ | _⟩ <;> rfl

theorem sgr_length_eq (s : Style) :
    (sgr s).length = 4 + (colorSeq 51 s.text).length + (colorSeq 52 s.background).length +
      (intenseSeq s.intense).length := by
  rw [sgr_eq]
  simp only [List.length_cons, List.length_append, List.length_nil]
  omega

/-- the longest sequence, `ESC [ 0 ; 3 c ; 4 c ; 2 2 m`, has 13 bytes, and it is the only shape
with more than 12 -/
theorem sgr_length (s : Style) :
    (sgr s).length ≤ 13 ∧ ((sgr s).length ≤ 12 ↔ overflowClass s = false) := by
  rw [sgr_length_eq]
  rcases s with ⟨_ | t, _ | b, _ | _ | _⟩ <;> simp [colorSeq, intenseSeq, overflowClass]

theorem obind_ok {ε α β} (a : α) (f : α → Outcome ε β) : obind (.ok a) f = f a := rfl

theorem obind_assoc {ε α β γ} (x : Outcome ε α) (f : α → Outcome ε β) (g : β → Outcome ε γ) :
    obind (obind x f) g = obind x fun a => obind (f a) g := by
  cases x <;> rfl

/-- `buf[i] = b₀; buf[i+1] = b₁; …` -/
def putAll (buf : Bytes) (i : Nat) : Bytes → Outcome Unit Bytes
  | [] => .ok buf
  | b :: bs => obind (put buf i b) fun buf => putAll buf (i + 1) bs

/-- stores behind the written part `w` of a zeroed buffer succeed while zeros are left -/
theorem putAll_fill (w bs : Bytes) (m : Nat) :
    putAll (w ++ List.replicate m 0) w.length bs =
      if bs.length ≤ m then .ok (w ++ bs ++ List.replicate (m - bs.length) 0)
      else .panic "index out of bounds" := by
  induction bs generalizing w m with
  | nil => simp [putAll]
  | cons b bs ih =>
    cases m with
    | zero => simp [putAll, put, obind]
    | succ m => simpa [putAll, put, obind, List.replicate_succ] using ih (w ++ [b]) m

/-- `set_style` stores the bytes of `sgr s` one after the other and hands on that many -/
theorem setStyleN_eq_putAll (n : Nat) (s : Style) :
    setStyleN n s =
      obind (putAll (List.replicate n 0) 0 (sgr s)) fun buf =>
        sliceToIncl buf ((sgr s).length - 1) := by
  rcases s with ⟨_ | t, _ | b, _ | _ | _⟩ <;>
    simp only [setStyleN, sgr, putAll, obind_assoc, obind_ok, List.cons_append, List.nil_append,
      List.length_cons, List.length_nil, colorByte, ESC, Nat.reduceAdd, Nat.reduceSub]

theorem setStyleN_eq (n : Nat) (s : Style) :
    setStyleN n s = if (sgr s).length ≤ n then .ok (sgr s) else .panic "index out of bounds" := by
  have hpos : 0 < (sgr s).length := by simp [sgr]
  have h := putAll_fill [] (sgr s) n
  simp only [List.nil_append, List.length_nil] at h
  rw [setStyleN_eq_putAll, h]
  split
  · have : (sgr s).length - 1 + 1 = (sgr s).length := by omega
    simp [obind, sliceToIncl, this]
    omega
  · rfl

theorem highlightStyle_cases {P : Style → Prop} (level : Nat) (st : Style)
    (h : highlightStyle level = some st)
    (error : P { text := some 1, intense := some true }) (warn : P { text := some 3 })
    (info : P { text := some 2 }) (trace : P { text := some 6 }) : P st := by
  unfold highlightStyle at h
  split at h <;> cases h <;> assumption

theorem highlightStyle_mem (level : Nat) (st : Style) (h : highlightStyle level = some st) :
    st ∈ allStyles := by
  rw [mem_allStyles_iff]
  apply highlightStyle_cases level st h <;> simp

theorem plain_mem : Style.plain ∈ allStyles := by
  simp [mem_allStyles_iff, Style.plain]

theorem highlightStyle_length (level : Nat) (st : Style) (h : highlightStyle level = some st) :
    (sgr st).length ≤ 9 := by
  apply highlightStyle_cases level st h <;> decide

theorem setStyleN_highlight (n : Nat) (hn : 9 ≤ n) (level : Nat) (st : Style)
    (h : highlightStyle level = some st) : setStyleN n st = .ok (sgr st) := by
  rw [setStyleN_eq, if_pos (Nat.le_trans (highlightStyle_length level st h) hn)]

theorem setStyleN_plain (n : Nat) (hn : 9 ≤ n) : setStyleN n Style.plain = .ok (sgr Style.plain) := by
  rw [setStyleN_eq, if_pos (Nat.le_trans (by decide) hn)]

theorem bufLen_ok : 9 ≤ bufLen := by decide

theorem takeColor_sound (tag : Nat) (bs : Bytes) :
    bs = colorSeq tag (takeColor tag bs).1 ++ (takeColor tag bs).2
    ∧ (∀ c, (takeColor tag bs).1 = some c → c < 8) := by
  unfold takeColor
  split
  · split
    · rename_i h
      obtain ⟨rfl, rfl, h1, h2⟩ := h
      simp [colorSeq]
      omega
    · simp [colorSeq]
  · simp [colorSeq]

theorem takeIntense_sound (bs : Bytes) :
    bs = intenseSeq (takeIntense bs).1 ++ (takeIntense bs).2 := by
  unfold takeIntense
  split
  · split
    · simp_all [intenseSeq]
    · split
      · split <;> simp_all [intenseSeq]
      · rfl
  · rfl

theorem parseSgr_sound (bs : Bytes) (s : Style) (h : parseSgr bs = some s) :
    bs = sgr s ∧ s ∈ allStyles := by
  rcases bs with _ | ⟨e, _ | ⟨l, _ | ⟨z, rest⟩⟩⟩ <;> simp [parseSgr] at h
  obtain ⟨⟨rfl, rfl, rfl⟩, hm, hs⟩ := h
  have h1 := takeColor_sound 51 rest
  have h2 := takeColor_sound 52 (takeColor 51 rest).2
  have h3 := takeIntense_sound (takeColor 52 (takeColor 51 rest).2).2
  subst hs
  refine ⟨?_, (mem_allStyles_iff _).mpr ⟨h1.2, h2.2⟩⟩
  rw [hm] at h3
  conv => lhs; rw [h1.1, h2.1, h3]
  simp [sgr_eq]

/-- [exhaustive: 243 styles] the one table of the grammar: the parser reads every canonical
sequence back as the style it was printed from -/
theorem parseSgr_table : ∀ s ∈ allStyles, parseSgr (sgr s) = some s := by decide +kernel

theorem scanFrom_cons (st : ScanState) (x : Nat) (xs : Bytes) :
    scanFrom st (x :: xs) =
      (scanStep st x).bind fun p => (scanFrom p.1 xs).map (p.2 ++ ·) := by
  rw [scanFrom]
  cases scanStep st x with
  | none => rfl
  | some p =>
    obtain ⟨st', ts⟩ := p
    dsimp only [Option.bind]
    cases scanFrom st' xs <;> rfl

theorem scan_esc_cons (bs : Bytes) : scanFrom none (27 :: bs) = scanFrom (some [27]) bs := by
  simp [scanFrom_cons, scanStep]

/-- inside a sequence the scanner collects at most 12 bytes other than ESC and `m`, hands the
whole to the parser at the closing `m`, and continues afresh -/
theorem scanFrom_open (body acc : Bytes) (s : Style) (tail : Bytes)
    (hb : ∀ b ∈ body, b ≠ 109 ∧ b ≠ 27) (hl : acc.length + body.length ≤ 12)
    (hp : parseSgr (acc.reverse ++ body ++ [109]) = some s) :
    scanFrom (some acc) (body ++ 109 :: tail) = (scanFrom none tail).map (Tok.sgr s :: ·) := by
  induction body generalizing acc with
  | nil =>
    simp only [List.append_nil] at hp
    simp [scanFrom_cons, scanStep, hp]
  | cons x xs ih =>
    have hx := hb x (List.mem_cons_self ..)
    have hlen : ¬ 12 ≤ acc.length := by simp only [List.length_cons] at hl; omega
    have := ih (x :: acc) (fun b h => hb b (List.mem_cons_of_mem _ h))
      (by simp only [List.length_cons] at hl ⊢; omega) (by simpa using hp)
    simp [scanFrom_cons, scanStep, hx.1, hx.2, hlen, this, Function.comp_def]

theorem colorSeq_range (tag : Nat) (htag : 48 ≤ tag ∧ tag < 60) (o : Option Nat)
    (ho : ∀ c, o = some c → c < 8) : ∀ b ∈ colorSeq tag o, 48 ≤ b ∧ b < 60 := by
  cases o with
  | none => simp [colorSeq]
  | some c =>
    have := ho c rfl
    simp only [colorSeq, List.mem_cons, List.not_mem_nil, or_false]
    rintro b (rfl | rfl | rfl) <;> omega

theorem intenseSeq_range (o : Option Bool) : ∀ b ∈ intenseSeq o, 48 ≤ b ∧ b < 60 := by
  rcases o with _ | _ | _ <;> simp [intenseSeq]

/-- each of the 243 canonical sequences scans as its own token -/
theorem scan_sgr_append (s : Style) (hs : s ∈ allStyles) (tail : Bytes) :
    scan (sgr s ++ tail) = (scan tail).map (Tok.sgr s :: ·) := by
  have hp := parseSgr_table s hs
  have hlen := (sgr_length s).1
  obtain ⟨ht, hb⟩ := (mem_allStyles_iff s).1 hs
  rw [sgr_eq] at hp hlen ⊢
  rw [scan, List.cons_append, scan_esc_cons, List.append_assoc]
  refine scanFrom_open _ [27] s tail ?_ ?_ hp
  · intro b hb'
    simp only [List.mem_append, List.mem_cons, List.not_mem_nil, or_false] at hb'
    rcases hb' with (((rfl | rfl) | h) | h) | h
    · decide
    · decide
    · have := colorSeq_range 51 (by decide) _ ht b h; omega
    · have := colorSeq_range 52 (by decide) _ hb b h; omega
    · have := intenseSeq_range _ b h; omega
  · simp only [List.length_cons, List.length_append, List.length_nil] at hlen ⊢
    omega

/-- the bytes of the sequence a scanner state holds open -/
def pending : ScanState → Bytes
  | none => []
  | some acc => acc.reverse

/-- one step: the tokens given out and what is still held are what was held and the new byte -/
theorem scanStep_sound (st st' : ScanState) (x : Nat) (ts : List Tok)
    (h : scanStep st x = some (st', ts)) :
    render ts ++ pending st' = pending st ++ [x] ∧
      (∀ s, Tok.sgr s ∈ ts → s ∈ allStyles) ∧ (∀ b, Tok.byte b ∈ ts → b ≠ 27) := by
  cases st with
  | none =>
    by_cases hx : x = 27 <;>
      simp only [scanStep, hx, if_true, if_false, Option.some.injEq, Prod.mk.injEq] at h <;>
      obtain ⟨rfl, rfl⟩ := h <;> simp [render, pending, hx]
  | some acc =>
    simp only [scanStep] at h
    split at h
    · -- the closing `m`: the parser accepts canonical sequences only
      split at h
      · rename_i s hp
        obtain ⟨hbytes, hmem⟩ := parseSgr_sound _ _ hp
        obtain ⟨rfl, rfl⟩ := by simpa using h
        simp [render, pending, ← hbytes, hmem]
      · cases h
    · split at h
      · cases h
      · obtain ⟨rfl, rfl⟩ := by simpa using h
        simp [render, pending]

theorem scanFrom_sound (bs : Bytes) :
    ∀ (st : ScanState) (toks : List Tok), scanFrom st bs = some toks →
      render toks = pending st ++ bs ∧
      (∀ s, Tok.sgr s ∈ toks → s ∈ allStyles) ∧ (∀ b, Tok.byte b ∈ toks → b ≠ 27) := by
  induction bs with
  | nil =>
    intro st toks h
    cases st with
    | none => simp [scanFrom] at h; subst h; simp [render, pending]
    | some acc => simp [scanFrom] at h
  | cons x xs ih =>
    intro st toks h
    simp only [scanFrom_cons, Option.bind_eq_some_iff, Option.map_eq_some_iff] at h
    obtain ⟨⟨st', ts⟩, hs, rest, hx, rfl⟩ := h
    obtain ⟨ih1, ih2, ih3⟩ := ih st' rest hx
    obtain ⟨h1, h2, h3⟩ := scanStep_sound st st' x ts hs
    refine ⟨?_, ?_, ?_⟩
    · rw [render_append, ih1, ← List.append_assoc, h1, List.append_assoc]
      rfl
    · exact fun s hm => (List.mem_append.1 hm).elim (h2 s) (ih2 s)
    · exact fun b hm => (List.mem_append.1 hm).elim (h3 b) (ih3 b)

theorem encodeChunksN_eq_spec (n : Nat) (hn : 9 ≤ n) (kind : WriterKind) (level : Nat)
    (cs : Chunks) : encodeChunksN n kind level cs = .ok (specEncode kind.isTty level cs) := by
  induction cs with
  | nil => rfl
  | text bs rest ih =>
    simp [encodeChunksN, ih, obind, specEncode, specToks, render_append, render_bytes]
  | highlight inner rest ih1 ih2 =>
    simp only [specEncode] at ih1 ih2
    cases h : highlightStyle level <;> cases kind <;>
      simp [encodeChunksN, ih1, ih2, obind, specEncode, specToks, h, writerSetStyleN,
        WriterKind.isTty, setStyleN_highlight n hn level, setStyleN_plain n hn, render_append,
        render]

/-- without a style to apply (no colour, or a level that has none) the tokens are the plain text -/
theorem specToks_plain (colour : Bool) (level : Nat)
    (h : (if colour then highlightStyle level else none) = none) (cs : Chunks) :
    specToks colour level cs = (plainText cs).map Tok.byte := by
  induction cs with
  | nil => rfl
  | text bs rest ih => simp [specToks, plainText, ih]
  | highlight inner rest ih1 ih2 => simp [specToks, plainText, ih1, ih2, h]

theorem literalBytes_specToks (colour : Bool) (level : Nat) (cs : Chunks) :
    literalBytes (specToks colour level cs) = plainText cs := by
  induction cs with
  | nil => rfl
  | text bs rest ih => simp [specToks, plainText, ih, literalBytes_append, literalBytes_bytes]
  | highlight inner rest ih1 ih2 =>
    simp only [specToks, plainText]
    split <;> simp [literalBytes_append, literalBytes, ih1, ih2]

theorem plainText_escFree (cs : Chunks) (h : escFree cs = true) : ∀ b ∈ plainText cs, b ≠ 27 := by
  induction cs with
  | nil => simp [plainText]
  | text bs rest ih =>
    simp only [escFree, Bool.and_eq_true, List.all_eq_true, bne_iff_ne] at h
    simp only [plainText, List.mem_append]
    exact fun b hb => hb.elim (h.1 b) (ih h.2 b)
  | highlight inner rest ih1 ih2 =>
    simp only [escFree, Bool.and_eq_true] at h
    simp only [plainText, List.mem_append]
    exact fun b hb => hb.elim (ih1 h.1 b) (ih2 h.2 b)

theorem specToks_bytes (colour : Bool) (level : Nat) (cs : Chunks) (h : escFree cs = true) :
    ∀ b, Tok.byte b ∈ specToks colour level cs → b ≠ 27 := by
  intro b hb
  have := mem_literalBytes _ b hb
  rw [literalBytes_specToks] at this
  exact plainText_escFree cs h b this

/-- the style tokens of the specification are the level's style and the reset -/
theorem specToks_sgrs (colour : Bool) (level : Nat) (cs : Chunks) :
    ∀ s, Tok.sgr s ∈ specToks colour level cs → s ∈ allStyles := by
  induction cs with
  | nil => intro s hs; cases hs
  | text bs rest ih => simpa [specToks] using ih
  | highlight inner rest ih1 ih2 =>
    intro s hs
    simp only [specToks] at hs
    split at hs <;>
      simp only [List.mem_append, List.mem_cons, Tok.sgr.injEq, List.not_mem_nil, or_false] at hs
    · rename_i st hst
      rcases hs with ((rfl | hs) | rfl) | hs
      · cases colour
        · cases hst
        · exact highlightStyle_mem level s hst
      · exact ih1 s hs
      · exact plain_mem
      · exact ih2 s hs
    · exact hs.elim (ih1 s) (ih2 s)

theorem builderOf_eq (it : PlanItem) : builderOf it = { target := it.target, ttyOnly := it.ttyOnly } := by
  rcases it with ⟨t, b, o⟩
  cases o <;> cases t <;> cases b <;> rfl

/-- the lazy cell is empty or holds what the environment `env` says -/
def Proc.Coherent (env : Env) (p : Proc) : Prop :=
  p.colorCell = none ∨ p.colorCell = some (colorMode env)

theorem derefColorMode_coherent (env : Env) (p : Proc) (h : p.Coherent env) :
    (p.derefColorMode env).1 = colorMode env ∧ (p.derefColorMode env).2.Coherent env := by
  unfold Proc.derefColorMode
  rcases h with h | h <;> rw [h]
  · exact ⟨rfl, Or.inr rfl⟩
  · exact ⟨rfl, Or.inr h⟩

/-- once the cell is filled it answers with its content, whatever the environment is now -/
theorem derefColorMode_filled (env : Env) (m : ColorMode) :
    (Proc.derefColorMode { colorCell := some m } env) = (m, { colorCell := some m }) := rfl

/-- what `build` yields for an item when the colour mode is `m` -/
def builtWithMode (u : Bool) (ttyOut ttyErr : Bool) (m : ColorMode) (it : PlanItem) : Built :=
  let tty := (Global.isatty { env := {}, ttyOut := ttyOut, ttyErr := ttyErr } it.target)
  { target := it.target
    kind := writerKind m tty
    doWrite := doWriteWith u (writerKind m tty) tty it.ttyOnly }

/-- what `build` yields for an item when the colour mode is read straight from the environment -/
def builtOf (u : Bool) (g : Global) (it : PlanItem) : Built :=
  builtWithMode u g.ttyOut g.ttyErr (colorMode g.env) it

theorem isatty_env_irrelevant (e e' : Env) (o r : Bool) (t : Target) :
    Global.isatty { env := e, ttyOut := o, ttyErr := r } t = Global.isatty { env := e', ttyOut := o, ttyErr := r } t := by
  cases t <;> rfl

/-- with a filled cell every later build uses the cell's mode — the environments of the steps are
not looked at -/
theorem buildAllEnvs_filled (u o r : Bool) (m : ColorMode) (steps : List (Env × PlanItem)) :
    (buildAllEnvs u o r { colorCell := some m } steps).1 = steps.map fun x => builtWithMode u o r m x.2 := by
  induction steps with
  | nil => rfl
  | cons x xs ih =>
    obtain ⟨env, it⟩ := x
    simp only [buildAllEnvs, buildWith, derefColorMode_filled, builderOf_eq, List.map_cons, ih]
    congr 1

theorem buildAllEnvs_first (u o r : Bool) (env0 : Env) (it0 : PlanItem) (steps : List (Env × PlanItem)) :
    (buildAllEnvs u o r {} ((env0, it0) :: steps)).1 =
      ((env0, it0) :: steps).map fun x => builtWithMode u o r (colorMode env0) x.2 := by
  simp only [buildAllEnvs, buildWith, Proc.derefColorMode, builderOf_eq, List.map_cons]
  rw [buildAllEnvs_filled]
  congr 1

theorem buildAllWith_eq (u : Bool) (g : Global) (items : List PlanItem) :
    (buildAllWith u g {} items).1 = items.map (builtOf u g) := by
  cases items with
  | nil => rfl
  | cons it its =>
    unfold buildAllWith
    rw [List.map_cons, buildAllEnvs_first]
    simp [builtOf, List.map_map, Function.comp_def]

theorem setupOf_targetIsatty (g : Global) (it : PlanItem) :
    (setupOf g it).targetIsatty = g.isatty it.target := by
  rcases it with ⟨t, b, o⟩
  cases t <;> rfl

theorem builtOf_kind (u : Bool) (g : Global) (it : PlanItem) :
    (builtOf u g it).kind = writerKind (colorMode g.env) (g.isatty it.target) := by
  rcases g with ⟨e, o, r⟩
  rcases it with ⟨t, b, c⟩
  cases t <;> rfl

theorem appendBuilt_eq (u : Bool) (g : Global) (it : PlanItem) (enc : Enc) (l : Nat) :
    appendBuilt (builtOf u g it) enc l = appendEnc u (setupOf g it) enc l := by
  rcases g with ⟨e, o, r⟩
  rcases it with ⟨t, b, c⟩
  cases t <;> rfl

theorem appendBuiltLevels_eq (u : Bool) (g : Global) (it : PlanItem) (enc : Enc) (levels : List Nat) :
    appendBuiltLevels (builtOf u g it) enc levels = appendAllEnc u (setupOf g it) enc levels := by
  induction levels with
  | nil => rfl
  | cons l ls ih =>
    simp only [appendBuiltLevels, appendAllEnc, ih, appendBuilt_eq]
    rfl

theorem appendAllBuilt_eq (u : Bool) (g : Global) (enc : Enc) (levels : List Nat)
    (items : List PlanItem) :
    appendAllBuilt enc levels (items.map (builtOf u g)) =
      seqStreams (items.map fun it => appendAllEnc u (setupOf g it) enc levels) := by
  induction items with
  | nil => rfl
  | cons it its ih =>
    simp only [List.map_cons, appendAllBuilt, seqStreams, ih, appendBuiltLevels_eq]

theorem Streams.on_append (t : Target) (a b : Bytes) :
    (Streams.on t a).append (Streams.on t b) = Streams.on t (a ++ b) := by
  cases t <;> simp [Streams.on, Streams.append]

theorem appendEnc_spec (s : Setup) (enc : Enc) (want : Want) (level : Nat)
    (henc : ∀ k l, enc k l = .ok (render (want k.isTty l))) :
    appendEnc true s enc level =
      .ok (if shouldWrite s.targetIsatty s.ttyOnly then
        Streams.on s.target (render (want (colourEnabled s.env s.targetIsatty) level)) else {}) := by
  simp only [appendEnc, doWriteWith, if_true, shouldWrite, henc, isTty_eq_colourEnabled, obind]
  split <;> simp_all

theorem appendAllEnc_spec (s : Setup) (enc : Enc) (want : Want) (levels : List Nat)
    (henc : ∀ k l, enc k l = .ok (render (want k.isTty l))) :
    appendAllEnc true s enc levels =
      .ok (if shouldWrite s.targetIsatty s.ttyOnly then
        Streams.on s.target (levels.flatMap fun l => render (want (colourEnabled s.env s.targetIsatty) l))
        else {}) := by
  induction levels with
  | nil => cases s.target <;> simp [appendAllEnc, Streams.on]
  | cons l ls ih =>
    simp only [appendAllEnc, appendEnc_spec _ _ want _ henc, ih, obind, List.flatMap_cons]
    split
    · rw [← Streams.on_append]; rfl
    · rfl

end Log4rs.Console
