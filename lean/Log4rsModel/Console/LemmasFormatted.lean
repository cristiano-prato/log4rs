import Log4rsModel.Console.Lemmas
import Log4rsModel.Console.SpecFormatted
import Log4rsModel.Properties.C10
/-
Helper lemmas for the formatted highlight theorems of C18. The one fact about the writer stack
that matters is C10's `C10_styles_preserved`: a width spec never drops, duplicates or reorders
`set_style` calls.
-/
namespace Log4rs.Console
open Log4rs Log4rs.Console.Spec
open Log4rs.Pattern (Op Out Params codeFmtOps truncOps ofText fills styles_append styles_ofText length_fills)

theorem styles_wrapHighlight (level : Nat) (o : Out) :
    Out.styles (wrapHighlight level o) =
      match highlightStyle level with
      | some st => st :: Out.styles o ++ [Style.plain]
      | none => Out.styles o := by
  unfold wrapHighlight
  cases highlightStyle level
  · rfl
  · exact Pattern.styles_bracket _ _ o

/-- the style calls that reach the sink are the pattern's style requests, whatever the parameters -/
theorem styles_opsOf (level : Nat) (f : FChunks) : Out.styles (opsOf level f) = specStyles level f := by
  induction f with
  | nil => rfl
  | text cs rest ih => simp [opsOf, specStyles, Pattern.styles_append, Pattern.styles_ofText, ih]
  | highlight p inner rest ih1 ih2 =>
    simp only [opsOf, specStyles, Pattern.styles_append, Pattern.C10_styles_preserved, styles_wrapHighlight, ih2]
    cases highlightStyle level <;> simp [ih1]
  | group p inner rest ih1 ih2 =>
    simp [opsOf, specStyles, Pattern.styles_append, Pattern.C10_styles_preserved, ih1, ih2]

theorem truncOps_sublist (M : Nat) (o : Out) : (truncOps M o).Sublist o := by
  induction o generalizing M with
  | nil => cases M <;> simp [truncOps]
  | cons x xs ih =>
    cases x with
    | style s => cases M <;> simp only [truncOps] <;> exact (ih _).cons_cons _
    | ch c =>
      cases M with
      | zero => simp only [truncOps]; exact (ih 0).cons _
      | succ M => simp only [truncOps]; exact (ih M).cons_cons _

theorem fills_all (c : Char) (n : Nat) : ∀ x ∈ fills c n, x = c := by
  intro x hx; simp [fills, List.mem_replicate] at hx; exact hx.2

theorem take_fills_all (c : Char) (n k : Nat) : ∀ x ∈ (fills c n).take k, x = c :=
  fun x hx => fills_all c n x (List.mem_of_mem_take hx)

/-- the writer stack: fill characters on one side of the inner operations, then the cut -/
theorem codeFmtOps_shape (p : Params) (o : Out) :
    ∃ a b : List Char, (∀ c ∈ a ++ b, c = p.fill) ∧
      codeFmtOps p o = match p.maxW with
        | none => ofText a ++ o ++ ofText b
        | some M => truncOps M (ofText a ++ o ++ ofText b) := by
  unfold codeFmtOps
  cases hm : p.minW with
  | none => exact ⟨[], [], by simp, by cases p.maxW <;> simp [ofText]⟩
  | some m =>
    cases hr : p.right
    · exact ⟨[], fills p.fill (m - (Out.text o).length), by simpa using fills_all _ _,
        by cases p.maxW <;> simp [ofText]⟩
    · exact ⟨fills p.fill (m - (Out.text o).length), [], by simpa using fills_all _ _,
        by cases p.maxW <;> simp [ofText]⟩

/-- a writer stack emits nothing but operations of the inner chunk and fill characters -/
theorem mem_codeFmtOps (p : Params) (o : Out) : ∀ x ∈ codeFmtOps p o, x ∈ o ∨ x = Op.ch p.fill := by
  intro x hx
  obtain ⟨a, b, hfill, heq⟩ := codeFmtOps_shape p o
  rw [heq] at hx
  -- a maximum width only removes operations
  have hx' : x ∈ ofText a ++ o ++ ofText b := by
    cases hM : p.maxW <;> simp only [hM] at hx
    · exact hx
    · exact (truncOps_sublist _ _).subset hx
  simp only [List.mem_append, ofText, List.mem_map] at hx'
  rcases hx' with (⟨c, hc, rfl⟩ | hx') | ⟨c, hc, rfl⟩
  · exact Or.inr (by rw [hfill c (List.mem_append_left _ hc)])
  · exact Or.inl hx'
  · exact Or.inr (by rw [hfill c (List.mem_append_right _ hc)])

theorem ch_mem_wrapHighlight (level : Nat) (o : Out) (c : Char)
    (h : Op.ch c ∈ wrapHighlight level o) : Op.ch c ∈ o := by
  unfold wrapHighlight at h
  split at h
  · simpa using h
  · exact h

theorem codeFmtOps_escFree (p : Params) (o : Out) (hp : p.fill ≠ ESCc)
    (ho : ∀ c, Op.ch c ∈ o → c ≠ ESCc) : ∀ c, Op.ch c ∈ codeFmtOps p o → c ≠ ESCc := by
  intro c hc
  rcases mem_codeFmtOps p o _ hc with h | h
  · exact ho c h
  · cases h; exact hp

/-- no ESC character reaches the sink when neither a text chunk nor a fill character is ESC -/
theorem opsOf_escFree (level : Nat) (f : FChunks) (h : fEscFree f = true) :
    ∀ c, Op.ch c ∈ opsOf level f → c ≠ ESCc := by
  induction f with
  | nil => simp [opsOf]
  | text cs rest ih =>
    simp only [fEscFree, Bool.and_eq_true, List.all_eq_true, bne_iff_ne] at h
    simp only [opsOf, List.mem_append, ofText, List.mem_map, Op.ch.injEq, exists_eq_right]
    exact fun c hc => hc.elim (h.1 c) (ih h.2 c)
  | highlight p inner rest ih1 ih2 =>
    simp only [fEscFree, Bool.and_eq_true, bne_iff_ne] at h
    simp only [opsOf, List.mem_append]
    exact fun c hc => hc.elim
      (codeFmtOps_escFree p _ h.1.1 (fun c hc => ih1 h.1.2 c (ch_mem_wrapHighlight level _ c hc)) c)
      (ih2 h.2 c)
  | group p inner rest ih1 ih2 =>
    simp only [fEscFree, Bool.and_eq_true, bne_iff_ne] at h
    simp only [opsOf, List.mem_append]
    exact fun c hc => hc.elim (codeFmtOps_escFree p _ h.1.1 (ih1 h.1.2) c) (ih2 h.2 c)

theorem sgrToks_toksOfOps (colour : Bool) (o : Out) :
    sgrToks (toksOfOps colour o) = if colour then Out.styles o else [] := by
  induction o with
  | nil => cases colour <;> rfl
  | cons x xs ih =>
    cases x with
    | ch c => simp only [toksOfOps, sgrToks_append, sgrToks_bytes, ih]; cases colour <;> simp [Out.styles]
    | style s =>
      cases colour <;> simp [toksOfOps, sgrToks, ih, Out.styles]

theorem sinkN_eq (n : Nat) (kind : WriterKind) (o : Out)
    (h : ∀ s ∈ Out.styles o, setStyleN n s = .ok (sgr s)) :
    sinkN n kind o = .ok (render (toksOfOps kind.isTty o)) := by
  induction o with
  | nil => rfl
  | cons x xs ih =>
    cases x with
    | ch c => simp [sinkN, ih h, obind, toksOfOps, render_append, render_bytes]
    | style s =>
      have hs := h s (List.mem_cons_self ..)
      have := ih fun s' hs' => h s' (List.mem_cons_of_mem _ hs')
      cases kind <;> simp [sinkN, this, obind, toksOfOps, render, writerSetStyleN, hs, WriterKind.isTty]

theorem utf8Char_ne_esc (c : Char) (hc : c ≠ ESCc) : ∀ b ∈ utf8Char c, b ≠ 27 := by
  have hn : c.toNat ≠ 27 := by
    intro h
    apply hc
    apply Char.ext
    apply UInt32.toNat_inj.mp
    show c.toNat = _
    rw [h]; rfl
  intro b hm h27
  rcases utf8Char_byte c b hm with h | h <;> omega

theorem utf8_text_ne_esc (o : Out) (h : ∀ c, Op.ch c ∈ o → c ≠ ESCc) :
    ∀ b ∈ utf8 (Out.text o), b ≠ 27 := by
  intro b hb
  simp only [utf8, List.mem_flatMap, Out.text, List.mem_filterMap] at hb
  obtain ⟨c, ⟨x, hx, hxc⟩, hbc⟩ := hb
  cases x with
  | ch c' => cases hxc; exact utf8Char_ne_esc c (h c hx) b hbc
  | style s => cases hxc

theorem literalBytes_toksOfOps (colour : Bool) (o : Out) :
    literalBytes (toksOfOps colour o) = utf8 (Out.text o) := by
  induction o with
  | nil => rfl
  | cons x xs ih =>
    cases x with
    | ch c =>
      simp only [toksOfOps, literalBytes_append, literalBytes_bytes, ih, Pattern.text_cons_ch, utf8_cons]
    | style s =>
      cases colour <;> simp [toksOfOps, literalBytes, ih, Pattern.text_cons_style]

theorem toksOfOps_bytes (colour : Bool) (o : Out) (h : ∀ c, Op.ch c ∈ o → c ≠ ESCc) :
    ∀ b, Tok.byte b ∈ toksOfOps colour o → b ≠ 27 := by
  intro b hb
  have := mem_literalBytes _ b hb
  rw [literalBytes_toksOfOps] at this
  exact utf8_text_ne_esc o h b this

theorem toksOfOps_sgrs (colour : Bool) (o : Out) :
    ∀ s, Tok.sgr s ∈ toksOfOps colour o → s ∈ Out.styles o := by
  intro s hs
  have := mem_sgrToks _ s hs
  rw [sgrToks_toksOfOps] at this
  split at this
  · exact this
  · cases this

theorem toksOfOps_false (o : Out) : toksOfOps false o = (utf8 (Out.text o)).map Tok.byte := by
  induction o with
  | nil => rfl
  | cons x xs ih =>
    cases x with
    | ch c => simp only [toksOfOps, ih, Pattern.text_cons_ch, utf8_cons, List.map_append]
    | style s => simp only [toksOfOps, ih, Pattern.text_cons_style]; rfl

theorem specStyles_mem (level : Nat) (f : FChunks) :
    ∀ s ∈ specStyles level f, highlightStyle level = some s ∨ s = Style.plain := by
  induction f with
  | nil => simp [specStyles]
  | text cs rest ih => simpa [specStyles] using ih
  | highlight p inner rest ih1 ih2 =>
    intro s hs
    simp only [specStyles] at hs
    split at hs <;> simp only [List.mem_append, List.mem_cons, List.not_mem_nil, or_false] at hs
    · rename_i st hst
      rcases hs with ((rfl | hs) | rfl) | hs
      · exact Or.inl hst
      · exact ih1 s hs
      · exact Or.inr rfl
      · exact ih2 s hs
    · exact hs.elim (ih1 s) (ih2 s)
  | group p inner rest ih1 ih2 =>
    intro s hs
    simp only [specStyles, List.mem_append] at hs
    exact hs.elim (ih1 s) (ih2 s)

theorem highlightStyle_ne_plain (level : Nat) (st : Style) (h : highlightStyle level = some st) :
    st ≠ Style.plain := by
  apply highlightStyle_cases level st h <;> decide

theorem wellNestedFrom_specStyles (level : Nat) (f : FChunks) :
    ∀ (k : Nat) (r : List Style),
      wellNestedFrom k (specStyles level f ++ r) = wellNestedFrom k r := by
  induction f with
  | nil => intro k r; rfl
  | text cs rest ih => intro k r; simpa [specStyles] using ih k r
  | highlight p inner rest ih1 ih2 =>
    intro k r
    simp only [specStyles, List.append_assoc]
    split
    · -- the opening style raises the depth, the reset behind the inner styles lowers it again
      rename_i st hl
      simp [wellNestedFrom, highlightStyle_ne_plain level st hl, ih1, ih2]
    · rw [ih1, ih2]
  | group p inner rest ih1 ih2 =>
    intro k r
    simp only [specStyles, List.append_assoc]
    rw [ih1, ih2]

/-- every opening style of a pattern is closed by its reset, whatever the parameters -/
theorem wellNested_specStyles (level : Nat) (f : FChunks) :
    wellNested (specStyles level f) = true := by
  simpa [wellNested, wellNestedFrom] using wellNestedFrom_specStyles level f 0 []

theorem toksOfOps_append (colour : Bool) (a b : Out) :
    toksOfOps colour (a ++ b) = toksOfOps colour a ++ toksOfOps colour b := by
  induction a with
  | nil => rfl
  | cons x xs ih => cases x <;> simp [toksOfOps, ih]

theorem toksOfOps_ofText (colour : Bool) (cs : List Char) :
    toksOfOps colour (ofText cs) = (utf8 cs).map Tok.byte := by
  induction cs with
  | nil => rfl
  | cons c cs ih =>
    simp only [ofText, List.map_cons, toksOfOps] at ih ⊢
    rw [ih, utf8_cons, List.map_append]

theorem codeFmtOps_unformatted (p : Params) (o : Out) (h1 : p.minW = none) (h2 : p.maxW = none) :
    codeFmtOps p o = o := by
  simp [codeFmtOps, h1, h2]

theorem specToks_append (colour : Bool) (level : Nat) (a b : Chunks) :
    specToks colour level (Chunks.append a b) = specToks colour level a ++ specToks colour level b := by
  induction a with
  | nil => rfl
  | text bs r ih => simp [Chunks.append, specToks, ih]
  | highlight i r _ ih =>
    simp only [Chunks.append, specToks, ih]
    split <;> simp

theorem toksOfOps_unformatted (colour : Bool) (level : Nat) (f : FChunks) (h : f.unformatted = true) :
    toksOfOps colour (opsOf level f) = specToks colour level f.erase := by
  induction f with
  | nil => rfl
  | text cs rest ih =>
    simp only [FChunks.unformatted] at h
    simp [opsOf, FChunks.erase, specToks, toksOfOps_append, toksOfOps_ofText, ih h]
  | highlight p inner rest ih1 ih2 =>
    simp only [FChunks.unformatted, Bool.and_eq_true, Option.isNone_iff_eq_none] at h
    obtain ⟨⟨⟨h1, h2⟩, h3⟩, h4⟩ := h
    simp only [opsOf, FChunks.erase, specToks, toksOfOps_append, codeFmtOps_unformatted p _ h1 h2,
      ih2 h4, wrapHighlight]
    cases highlightStyle level <;> cases colour <;> simp [toksOfOps, toksOfOps_append, ih1 h3]
  | group p inner rest ih1 ih2 =>
    simp only [FChunks.unformatted, Bool.and_eq_true, Option.isNone_iff_eq_none] at h
    obtain ⟨⟨⟨h1, h2⟩, h3⟩, h4⟩ := h
    simp [opsOf, FChunks.erase, specToks_append, toksOfOps_append, codeFmtOps_unformatted p _ h1 h2,
      ih1 h3, ih2 h4]

theorem cutOps_eq_truncOps (M : Nat) (o : Out) : cutOps M o = truncOps M o := by
  induction o generalizing M with
  | nil => cases M <;> rfl
  | cons x xs ih =>
    cases x with
    | style s => cases M <;> simp [cutOps, truncOps, ih]
    | ch c => cases M <;> simp [cutOps, truncOps, ih]

theorem truncOps_append (M : Nat) (a b : Out) :
    truncOps M (a ++ b) = truncOps M a ++ truncOps (M - (Out.text a).length) b := by
  induction a generalizing M with
  | nil => simp [truncOps, Out.text]
  | cons x xs ih =>
    cases x with
    | style s =>
      cases M <;> simp [truncOps, ih, Pattern.text_cons_style]
    | ch c =>
      cases M with
      | zero => simp [truncOps, ih, Pattern.text_cons_ch]
      | succ M =>
        simp only [List.cons_append, truncOps, ih, Pattern.text_cons_ch, List.length_cons]
        congr 3
        omega

theorem truncOps_of_le (M : Nat) (o : Out) (h : (Out.text o).length ≤ M) : truncOps M o = o := by
  induction o generalizing M with
  | nil => cases M <;> rfl
  | cons x xs ih =>
    cases x with
    | style s =>
      rw [Pattern.text_cons_style] at h
      cases M <;> simp [truncOps, ih _ h]
    | ch c =>
      rw [Pattern.text_cons_ch] at h
      cases M with
      | zero => simp at h
      | succ M => simp only [truncOps]; rw [ih M (by simpa using h)]

theorem truncOps_ofText (M : Nat) (cs : List Char) : truncOps M (ofText cs) = ofText (cs.take M) := by
  have := Pattern.truncOps_ofText_append M cs []
  simpa [truncOps] using this

theorem truncOps_zero_text (o : Out) : Out.text (truncOps 0 o) = [] := by
  rw [Pattern.text_truncOps]; rfl

/-- For parameters with `m ≤ M` the writer stack (pad the uncut stream, then let the first M
characters through) is the statement's law (cut, then pad the cut text), position by position,
style requests included. -/
theorem codeFmtOps_eq_fmtSpecOps (p : Params) (o : Out) (h : paramsOrdered p = true) :
    codeFmtOps p o = fmtSpecOps p o := by
  unfold codeFmtOps fmtSpecOps
  unfold paramsOrdered at h
  cases hm : p.minW with
  | none => cases hM : p.maxW <;> simp [cutOps_eq_truncOps]
  | some m =>
    cases hM : p.maxW with
    | none => simp
    | some M =>
      simp only [hm, hM, decide_eq_true_eq] at h
      simp only [cutOps_eq_truncOps, Pattern.text_truncOps, List.length_take]
      by_cases hn : (Out.text o).length ≤ M
      · -- everything fits: nothing is cut, the padding is complete
        have hmin : min M (Out.text o).length = (Out.text o).length := by omega
        cases hr : p.right
        · simp only [Bool.false_eq_true, if_false, hmin]
          rw [truncOps_append, truncOps_of_le M o hn, truncOps_ofText]
          congr 2
          rw [List.take_of_length_le]
          rw [Pattern.length_fills]; omega
        · simp only [if_true, hmin]
          rw [truncOps_of_le M o hn, truncOps_append, truncOps_ofText, Pattern.text_ofText, Pattern.length_fills,
            truncOps_of_le _ o (by omega)]
          congr 2
          rw [List.take_of_length_le]
          rw [Pattern.length_fills]; omega
      · -- the content alone exceeds M ≥ m: there is no padding on either side
        have hmin : min M (Out.text o).length = M := by omega
        have h1 : m - (Out.text o).length = 0 := by omega
        have h2 : m - M = 0 := by omega
        cases hr : p.right <;> simp [hmin, h1, h2, fills, ofText]

theorem wrapHighlight_eq_specWrap (level : Nat) (o : Out) : wrapHighlight level o = specWrap level o := by
  unfold wrapHighlight specWrap
  cases highlightStyle level <;> simp

theorem opsOf_eq_specOps (level : Nat) (f : FChunks) (h : fOrdered f = true) :
    opsOf level f = specOps level f := by
  induction f with
  | nil => rfl
  | text cs rest ih =>
    simp only [fOrdered] at h
    simp [opsOf, specOps, ih h]
  | highlight p inner rest ih1 ih2 =>
    simp only [fOrdered, Bool.and_eq_true] at h
    simp [opsOf, specOps, ih1 h.1.2, ih2 h.2, codeFmtOps_eq_fmtSpecOps p _ h.1.1, wrapHighlight_eq_specWrap]
  | group p inner rest ih1 ih2 =>
    simp only [fOrdered, Bool.and_eq_true] at h
    simp [opsOf, specOps, ih1 h.1.2, ih2 h.2, codeFmtOps_eq_fmtSpecOps p _ h.1.1]

/-- `truncOps` of a bracketed stream: fill characters, the opening style, a cut of the content,
the reset, fill characters -/
theorem truncOps_bracket (M : Nat) (pre post : List Char) (st : Style) (x : Out) :
    truncOps M (ofText pre ++ (Op.style st :: x ++ [Op.style Style.plain]) ++ ofText post) =
      ofText (pre.take M) ++ (Op.style st :: truncOps (M - pre.length) x ++
        Op.style Style.plain :: ofText (post.take (M - pre.length - (Out.text x).length))) := by
  rw [List.append_assoc, Pattern.truncOps_ofText_append]
  congr 1
  simp only [List.cons_append, truncOps]
  cases hM : M - pre.length <;>
    simp only [truncOps, truncOps_append, List.append_assoc, List.cons_append, List.nil_append,
      truncOps_ofText, Out.text] <;> rfl

end Log4rs.Console
