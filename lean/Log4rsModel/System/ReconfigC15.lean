import Log4rsModel.Properties.C15
import Log4rsModel.Properties.Compose
/-
Bridge between the sequential reconfiguration model of System/Reconfig.lean and the snapshot machine
of C15 (Reconfig/Swap.lean): the `SharedLogger` a configuration yields, seen as a C15 `Snapshot`
(targets are numbered by their position in the history's target list, appenders by their table
index), prescribes for every record exactly the deliveries `Tree.deliver` lists — so "a record runs
entirely under the snapshot stored last" (C15) is "a record is routed by the configuration installed
last" (`sysStep`).
-/
namespace Log4rs.System
open Log4rs Log4rs.Routing Log4rs.Routing.Tree

/-- the `SharedLogger` built from `cfg` as a C15 snapshot: ONE value holding the tree (`find` per
target) and the table (appender `i` of the table is appender id `i`) -/
def snapOfTree (tag : Nat) (cfg : Config) (targets : List Name) (tree : Node) : Reconfig.Snapshot :=
  { tag := tag
    table := List.range cfg.appenders.length
    level := fun k => (find tree (comps (targets.getD k []))).level
    apps := fun k => (find tree (comps (targets.getD k []))).apps }

def snapshotOf (tag : Nat) (cfg : Config) (targets : List Name) : Option Reconfig.Snapshot :=
  (Tree.build cfg).map (snapOfTree tag cfg targets)

theorem resolve_range (tag n : Nat) (level : Nat → Nat) (apps : Nat → List Nat) (is : List Nat)
    (h : ∀ i ∈ is, i < n) :
    Reconfig.resolve { tag := tag, table := List.range n, level := level, apps := apps } is =
      is.map fun i => (tag, i) := by
  induction is with
  | nil => rfl
  | cons i is ih =>
    have hi := h i (by simp)
    simp only [Reconfig.resolve, List.filterMap_cons, List.map_cons] at ih ⊢
    rw [ih (fun j hj => h j (by simp [hj]))]
    simp [hi]

theorem snapshotOf_spec (tag : Nat) (cfg : Config) (hv : Valid cfg) (targets : List Name) :
    ∃ s, snapshotOf tag cfg targets = some s ∧ s.WF ∧
      ∀ k lvl, deliver cfg (targets.getD k []) lvl =
        some ((Reconfig.prescribed s k lvl).map fun d => nameOf cfg.appenders d.2) := by
  obtain ⟨tree, hb, hrange⟩ := build_found_in_range cfg hv
  refine ⟨snapOfTree tag cfg targets tree, by rw [snapshotOf, hb]; rfl, fun t i hi => ?_, fun k lvl => ?_⟩
  · rw [snapOfTree, List.length_range]
    exact hrange _ i hi
  · have hlt := hrange (comps (targets.getD k []))
    simp only [deliver, hb, Option.bind_some, logNode, Reconfig.prescribed, Reconfig.Snapshot.route, admits,
      snapOfTree, ge_iff_le, decide_eq_true_eq]
    by_cases h : lvl ≤ (find tree (comps (targets.getD k []))).level
    · rw [if_pos h, if_pos h, namesOf_eq _ _ hlt, resolve_range _ _ _ _ _ hlt, List.map_map]
      rfl
    · rw [if_neg h, if_neg h]
      rfl
end Log4rs.System
