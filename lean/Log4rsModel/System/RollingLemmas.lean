import Log4rsModel.System.RollingSpec
import Log4rsModel.System.Lemmas
import Log4rsModel.Properties.C05
import Log4rsModel.Properties.C06
/-
Lemmas of stage 2 (C): `fileAppend` folded over a stream (what `sysRun_sinks` says every appender
ends in) is, for a rolling appender, a run of the C05 / C06 appender model on the stream
(`sysRun_dir`); and what C05 and C06 say about such a run, for any configuration of the appender
model: the retained files (`stream_retained`), the bound on the log file (`stream_bounded`).
-/
namespace Log4rs.System
open Log4rs Log4rs.Routing Log4rs.Routing.Tree Log4rs.Pattern Log4rs.Pattern.Parse

/-- chrono accepts what it is asked (as `DatesOkFor`, for any kind of sink) -/
def DatesOkR (cfg : SysConfig) (asts : Name → List Pat) (r : SysRecord) : Prop :=
  ∀ a ∈ cfg.routing.appenders, specCopies cfg a r ≠ 0 → (cfg.app a).kind = .pattern → DatesOk cfg.B r.env (asts a)

open Log4rs.Rolling Log4rs.Roller

/-- the stream as a history of the rolling appender: one append per record, one slice, no fault -/
def streamOps (stream : List Bytes) : List Rolling.XOp := stream.map fun x => .op (.append [x] none)

/-- final state of a history in the appender model (the state component of `Rolling.grunX`) -/
def rollFinal (c : Rolling.Cfg Unit) (s : Rolling.St Unit) : List Rolling.XOp → Rolling.St Unit
  | [] => s
  | op :: ops => rollFinal c (Rolling.applyX c s op).2 ops

theorem applyX_append (c : Cfg Unit) (s : St Unit) (x : Bytes) :
    applyX c s (.op (.append [x] none)) =
      (some (append c s [x] (faultFn none)).1, (append c s [x] (faultFn none)).2) := by
  simp only [applyX, applyOp]

theorem grunX_state (c : Rolling.Cfg Unit) (s : Rolling.St Unit) (g : Rolling.Ghost) (ops : List Rolling.XOp) :
    (Rolling.grunX c s g ops).2.1 = rollFinal c s ops := by
  induction ops generalizing s g with
  | nil => rfl
  | cons op ops ih => simp [Rolling.grunX, rollFinal, ih]

theorem foldl_fileAppend_roll (e : Encoder) (f : Rolling.BufFile) (c : Rolling.Cfg Unit) (stream : List Bytes) :
    ∀ (s : Rolling.St Unit),
      stream.foldl fileAppend { enc := e, file := f, roll := some (c, s) } =
        { enc := e, file := f, roll := some (c, rollFinal c s (streamOps stream)) } := by
  induction stream with
  | nil => intro s; rfl
  | cons x xs ih =>
    intro s
    simp only [List.foldl_cons, fileAppend, streamOps, List.map_cons, rollFinal]
    exact ih _

/-- the directory of a rolling appender after a history is the appender model's disk after one
append per delivered record -/
theorem sysRun_dir (cfg : SysConfig) (asts : Name → List Pat) (h : SysWFR cfg asts)
    (rs : List SysRecord) (hd : ∀ r ∈ rs, DatesOkR cfg asts r)
    (a : Name) (ha : a ∈ cfg.routing.appenders) (spec : RollSpec) (hr : (cfg.app a).rolling = some spec) :
    ∃ st, sysRun cfg rs = .ok st ∧
      st.dir a = some (rollFinal (spec.cfg ((cfg.app a).mode == .append))
        (init (spec.cfg ((cfg.app a).mode == .append)) spec.dir () 0)
        (streamOps (deliveredStream cfg asts a rs))).disk := by
  obtain ⟨e', hs⟩ := sysRun_sinks cfg asts h rs hd
  refine ⟨_, hs, ?_⟩
  simp only [FilesState.dir, sinks, getApp_map _ _ a ha, feed, openSink, hr, foldl_fileAppend_roll, Option.bind_some,
    Option.map_some]

theorem rollFinal_eq_foldl (c : Rolling.Cfg Unit) (ops : List Rolling.XOp) :
    ∀ (s : Rolling.St Unit), rollFinal c s ops = ops.foldl (fun s op => (Rolling.applyX c s op).2) s := by
  induction ops with
  | nil => intro s; rfl
  | cons op ops ih => intro s; exact ih _

theorem rollFinal_append (c : Rolling.Cfg Unit) (ops₁ ops₂ : List Rolling.XOp) (s : Rolling.St Unit) :
    rollFinal c s (ops₁ ++ ops₂) = rollFinal c (rollFinal c s ops₁) ops₂ := by
  simp only [rollFinal_eq_foldl, List.foldl_append]

theorem rollFinal_concat (c : Cfg Unit) (s : St Unit) (pre : List Bytes) (x : Bytes) :
    rollFinal c s (streamOps (pre ++ [x])) = (append c (rollFinal c s (streamOps pre)) [x] (faultFn none)).2 := by
  simp only [streamOps, List.map_append, rollFinal_append, List.map_cons, List.map_nil, rollFinal, applyX_append]

theorem WF_rollFinal (c : Rolling.Cfg Unit) (ops : List Rolling.XOp) (s : Rolling.St Unit) (h : Rolling.WF c s) :
    Rolling.WF c (rollFinal c s ops) :=
  rollFinal_eq_foldl c ops s ▸ Rolling.WF_foldl_applyX c ops s h

/-- every append of the stream returns and, in post-process mode, writes its record -/
theorem written_streamOps (c : Cfg Unit) (stream : List Bytes) :
    ∀ (s : St Unit), writtenItemsX false (streamOps stream) ((traceX c s (streamOps stream)).map (·.1)) = stream := by
  induction stream with
  | nil => intro s; rfl
  | cons x xs ih =>
    intro s
    simp only [streamOps, List.map_cons, traceX, applyX_append, writtenItemsX, wrote, Bool.false_eq_true, if_false,
      if_true, encBytes, List.flatten_cons, List.flatten_nil, List.append_nil, List.cons_append, List.nil_append,
      List.cons.injEq, true_and]
    exact ih _

theorem rollCalls_le_length (outs : List (Option Rolling.Out)) : rollCalls outs ≤ outs.length := by
  induction outs with
  | nil => exact Nat.le_refl 0
  | cons o os ih =>
    have ho : (match o with | some out => callsOfOut out | none => 0) ≤ 1 := by
      cases o with
      | none => exact Nat.zero_le 1
      | some out =>
        show (if out.rolled.isSome then 1 else 0) ≤ 1
        split
        · exact Nat.le_refl 1
        · exact Nat.zero_le 1
    unfold rollCalls at ih ⊢
    rw [List.map_cons, List.sum_cons, List.length_cons, Nat.add_comm]
    exact Nat.add_le_add ih ho

/-- C05_no_loss_no_dup_order + C05_stream_is_written for a history that is one plain append per
record of `stream`: the retained files are the segmented stream minus its `k` oldest whole segments,
and the segmented stream is what the directory held followed by the records, each whole, in order. -/
theorem stream_retained (c : Cfg Unit) (hpre : c.trig.pre = false) (arch : Disk → List Bytes)
    (hc : RollContractE c.roll c.path arch) (dir : Disk) (stream : List Bytes) :
    ∃ (segs : List (List Bytes)) (k : Nat),
      retained c arch (rollFinal c (init c dir () 0) (streamOps stream)).disk = (segs.drop k).map List.flatten ∧
      k < segs.length ∧ k ≤ stream.length ∧
      segs.flatten = arch dir ++ (if c.appendMode then [fileOf c dir] else []) ++ stream := by
  obtain ⟨k, hk1, hk2, hret⟩ := C05_no_loss_no_dup_order c arch hc dir () 0 (streamOps stream)
  obtain ⟨_, hst, _, houts⟩ := C05_stream_is_written c arch dir () 0 (streamOps stream)
  have hstream := hst (Or.inr fun op hop => by
    obtain ⟨x, _, rfl⟩ := List.mem_map.mp hop
    rfl)
  rw [houts, hpre, written_streamOps c, C05_initial_stream] at hstream
  rw [grunX_state] at hret
  refine ⟨_, k, hret, ?_, ?_, hstream⟩
  · rw [List.length_append, List.length_singleton]
    omega
  · refine Nat.le_trans hk1 (Nat.le_trans (rollCalls_le_length _) ?_)
    rw [houts, List.length_map, traceX_length, streamOps, List.length_map]
    exact Nat.le_refl _

/-- a roller that cannot fail without an injected fault while the log file exists -/
def NoErr (roll : Rolling.RollFn) (path : Roller.Path) : Prop :=
  ∀ d a, d.get? path = some a → ∃ x, (roll path (Rolling.faultFn none) d).1 = .ok x

theorem deleteRoll_noErr (path : Path) : NoErr (fun p f d => deleteRoll p f d) path := by
  intro d a hg
  exact ⟨d.erase path, by simp only [deleteRoll, faultFn_none, hg, Bool.false_eq_true, if_false]⟩

theorem runSteps_plain_ok (r : RollerCfg) (hc : r.comp = .none) (file : Path) (steps : List Roller.Step) :
    ∀ (k : Nat) (d : Disk), ∃ x, (runSteps r file (Rolling.faultFn none) k steps d).1 = .ok x := by
  induction steps with
  | nil => intro k d; exact ⟨d, rfl⟩
  | cons st rest ih =>
    intro k d
    cases st with
    | shift i => simp only [runSteps, faultFn_none, applyStep]; exact ih _ _
    | final => simp only [runSteps, faultFn_none, applyStep, finalStep, hc]; exact ih _ _

/-- without compression every step of the rotation is a rename that tolerates a missing source;
with `count = 0` the rotation is `remove_file` of the existing log file -/
theorem fixedWindowRoll_plain_noErr (r : RollerCfg) (hc : r.comp = .none) (path : Path) :
    NoErr (fixedWindowRoll r) path := by
  intro d a hg
  unfold fixedWindowRoll
  split
  · exact deleteRoll_noErr path d a hg
  · exact runSteps_plain_ok r hc path _ 0 d

/-- one append of a size-triggered appender whose roller honours the contract and does not fail:
afterwards the log file has been rotated away or is within the limit -/
theorem append_bounded (path : Path) (am : Bool) (N : Nat) (roll : RollFn) (arch : Disk → List Bytes)
    (hc : RollContractE roll path arch) (hne : NoErr roll path) (s : St Unit)
    (hwf : WF (sizeCfg path am N roll) s) (x : Bytes) :
    ((append (sizeCfg path am N roll) s [x] (faultFn none)).2.disk.get? path = none) ∨
      ∃ b, (append (sizeCfg path am N roll) s [x] (faultFn none)).2.disk.get? path = some b ∧ b.length ≤ N := by
  obtain ⟨_, hle, hgt⟩ := size_append path am N roll s hwf [x] (faultFn none)
  by_cases h : (fileOf (sizeCfg path am N roll) s.disk ++ encBytes [x]).length ≤ N
  · exact Or.inr ⟨_, (hle h).2.2, h⟩
  · obtain ⟨d1, res, d', hg1, hrun, hd, _⟩ := hgt (Nat.lt_of_not_le h)
    obtain ⟨y, hy⟩ := hne d1 _ hg1
    rw [hrun] at hy
    exact Or.inl (hd ▸ (hc.ok (faultFn none) d1 y d' _ (hy ▸ hrun) hg1).1)

/-- … after every delivery of a stream -/
theorem stream_bounded (path : Path) (am : Bool) (N : Nat) (roll : RollFn) (arch : Disk → List Bytes)
    (hc : RollContractE roll path arch) (hne : NoErr roll path) (dir : Disk) (pre : List Bytes) (x : Bytes) :
    let c := sizeCfg path am N roll
    let d := (rollFinal c (init c dir () 0) (streamOps (pre ++ [x]))).disk
    d.get? path = none ∨ ∃ b, d.get? path = some b ∧ b.length ≤ N := by
  dsimp only
  rw [rollFinal_concat]
  exact append_bounded path am N roll arch hc hne _ (WF_rollFinal _ _ _ (WF_init _ dir () 0)) x

end Log4rs.System
