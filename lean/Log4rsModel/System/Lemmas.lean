import Log4rsModel.System.Spec
import Log4rsModel.System.RollingSpec
import Log4rsModel.Properties.C01
import Log4rsModel.Properties.C03
import Log4rsModel.Properties.C04
import Log4rsModel.Properties.C09
import Log4rsModel.Properties.Compose
/-
Lemmas of the System slice: the per-area theorems (C01 routing, C03 threshold chains, C09 pattern
round trip, C04 file appender) chained along one `Log::log` and then along a history.

The proofs keep the state in a normal form: `sinks cfg g errs` is the appender table that holds the
built appender `g a` behind every name `a`. Every step of the pipeline maps a normal form to a normal
form, feeding each `g a` the encoded records the specification delivers to `a` — whatever kind of
sink `g a` is. The file theorems are the instance in which every `g a` is a plain file appender
between two appends (`quiet`): feeding it a stream appends the stream to its file (C04), and the
normal form is `stateOf`.
-/
namespace Log4rs.System
open Log4rs Log4rs.Routing Log4rs.Routing.Tree Log4rs.Pattern Log4rs.Pattern.Parse

/-- hypotheses of the end-to-end theorems: the routing part is what `ConfigBuilder::build` returns
(`Valid`, C13), the platform behaves like the current code on ASCII, and every pattern appender's
pattern is a printed well-formed AST (as in C09). Appenders may be file or rolling appenders. -/
structure SysWFR (cfg : SysConfig) (asts : Name → List Pat) : Prop where
  valid : Valid cfg.routing
  cc : CCAscii cfg.cc
  us : cfg.P.underscoreNames = true
  dcp : cfg.P.doubledCloseParen = true
  mdc : cfg.B.mdcWhole = true
  mdcE : cfg.B.mdcEmptyOk = true
  printed : ∀ a ∈ cfg.routing.appenders, (cfg.app a).kind = .pattern → (cfg.app a).pattern = showPats (asts a)
  wf : ∀ a ∈ cfg.routing.appenders, (cfg.app a).kind = .pattern → WF cfg.P (asts a)

/-- … and every appender is a plain file appender (the hypothesis of the stage-1 / reconfiguration
theorems, which speak about file contents) -/
structure SysWF (cfg : SysConfig) (asts : Name → List Pat) : Prop extends SysWFR cfg asts where
  noRolling : ∀ a ∈ cfg.routing.appenders, (cfg.app a).rolling = none

/-- chrono accepts the date formats of every pattern the record is actually encoded with (`DatesOk`
of C09, asked only of the appenders that receive at least one copy of the record) -/
def DatesOkFor (cfg : SysConfig) (asts : Name → List Pat) (r : SysRecord) : Prop :=
  ∀ a ∈ cfg.routing.appenders, specCopies cfg a r ≠ 0 → (cfg.app a).kind = .pattern → DatesOk cfg.B r.env (asts a)

/-- the built encoder of appender `a`: the compiled printed AST, or the JSON encoder -/
def chunksFor (cfg : SysConfig) (asts : Name → List Pat) (a : Name) : Encoder :=
  match (cfg.app a).kind with
  | .pattern => .pattern (compileL cfg.B (piecesOf [] (asts a)))
  | .json => .json

/-- normal form of the runtime state: quiescent writers over files with the given contents -/
def stateOf (cfg : SysConfig) (asts : Name → List Pat) (content : Name → Bytes) : FilesState :=
  { apps := cfg.routing.appenders.map fun a =>
      (a, { enc := chunksFor cfg asts a, file := { disk := content a, buf := [] } }),
    errors := [] }

def sinks (cfg : SysConfig) (g : Name → AppState) (errs : List Name) : FilesState :=
  { apps := cfg.routing.appenders.map fun a => (a, g a), errors := errs }

/-- a plain file appender between two appends: a flushed writer over a file that holds `d` -/
def quiet (e : Encoder) (d : Bytes) : AppState := { enc := e, file := { disk := d, buf := [] } }

variable (cfg : SysConfig) (asts : Name → List Pat)

theorem getApp_map (l : List Name) (g : Name → AppState) (a : Name) (ha : a ∈ l) :
    getApp (l.map fun b => (b, g b)) a = some (g a) := by
  induction l with
  | nil => cases ha
  | cons x xs ih =>
    by_cases hx : x = a
    · simp only [List.map_cons, getApp, hx, if_true]
    · simp only [List.map_cons, getApp, hx, if_false]
      exact ih ((List.mem_cons.mp ha).resolve_left fun e => hx e.symm)

theorem updApp_map (l : List Name) (g : Name → AppState) (a : Name) (f : AppState → AppState) :
    updApp a f (l.map fun b => (b, g b)) = l.map fun b => (b, if b = a then f (g b) else g b) := by
  induction l with
  | nil => rfl
  | cons x xs ih =>
    simp only [List.map_cons, updApp, ih, List.cons.injEq, and_true]
    split <;> rfl

theorem getApp_updApp_ne (l : List (Name × AppState)) (a b : Name) (f : AppState → AppState) (h : ¬ b = a) :
    getApp (updApp a f l) b = getApp l b := by
  induction l with
  | nil => rfl
  | cons p ps ih =>
    obtain ⟨n, s⟩ := p
    by_cases hna : n = a
    · subst hna
      have hnb : ¬ n = b := fun e => h e.symm
      simp only [updApp, getApp, hnb, if_true, if_false, ih]
    · simp only [updApp, getApp, hna, if_false, ih]

theorem sinks_congr (g g' : Name → AppState) (e : List Name)
    (h : ∀ a ∈ cfg.routing.appenders, g a = g' a) : sinks cfg g e = sinks cfg g' e := by
  simp only [sinks, FilesState.mk.injEq, and_true]
  exact List.map_congr_left fun a ha => by rw [h a ha]

theorem fileAppend_enc (s : AppState) (o : Bytes) : (fileAppend s o).enc = s.enc := by
  unfold fileAppend
  split <;> rfl

theorem fileAppend_plain (s : AppState) (o : Bytes) (h : s.roll = none) :
    (fileAppend s o).roll = none ∧ appendFails s o = false := by
  simp only [fileAppend, appendFails, h, and_self]

theorem foldl_fileAppend_enc (stream : List Bytes) : ∀ s : AppState, (stream.foldl fileAppend s).enc = s.enc := by
  induction stream with
  | nil => intro s; rfl
  | cons x xs ih => intro s; exact (ih _).trans (fileAppend_enc s x)

theorem foldl_fileAppend_plain (stream : List Bytes) :
    ∀ s : AppState, s.roll = none → (stream.foldl fileAppend s).roll = none := by
  induction stream with
  | nil => intro s h; exact h
  | cons x xs ih => intro s h; exact ih _ (fileAppend_plain s x h).1

theorem fileAppend_quiet (e : Encoder) (d o : Bytes) : fileAppend (quiet e d) o = quiet e (d ++ o) := by
  have hv := Rolling.C04_append_visible { disk := d, buf := [] } [o] rfl
  simp only [fileAppend, quiet, AppState.mk.injEq, true_and, and_true]
  cases hw : Rolling.FileAppender.append { disk := d, buf := [] } [o] with
  | mk d' b' =>
    rw [hw] at hv
    simp only [Rolling.encBytes, List.flatten_cons, List.flatten_nil, List.append_nil] at hv
    rw [hv.1, hv.2]

theorem foldl_fileAppend_quiet (e : Encoder) (stream : List Bytes) :
    ∀ d : Bytes, stream.foldl fileAppend (quiet e d) = quiet e (d ++ stream.flatten) := by
  induction stream with
  | nil => intro d; simp only [List.foldl_nil, List.flatten_nil, List.append_nil]
  | cons x xs ih => intro d; simp only [List.foldl_cons, fileAppend_quiet, ih, List.flatten_cons, List.append_assoc]

theorem runChain_thresholds (sa : SysAppender) (lvl : Nat) :
    (runChain lvl (filtersOf sa)).2 = specAccepts sa.thresholds lvl := by
  rw [Bool.eq_iff_iff, filtersOf, C03_threshold_chain_many]
  simp only [specAccepts, List.all_eq_true, decide_eq_true_eq]

/-- `PatternEncoder::new` on the printed AST of a pattern appender yields the compiled AST -/
theorem newEncoder_printed (h : SysWFR cfg asts) (a : Name)
    (ha : a ∈ cfg.routing.appenders) (hk : (cfg.app a).kind = .pattern) :
    newEncoder cfg.cc cfg.P cfg.B (cfg.app a).pattern = .ok (compileL cfg.B (piecesOf [] (asts a))) := by
  rw [newEncoder, h.printed a ha hk, C09_parse_show cfg.cc h.cc cfg.P h.us h.dcp (asts a) (h.wf a ha hk)]
  rfl

theorem encode_ok (h : SysWFR cfg asts) (a : Name)
    (ha : a ∈ cfg.routing.appenders) (r : SysRecord)
    (hd : (cfg.app a).kind = .pattern → DatesOk cfg.B r.env (asts a)) :
    encodeWith (chunksFor cfg asts a) r = .ok (specLine cfg asts a r) := by
  cases hk : (cfg.app a).kind with
  | json => simp only [chunksFor, hk, encodeWith, specLine]
  | pattern =>
    obtain ⟨o, ho, ht⟩ := C09_encode_parse_show cfg.cc h.cc cfg.P h.us h.dcp cfg.B h.mdc h.mdcE r.env r.record
      (asts a) (h.wf a ha hk) (hd hk)
    rw [← h.printed a ha hk, Parse.run, newEncoder_printed cfg asts h a ha hk] at ho
    simp only [chunksFor, hk, encodeWith, specLine, ho, ht]

theorem openSink_enc (sa : SysAppender) (e : Encoder) : (openSink sa e).enc = e := by
  unfold openSink
  split <;> rfl

theorem openSink_plain (sa : SysAppender) (e : Encoder) (hr : sa.rolling = none) :
    openSink sa e = quiet e (Rolling.openContent sa.mode sa.pre) := by
  simp only [openSink, hr]
  rfl

theorem openApp_sinks (h : SysWFR cfg asts) (a : Name)
    (ha : a ∈ cfg.routing.appenders) :
    openApp cfg a = .ok (openSink (cfg.app a) (chunksFor cfg asts a)) := by
  cases hk : (cfg.app a).kind with
  | json => simp only [openApp, hk, chunksFor]
  | pattern => simp only [openApp, hk, chunksFor, newEncoder_printed cfg asts h a ha hk]

theorem openAll_sinks (h : SysWFR cfg asts) (l : List Name)
    (hl : ∀ a ∈ l, a ∈ cfg.routing.appenders) :
    openAll cfg l = .ok (l.map fun a => (a, openSink (cfg.app a) (chunksFor cfg asts a))) := by
  induction l with
  | nil => rfl
  | cons x xs ih =>
    simp only [openAll, openApp_sinks cfg asts h x (hl x List.mem_cons_self),
      ih fun a ha => hl a (List.mem_cons_of_mem _ ha), List.map_cons]

theorem sysOpen_sinks (h : SysWFR cfg asts) :
    sysOpen cfg = .ok (sinks cfg (fun a => openSink (cfg.app a) (chunksFor cfg asts a)) []) := by
  simp only [sysOpen, openAll_sinks cfg asts h _ fun _ ha => ha, C01_build_total cfg.routing h.valid, if_true, sinks]

def feed (g : Name → AppState) (s : Name → List Bytes) : Name → AppState :=
  fun a => (s a).foldl fileAppend (g a)

/-- `run` hands the appender behind every name `a` exactly the encoded records `s a`: it maps a table
of appenders that carry the encoders of `cfg` to the same table fed with `s`, and as long as the
appenders are plain file appenders it reports no error -/
def Feeds (cfg : SysConfig) (asts : Name → List Pat) (run : FilesState → Outcome Unit FilesState)
    (s : Name → List Bytes) : Prop :=
  ∀ (g : Name → AppState) (e : List Name), (∀ a ∈ cfg.routing.appenders, (g a).enc = chunksFor cfg asts a) →
    ∃ e', run (sinks cfg g e) = .ok (sinks cfg (feed g s) e') ∧
      ((∀ a ∈ cfg.routing.appenders, (g a).roll = none) → e' = e)

theorem Feeds.nil {cfg : SysConfig} {asts : Name → List Pat} : Feeds cfg asts .ok fun _ => [] :=
  fun _ e _ => ⟨e, rfl, fun _ => rfl⟩

theorem Feeds.mono {cfg : SysConfig} {asts : Name → List Pat} {run : FilesState → Outcome Unit FilesState}
    {s s' : Name → List Bytes} (h : Feeds cfg asts run s) (hs : ∀ b, s b = s' b) : Feeds cfg asts run s' :=
  (funext hs : s = s') ▸ h

theorem feed_feed (g : Name → AppState) (s₁ s₂ : Name → List Bytes) :
    feed (feed g s₁) s₂ = feed g fun b => s₁ b ++ s₂ b :=
  funext fun _ => (List.foldl_append ..).symm

theorem Feeds.seq {cfg : SysConfig} {asts : Name → List Pat} {f₁ f₂ : FilesState → Outcome Unit FilesState}
    {s₁ s₂ : Name → List Bytes} (h₁ : Feeds cfg asts f₁ s₁) (h₂ : Feeds cfg asts f₂ s₂) :
    Feeds cfg asts (fun st => match f₁ st with
      | .ok st' => f₂ st'
      | .err x => .err x
      | .panic w => .panic w) fun b => s₁ b ++ s₂ b := by
  intro g e henc
  obtain ⟨e₁, r₁, p₁⟩ := h₁ g e henc
  obtain ⟨e₂, r₂, p₂⟩ := h₂ (feed g s₁) e₁ fun a ha => (foldl_fileAppend_enc _ _).trans (henc a ha)
  refine ⟨e₂, ?_, fun hp => (p₂ fun a ha => foldl_fileAppend_plain _ _ (hp a ha)).trans (p₁ hp)⟩
  simp only [r₁, r₂, feed_feed]

theorem appendOne_feeds (h : SysWFR cfg asts) (r : SysRecord)
    (a : Name) (ha : a ∈ cfg.routing.appenders)
    (hd : specAccepts (cfg.app a).thresholds r.level = true → (cfg.app a).kind = .pattern →
      DatesOk cfg.B r.env (asts a)) :
    Feeds cfg asts (fun st => appendOne cfg r st a) fun b =>
      if b = a ∧ specAccepts (cfg.app a).thresholds r.level = true then [specLine cfg asts a r] else [] := by
  intro g e henc
  have hg : getApp (sinks cfg g e).apps a = some (g a) := getApp_map _ g a ha
  by_cases hacc : specAccepts (cfg.app a).thresholds r.level = true
  · refine ⟨if appendFails (g a) (specLine cfg asts a r) = true then e ++ [a] else e, ?_, fun hp => ?_⟩
    · simp only [appendOne, hg, runChain_thresholds, hacc, if_true, henc a ha, encode_ok cfg asts h a ha r (hd hacc)]
      simp only [sinks, updApp_map, feed, and_true, apply_ite (List.foldl fileAppend _), List.foldl_cons,
        List.foldl_nil]
    · rw [(fileAppend_plain _ _ (hp a ha)).2]
      rfl
  · refine ⟨e, ?_, fun _ => rfl⟩
    simp only [appendOne, hg, runChain_thresholds, hacc, Bool.false_eq_true, if_false]
    simp only [sinks, feed, and_false, if_false, List.foldl_nil]

theorem namesOf_mem (tbl : List Name) (is : List Nat) (ns : List Name) (h : namesOf tbl is = some ns) :
    ∀ n ∈ ns, n ∈ tbl := by
  induction is generalizing ns with
  | nil => cases h; nofun
  | cons i is ih =>
    unfold namesOf at h
    split at h
    next x xs hi hr =>
      cases h
      intro n hn
      rcases List.mem_cons.mp hn with rfl | hn
      · exact List.mem_of_getElem? hi
      · exact ih xs hr n hn
    next => cases h

theorem deliver_mem (cfg : Config) (t : Name) (lvl : Nat) (ns : List Name)
    (h : deliver cfg t lvl = some ns) : ∀ n ∈ ns, n ∈ cfg.appenders := by
  unfold deliver at h
  cases hb : build cfg with
  | none => simp [hb] at h
  | some tree =>
    simp only [hb, Option.bind_some, logNode] at h
    split at h
    · exact namesOf_mem _ _ _ h
    · cases h
      nofun

/-- one more attachment of `a` is one more copy for `a`, if `a` accepts the record, and none for the others -/
theorem replicate_count_cons (acc : Name → Bool) (line : Name → Bytes) (a b : Name) (rest : List Name) :
    (if b = a ∧ acc a = true then [line a] else []) ++ List.replicate (if acc b then rest.count b else 0) (line b) =
      List.replicate (if acc b then (a :: rest).count b else 0) (line b) := by
  by_cases hba : b = a
  · subst hba
    cases acc b <;> simp [List.replicate_succ]
  · simp only [hba, false_and, if_false, List.nil_append, List.count_cons_of_ne fun e => hba (Eq.symm e)]

theorem deliverLoop_feeds (h : SysWFR cfg asts) (r : SysRecord)
    (names : List Name) : (∀ n ∈ names, n ∈ cfg.routing.appenders) →
    (∀ n ∈ names, specAccepts (cfg.app n).thresholds r.level = true → (cfg.app n).kind = .pattern →
      DatesOk cfg.B r.env (asts n)) →
    Feeds cfg asts (fun st => deliverLoop cfg r st names) fun b =>
      List.replicate (if specAccepts (cfg.app b).thresholds r.level then names.count b else 0) (specLine cfg asts b r) := by
  induction names with
  | nil => intro _ _; exact Feeds.nil.mono fun b => by rw [List.count_nil, ite_self, List.replicate_zero]
  | cons a rest ih =>
    intro hm hd
    exact ((appendOne_feeds cfg asts h r a (hm a List.mem_cons_self) (hd a List.mem_cons_self)).seq
      (ih (fun n hn => hm n (List.mem_cons_of_mem _ hn)) fun n hn => hd n (List.mem_cons_of_mem _ hn))).mono
      fun b => replicate_count_cons (fun n => specAccepts (cfg.app n).thresholds r.level)
        (fun n => specLine cfg asts n r) a b rest

theorem copies_eq (b : Name) (r : SysRecord) :
    (if specAccepts (cfg.app b).thresholds r.level then
        (specDeliver cfg.routing r.target r.level).count b else 0) = specCopies cfg b r := by
  unfold specCopies specDeliver
  by_cases h1 : admits (specLevel cfg.routing r.target) r.level = true <;>
    by_cases h2 : specAccepts (cfg.app b).thresholds r.level = true <;> simp [h1, h2]

theorem specCopies_ne_zero (b : Name) (r : SysRecord)
    (hb : b ∈ specDeliver cfg.routing r.target r.level)
    (hacc : specAccepts (cfg.app b).thresholds r.level = true) : specCopies cfg b r ≠ 0 := by
  rw [← copies_eq, if_pos hacc]
  exact Nat.ne_of_gt (List.count_pos_iff.mpr hb)

theorem sysLog_feeds (h : SysWFR cfg asts) (r : SysRecord)
    (hd : DatesOkFor cfg asts r) :
    Feeds cfg asts (fun st => sysLog cfg st r) fun b =>
      List.replicate (specCopies cfg b r) (specLine cfg asts b r) := by
  have hdel := C01_deliver_eq_spec cfg.routing h.valid r.target r.level
  have hmem := deliver_mem cfg.routing r.target r.level _ hdel
  have hrun : (fun st => sysLog cfg st r) =
      fun st => deliverLoop cfg r st (specDeliver cfg.routing r.target r.level) :=
    funext fun st => by simp only [sysLog, hdel]
  rw [hrun]
  exact (deliverLoop_feeds cfg asts h r _ hmem fun n hn hacc =>
    hd n (hmem n hn) (specCopies_ne_zero cfg n r hn hacc)).mono fun b => by rw [copies_eq]

theorem sysRunFrom_feeds (h : SysWFR cfg asts) (rs : List SysRecord) :
    (∀ r ∈ rs, DatesOkFor cfg asts r) →
    Feeds cfg asts (fun st => sysRunFrom cfg st rs) fun b => deliveredStream cfg asts b rs := by
  induction rs with
  | nil => intro _; exact Feeds.nil
  | cons r rs ih =>
    intro hd
    exact (sysLog_feeds cfg asts h r (hd r List.mem_cons_self)).seq
      (ih fun r' hr' => hd r' (List.mem_cons_of_mem _ hr'))

theorem sysRun_sinks (h : SysWFR cfg asts)
    (rs : List SysRecord) (hd : ∀ r ∈ rs, DatesOkFor cfg asts r) :
    ∃ e', sysRun cfg rs = .ok (sinks cfg (feed (fun a => openSink (cfg.app a) (chunksFor cfg asts a))
      fun a => deliveredStream cfg asts a rs) e') := by
  obtain ⟨e', hrun, _⟩ := sysRunFrom_feeds cfg asts h rs hd _ [] fun a _ => openSink_enc (cfg.app a) _
  exact ⟨e', by simp only [sysRun, sysOpen_sinks cfg asts h, hrun]⟩

/-- plain file appenders between two appends (`stateOf`): the streams are appended to the files (C04)
and no error is reported -/
theorem Feeds.plain {cfg : SysConfig} {asts : Name → List Pat} {run : FilesState → Outcome Unit FilesState}
    {s : Name → List Bytes} (h : Feeds cfg asts run s) (c : Name → Bytes) :
    run (stateOf cfg asts c) = .ok (stateOf cfg asts fun b => c b ++ (s b).flatten) := by
  obtain ⟨e', hrun, he⟩ := h (fun a => quiet (chunksFor cfg asts a) (c a)) [] fun _ _ => rfl
  rw [he fun _ _ => rfl] at hrun
  refine hrun.trans (congrArg Outcome.ok ?_)
  simp only [sinks, feed, foldl_fileAppend_quiet]
  rfl

theorem deliveredStream_flatten (a : Name) (rs : List SysRecord) :
    (deliveredStream cfg asts a rs).flatten = rs.flatMap (specContribution cfg asts a) := by
  induction rs with
  | nil => rfl
  | cons r rs ih => simp only [deliveredStream, List.flatMap_cons, List.flatten_append, specContribution] at ih ⊢; rw [ih]

theorem sysOpen_ok (h : SysWF cfg asts) :
    sysOpen cfg = .ok (stateOf cfg asts fun a => Rolling.openContent (cfg.app a).mode (cfg.app a).pre) := by
  rw [sysOpen_sinks cfg asts h.toSysWFR]
  exact congrArg Outcome.ok (sinks_congr cfg _ _ [] fun a ha => openSink_plain _ _ (h.noRolling a ha))

theorem sysLog_stateOf (h : SysWF cfg asts)
    (r : SysRecord) (c : Name → Bytes) (hd : DatesOkFor cfg asts r) :
    sysLog cfg (stateOf cfg asts c) r =
      .ok (stateOf cfg asts fun b => c b ++ specContribution cfg asts b r) :=
  (sysLog_feeds cfg asts h.toSysWFR r hd).plain c

theorem sysRun_stateOf (h : SysWF cfg asts)
    (rs : List SysRecord) (hd : ∀ r ∈ rs, DatesOkFor cfg asts r) :
    sysRun cfg rs = .ok (stateOf cfg asts fun b => specFile cfg asts b rs) := by
  simp only [sysRun, sysOpen_ok cfg asts h]
  refine ((sysRunFrom_feeds cfg asts h.toSysWFR rs hd).plain _).trans ?_
  simp only [deliveredStream_flatten, specFile]

theorem contents_stateOf (c : Name → Bytes) :
    (stateOf cfg asts c).contents = cfg.routing.appenders.map fun a => (a, c a) := by
  simp only [stateOf, FilesState.contents, List.map_map, Function.comp_def]

theorem getApp_stateOf (c : Name → Bytes) (a : Name)
    (ha : a ∈ cfg.routing.appenders) :
    getApp (stateOf cfg asts c).apps a = some (quiet (chunksFor cfg asts a) (c a)) :=
  getApp_map _ _ a ha

theorem disk_stateOf (c : Name → Bytes) (a : Name)
    (ha : a ∈ cfg.routing.appenders) : (stateOf cfg asts c).disk a = some (c a) := by
  rw [FilesState.disk, getApp_stateOf cfg asts c a ha]
  rfl

theorem quiet_stateOf (c : Name → Bytes) :
    ∀ p ∈ (stateOf cfg asts c).apps, p.2.file.buf = [] := by
  intro p hp
  obtain ⟨a, _, rfl⟩ := List.mem_map.mp hp
  rfl

theorem appendOne_untouched (r : SysRecord) (st st' : FilesState) (n a : Name)
    (hn : n = a → specAccepts (cfg.app a).thresholds r.level = false)
    (h : appendOne cfg r st n = .ok st') : getApp st'.apps a = getApp st.apps a := by
  unfold appendOne at h
  rw [runChain_thresholds] at h
  split at h
  · cases h
  · split at h
    next hacc =>
      have han : ¬ a = n := fun e => by subst e; rw [hn rfl] at hacc; cases hacc
      split at h
      · cases h
        exact getApp_updApp_ne _ _ _ _ han
      · cases h; rfl
      · cases h
    next => cases h; rfl

theorem deliverLoop_untouched (r : SysRecord) (a : Name) (names : List Name)
    (hn : a ∈ names → specAccepts (cfg.app a).thresholds r.level = false) :
    ∀ (st st' : FilesState), deliverLoop cfg r st names = .ok st' → getApp st'.apps a = getApp st.apps a := by
  induction names with
  | nil =>
    intro st st' h
    cases h; rfl
  | cons n rest ih =>
    intro st st' h
    simp only [deliverLoop] at h
    cases h1 : appendOne cfg r st n with
    | ok st1 =>
      simp only [h1] at h
      have e1 := appendOne_untouched cfg r st st1 n a (fun e => hn (e ▸ List.mem_cons_self)) h1
      exact (ih (fun hm => hn (List.mem_cons_of_mem _ hm)) st1 st' h).trans e1
    | err e => simp [h1] at h
    | panic w => simp [h1] at h

theorem sysLog_untouched (hv : Valid cfg.routing) (st st' : FilesState)
    (r : SysRecord) (a : Name) (hc : specCopies cfg a r = 0) (h : sysLog cfg st r = .ok st') :
    getApp st'.apps a = getApp st.apps a := by
  simp only [sysLog, C01_deliver_eq_spec cfg.routing hv r.target r.level] at h
  exact deliverLoop_untouched cfg r a _
    (fun hm => Bool.eq_false_iff.mpr fun hacc => specCopies_ne_zero cfg a r hm hacc hc) st st' h

/-- a history runner `run` and its tracer `trace` over any step function: the `k`-th snapshot is the
run of the first `k+1` inputs -/
theorem trace_prefix {σ ι : Type} (step : σ → ι → Outcome Unit σ) (run : σ → List ι → Outcome Unit σ)
    (trace : σ → List ι → List (Outcome Unit σ))
    (hrun₀ : ∀ s, run s [] = .ok s)
    (hrun : ∀ s x xs, run s (x :: xs) = match step s x with
      | .ok s' => run s' xs
      | .err e => .err e
      | .panic w => .panic w)
    (htrace₀ : ∀ s, trace s [] = [])
    (htrace : ∀ s x xs, trace s (x :: xs) = match step s x with
      | .ok s' => .ok s' :: trace s' xs
      | .err e => [.err e]
      | .panic w => [.panic w]) (xs : List ι) :
    ∀ (s : σ) (k : Nat), k < (trace s xs).length → (trace s xs)[k]? = some (run s (xs.take (k + 1))) := by
  induction xs with
  | nil => intro s k hk; rw [htrace₀] at hk; exact absurd hk (Nat.not_lt_zero k)
  | cons x xs ih =>
    intro s k hk
    rw [htrace] at hk ⊢
    rw [List.take_succ_cons, hrun]
    generalize step s x = o at hk ⊢
    cases o with
    | ok s₁ =>
      cases k with
      | zero => exact congrArg some (hrun₀ s₁).symm
      | succ k => exact ih s₁ k (Nat.lt_of_succ_lt_succ hk)
    | err e =>
      cases k with
      | zero => rfl
      | succ k => exact absurd (Nat.lt_of_succ_lt_succ hk) (Nat.not_lt_zero k)
    | panic w =>
      cases k with
      | zero => rfl
      | succ k => exact absurd (Nat.lt_of_succ_lt_succ hk) (Nat.not_lt_zero k)

theorem sysTraceFrom_prefix (rs : List SysRecord) :
    ∀ (st : FilesState) (k : Nat), k < (sysTraceFrom cfg st rs).length →
      (sysTraceFrom cfg st rs)[k]? = some (sysRunFrom cfg st (rs.take (k + 1))) :=
  trace_prefix (sysLog cfg) (sysRunFrom cfg) (sysTraceFrom cfg) (fun _ => rfl)
    (fun st r _ => by cases h : sysLog cfg st r <;> simp only [sysRunFrom, h]) (fun _ => rfl)
    (fun st r _ => by cases h : sysLog cfg st r <;> simp only [sysTraceFrom, h]) rs

theorem sysTraceFrom_length_ok (h : SysWF cfg asts)
    (rs : List SysRecord) :
    ∀ (c : Name → Bytes), (∀ r ∈ rs, DatesOkFor cfg asts r) →
      (sysTraceFrom cfg (stateOf cfg asts c) rs).length = rs.length := by
  induction rs with
  | nil => intro c _; rfl
  | cons r rs ih =>
    intro c hd
    simp only [sysTraceFrom, sysLog_stateOf cfg asts h r c (hd r List.mem_cons_self), List.length_cons]
    rw [ih _ fun r' hr' => hd r' (List.mem_cons_of_mem _ hr')]

theorem specCopies_congr (cfg cfg' : SysConfig) (happ : cfg'.app = cfg.app)
    (hdel : ∀ t lvl, specDeliver cfg'.routing t lvl = specDeliver cfg.routing t lvl) (a : Name) (r : SysRecord) :
    specCopies cfg' a r = specCopies cfg a r := by
  rw [← copies_eq, ← copies_eq, happ, hdel]

theorem specFile_congr (cfg cfg' : SysConfig) (asts : Name → List Pat) (happ : cfg'.app = cfg.app)
    (hdel : ∀ t lvl, specDeliver cfg'.routing t lvl = specDeliver cfg.routing t lvl) (a : Name)
    (rs : List SysRecord) : specFile cfg' asts a rs = specFile cfg asts a rs := by
  have hc : specContribution cfg' asts a = specContribution cfg asts a := by
    funext r
    simp only [specContribution, specCopies_congr cfg cfg' happ hdel, specLine, happ]
  simp only [specFile, happ, hc]

end Log4rs.System
