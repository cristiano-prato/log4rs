import Log4rsModel.System.ReconfigSpec
import Log4rsModel.System.Lemmas
/-
Lemmas of stage 2 (A): every op maps the normal form `worldOf fs c pending` (configuration `c` built
on filesystem `fs`, the records `pending` logged under it) to a normal form; the stage-1 lemmas do
the work inside a segment.
-/
namespace Log4rs.System
open Log4rs Log4rs.Routing Log4rs.Routing.Tree Log4rs.Pattern Log4rs.Pattern.Parse

/-- no two appenders of one configuration write to the same file -/
def PathsInj (c : SpecBundle) : Prop :=
  ∀ a ∈ c.b.cfg.routing.appenders, ∀ a' ∈ c.b.cfg.routing.appenders, c.b.paths a = c.b.paths a' → a = a'

structure BundleWF (c : SpecBundle) : Prop where
  wf : SysWF c.b.cfg c.asts
  paths : PathsInj c

/-- every configuration installed along the history is well-formed, and chrono accepts the date
formats of the patterns each record is encoded with under the configuration current at that time -/
def OpsOk (c : SpecBundle) : List SpecOp → Prop
  | [] => True
  | .log r :: ops => DatesOkFor c.b.cfg c.asts r ∧ OpsOk c ops
  | .setConfig c' :: ops => BundleWF c' ∧ OpsOk c' ops

theorem reopen_wf (fs : FS) (c : SpecBundle) (h : SysWF c.b.cfg c.asts) : SysWF (reopen fs c.b) c.asts :=
  ⟨⟨h.valid, h.cc, h.us, h.dcp, h.mdc, h.mdcE, h.printed, h.wf⟩, h.noRolling⟩

theorem reopen_copies (fs : FS) (b : Bundle) (a : Name) (r : SysRecord) :
    specCopies (reopen fs b) a r = specCopies b.cfg a r := rfl

theorem specOps_logs (fs : FS) (c : SpecBundle) (rs : List SysRecord) (tail : List SpecOp) :
    ∀ pending, specOps fs c pending (rs.map SpecOp.log ++ tail) = specOps fs c (pending ++ rs) tail := by
  induction rs with
  | nil => intro pending; rw [List.map_nil, List.nil_append, List.append_nil]
  | cons r rs ih => intro pending; rw [List.map_cons, List.cons_append, specOps, ih, List.append_assoc]; rfl

theorem owner_path {tbl : List Name} {paths : Name → Nat} {p : Nat} {a : Name} (h : owner tbl paths p = some a) :
    paths a = p :=
  of_decide_eq_true (List.find?_some (p := fun a => decide (paths a = p)) h)

theorem specSegment_owner (fs : FS) (c : SpecBundle) (rs : List SysRecord) (p : Nat) (a : Name)
    (h : owner c.b.cfg.routing.appenders c.b.paths p = some a) :
    specSegment fs c rs p = some (Rolling.openContent (c.b.cfg.app a).mode (fs p) ++
      rs.flatMap (specContribution c.b.cfg c.asts a)) := by
  cases owner_path h
  simp only [specSegment, h]
  rfl

theorem specSegment_free (fs : FS) (c : SpecBundle) (rs : List SysRecord) (p : Nat)
    (h : owner c.b.cfg.routing.appenders c.b.paths p = none) : specSegment fs c rs p = fs p := by
  simp only [specSegment, h]

def worldOf (fs : FS) (c : SpecBundle) (pending : List SysRecord) : World :=
  { cfg := reopen fs c.b, paths := c.b.paths,
    st := stateOf (reopen fs c.b) c.asts fun a => specFile (reopen fs c.b) c.asts a pending,
    fs := fs }

theorem worldOf_disk (fs : FS) (c : SpecBundle) (pending : List SysRecord) :
    (worldOf fs c pending).disk = specSegment fs c pending := by
  funext p
  simp only [World.disk, worldOf, specSegment]
  show (match owner c.b.cfg.routing.appenders c.b.paths p with
    | some a => (stateOf (reopen fs c.b) c.asts fun a => specFile (reopen fs c.b) c.asts a pending).disk a
    | none => fs p) = _
  cases ho : owner c.b.cfg.routing.appenders c.b.paths p with
  | none => rfl
  | some a =>
    have ha : a ∈ c.b.cfg.routing.appenders := List.mem_of_find?_eq_some ho
    simp only
    exact disk_stateOf (reopen fs c.b) c.asts _ a ha

theorem install_ok (fs : FS) (c : SpecBundle) (h : BundleWF c) :
    install fs c.b = .ok (worldOf fs c []) := by
  simp only [install, sysOpen_ok (reopen fs c.b) c.asts (reopen_wf fs c h.wf), worldOf]
  congr 3
  funext a
  simp [specFile]

theorem step_log (fs : FS) (c : SpecBundle) (pending : List SysRecord) (h : BundleWF c) (r : SysRecord)
    (hd : DatesOkFor c.b.cfg c.asts r) :
    sysStep (worldOf fs c pending) (.log r) = .ok (worldOf fs c (pending ++ [r])) := by
  simp only [sysStep, worldOf,
    sysLog_stateOf (reopen fs c.b) c.asts (reopen_wf fs c h.wf) r _ hd]
  congr 3
  funext a
  simp [specFile, List.flatMap_append]

theorem step_setConfig (fs : FS) (c c' : SpecBundle) (pending : List SysRecord) (h' : BundleWF c') :
    sysStep (worldOf fs c pending) (.setConfig c'.b) = .ok (worldOf (specSegment fs c pending) c' []) := by
  simp only [sysStep, worldOf_disk, install_ok _ c' h']

theorem runOps_normal (ops : List SpecOp) :
    ∀ (fs : FS) (c : SpecBundle) (pending : List SysRecord), BundleWF c → OpsOk c ops →
      ∃ fs' c' pending', BundleWF c' ∧
        sysRunOpsFrom (worldOf fs c pending) (ops.map SpecOp.toOp) = .ok (worldOf fs' c' pending') ∧
        specOps fs c pending ops = specSegment fs' c' pending' := by
  induction ops with
  | nil => intro fs c pending h _; exact ⟨fs, c, pending, h, rfl, rfl⟩
  | cons op ops ih =>
    intro fs c pending h hok
    cases op with
    | log r =>
      obtain ⟨hd, hrest⟩ := hok
      obtain ⟨fs', c', p', hw, hrun, hspec⟩ := ih fs c (pending ++ [r]) h hrest
      refine ⟨fs', c', p', hw, ?_, ?_⟩
      · simp only [List.map_cons, SpecOp.toOp, sysRunOpsFrom, step_log fs c pending h r hd, hrun]
      · simp only [specOps, hspec]
    | setConfig c1 =>
      obtain ⟨h1, hrest⟩ := hok
      obtain ⟨fs', c', p', hw, hrun, hspec⟩ := ih (specSegment fs c pending) c1 [] h1 hrest
      refine ⟨fs', c', p', hw, ?_, ?_⟩
      · simp only [List.map_cons, SpecOp.toOp, sysRunOpsFrom, step_setConfig fs c c1 pending h1, hrun]
      · simp only [specOps, hspec]

theorem sysTraceOpsFrom_prefix (ops : List SysOp) :
    ∀ (w : World) (k : Nat), k < (sysTraceOpsFrom w ops).length →
      (sysTraceOpsFrom w ops)[k]? = some (sysRunOpsFrom w (ops.take (k + 1))) :=
  trace_prefix sysStep sysRunOpsFrom sysTraceOpsFrom (fun _ => rfl)
    (fun w op _ => by cases h : sysStep w op <;> simp only [sysRunOpsFrom, h]) (fun _ => rfl)
    (fun w op _ => by cases h : sysStep w op <;> simp only [sysTraceOpsFrom, h]) ops

end Log4rs.System
