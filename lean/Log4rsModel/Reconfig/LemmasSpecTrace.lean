import Log4rsModel.Reconfig.Spec
import Log4rsModel.Reconfig.LemmasSwap
/-
The machine of Swap.lean satisfies the executable specification `specTrace` (the windowed form)
on EVERY event list: the link between the fold over the observable trace and the machine's state.
-/
namespace Log4rs.Reconfig

/-- what the observer's record and the machine's call have in common -/
def RecLinked (Q : Snapshot → Prop) (store : Snapshot) (r : RecInfo) (th : Thread) : Prop :=
  r.target = th.target ∧ r.level = th.level ∧ r.out = th.out ∧ r.ended = th.isDone ∧
  (∀ s, th.atLoad = some s → Q s ∧ (s.tag = r.curAtBegin ∨ s.tag ∈ r.window)) ∧
  (th.atLoad = none → (store.tag = r.curAtBegin ∨ store.tag ∈ r.window))

def SpecInv (Q : Snapshot → Prop) (sys : Sys) (st : TraceState) : Prop :=
  st.panicked = false ∧ st.malformed = false ∧ st.cur = sys.store.tag ∧ Q sys.store ∧
  st.recs.length = sys.threads.length ∧
  ∀ (tid : Nat) (r : RecInfo) (th : Thread), st.recs[tid]? = some r → sys.threads[tid]? = some th → RecLinked Q sys.store r th

theorem Thread.Inv.atLoad_none_not_done {th : Thread} (h : th.Inv) (hn : th.atLoad = none) :
    th.isDone = false := by
  rcases h.view with ⟨_, _, hd⟩ | ⟨s, _, hs, _⟩
  · exact hd
  · rw [hn] at hs; cases hs

/-- the observer's record of a call follows the call: what one step emits changes that record only,
and brings its deliveries and its completion to those of the stepped call -/
theorem Thread.step_feed (mode : LoadMode) (store : Snapshot) (tid : Nat) (th : Thread) (st : TraceState)
    (hnp : (th.step mode store tid).1.isPanicked = false) :
    ∃ g : RecInfo → RecInfo,
      (th.step mode store tid).2.foldl TraceState.feed st = { st with recs := st.recs.modify tid g } ∧
      ∀ r, r.out = th.out → r.ended = th.isDone →
        g r = { r with out := (th.step mode store tid).1.out, ended := (th.step mode store tid).1.isDone } := by
  obtain ⟨_, _, _, h⟩ := Thread.step_cases mode store tid th
  rcases h with ⟨ho, hout, hdone⟩ | ⟨tag, a, ho, hout, hdone⟩ | ⟨ho, hout, hdone⟩ | ⟨_, _, hpan⟩
  · exact ⟨id, by rw [ho, List.modify_id]; rfl, fun r h1 h2 => by rw [hout, hdone, ← h1, ← h2]; rfl⟩
  · exact ⟨_, by rw [ho]; rfl, fun r h1 h2 => by rw [hout, hdone, ← h1, ← h2]⟩
  · exact ⟨_, by rw [ho]; rfl, fun r h1 h2 => by rw [hout, hdone, ← h1]⟩
  · rw [hpan] at hnp; cases hnp

theorem SpecInv.apply {Q : Snapshot → Prop} {sys : Sys} {st : TraceState}
    (hinv : sys.Inv) (h : SpecInv Q sys st) (e : Event) (hq : ∀ s, e = .swap s → Q s) :
    SpecInv Q (sys.apply .once e)
      (((sys.apply .once e).trace.drop sys.trace.length).foldl TraceState.feed st) := by
  obtain ⟨hp, hm, hc, hqs, hlen, hrec⟩ := h
  cases e with
  | spawn t l =>
    simp only [Sys.apply, List.drop_left, List.foldl_cons, List.foldl_nil, TraceState.feed, hlen, if_true]
    refine ⟨hp, hm, hc, hqs, by simp [hlen], ?_⟩
    intro tid r th hr hth
    rw [List.getElem?_append, hlen] at hr
    rw [List.getElem?_append] at hth
    split at hth
    · rw [if_pos ‹_›] at hr; exact hrec tid r th hr hth
    · -- the new record and the new call: nothing loaded, nothing delivered
      rw [if_neg ‹_›] at hr
      generalize tid - sys.threads.length = n at hr hth
      cases n with
      | zero => cases hr; cases hth; exact ⟨rfl, rfl, rfl, rfl, nofun, fun _ => Or.inl hc.symm⟩
      | succ n => cases hth
  | swap s =>
    simp only [Sys.apply, List.drop_left, List.foldl_cons, List.foldl_nil, TraceState.feed]
    refine ⟨hp, hm, rfl, hq s rfl, by simp [hlen], ?_⟩
    intro tid r th hr hth
    obtain ⟨r0, hr0, rfl⟩ := Option.map_eq_some_iff.mp (List.getElem?_map .. ▸ hr)
    obtain ⟨h1, h2, h3, h4, h5, h6⟩ := hrec tid r0 th hr0 hth
    cases hend : r0.ended with
    | true =>
      -- a completed record is left alone; its call has loaded
      rw [if_pos rfl]
      refine ⟨h1, h2, h3, h4, h5, fun hn => ?_⟩
      have := (hinv.2 th (List.mem_of_getElem? hth)).atLoad_none_not_done hn
      rw [← h4, hend] at this; cases this
    | false =>
      -- the stored tag joins the window of a record still being processed
      rw [if_neg Bool.false_ne_true]
      refine ⟨h1, h2, h3, hend.symm.trans h4, fun s' hs' => ⟨(h5 s' hs').1, ?_⟩,
        fun _ => Or.inr (List.mem_append_right _ (List.mem_singleton_self _))⟩
      exact (h5 s' hs').2.imp_right (List.mem_append_left _)
  | step tid' =>
    simp only [Sys.apply]
    cases hg : sys.threads[tid']? with
    | none =>
      simp only [List.drop_length, List.foldl_nil]
      exact ⟨hp, hm, hc, hqs, hlen, hrec⟩
    | some th' =>
      obtain ⟨hlt', _⟩ := List.getElem?_eq_some_iff.mp hg
      have hthInv : th'.Inv := hinv.2 th' (List.mem_of_getElem? hg)
      have hlt0 : tid' < st.recs.length := hlen ▸ hlt'
      obtain ⟨r0, hr0⟩ : ∃ r0, st.recs[tid']? = some r0 := ⟨_, List.getElem?_eq_getElem hlt0⟩
      obtain ⟨h1, h2, h3, h4, h5, h6⟩ := hrec tid' r0 th' hr0 hg
      obtain ⟨htg, hlv, hat, _⟩ := Thread.step_cases .once sys.store tid' th'
      obtain ⟨g, hfd, hgr⟩ := Thread.step_feed .once sys.store tid' th' st
        (Thread.step_inv sys.store hinv.1 tid' th' hthInv).not_panicked
      simp only [List.drop_left, hfd]
      refine ⟨hp, hm, hc, hqs, by rw [List.length_modify, hlen, List.length_set], ?_⟩
      intro tid r th hr hth
      by_cases heq : tid' = tid
      · subst heq
        rw [List.getElem?_set_self hlt'] at hth
        rw [List.getElem?_modify_eq, hr0] at hr
        cases hth; cases hr
        rw [hgr r0 h3 h4]
        refine ⟨h1.trans htg.symm, h2.trans hlv.symm, rfl, rfl, ?_⟩
        -- what the stepped call has loaded is what it had loaded, or the store of this moment
        rcases hat with hat | ⟨hpc, hat⟩
        · rw [hat]; exact ⟨h5, h6⟩
        · rw [hat]
          refine ⟨fun s hs => ?_, nofun⟩
          cases hs
          rcases th' with ⟨_, _, pc, _, _⟩
          cases hpc
          exact ⟨hqs, h6 hthInv.1⟩
      · rw [List.getElem?_set_ne heq] at hth
        rw [List.getElem?_modify_ne _ _ heq] at hr
        exact hrec tid r th hr hth

theorem Sys.apply_trace (mode : LoadMode) (sys : Sys) (e : Event) :
    (sys.apply mode e).trace = sys.trace ++ (sys.apply mode e).trace.drop sys.trace.length := by
  cases e with
  | spawn t l => simp [Sys.apply]
  | swap s => simp [Sys.apply]
  | step tid =>
    simp only [Sys.apply]
    cases sys.threads[tid]? <;> simp

theorem SpecInv.run {Q : Snapshot → Prop} (hQ : ∀ s, Q s → s.WF) (st0 : TraceState) (evs : List Event) :
    ∀ (sys : Sys), sys.Inv → SpecInv Q sys (sys.trace.foldl TraceState.feed st0) →
      (∀ e ∈ evs, ∀ s, e = .swap s → Q s) →
      (sys.run .once evs).Inv ∧
        SpecInv Q (sys.run .once evs) ((sys.run .once evs).trace.foldl TraceState.feed st0) := by
  induction evs with
  | nil => intro sys hinv h _; exact ⟨hinv, h⟩
  | cons e rest ih =>
    intro sys hinv h hev
    have hq := hev e (List.mem_cons_self ..)
    have he : e.WF := by
      cases e with
      | swap s => exact hQ s (hq s rfl)
      | _ => trivial
    have h1 := SpecInv.apply hinv h e hq
    rw [← List.foldl_append, ← Sys.apply_trace] at h1
    exact ih _ (Sys.apply_inv sys hinv e he) h1 (fun e' he' => hev e' (List.mem_cons_of_mem _ he'))

/-- the verdict on a trace whose records are all complete and each routed under one configuration
of its window -/
theorem specTrace_of_recs (c0 : MiniCfg) (more : List MiniCfg) (strict : Bool) (trace : List Obs)
    (hp : (specState (c0 :: more) trace).panicked = false)
    (hm : (specState (c0 :: more) trace).malformed = false)
    (hall : ∀ r ∈ (specState (c0 :: more) trace).recs,
      r.ended = true ∧ recOk (c0 :: more) strict r = true) :
    specTrace (c0 :: more) strict trace = none := by
  have e1 : ((specState (c0 :: more) trace).recs.any fun r => !r.ended) = false :=
    List.any_eq_false.mpr fun r hr => by simp [(hall r hr).1]
  have e2 : ((specState (c0 :: more) trace).recs.any fun r =>
      !((c0 :: more).any fun c => prescribedBy c r.target r.level == r.out)) = false :=
    List.any_eq_false.mpr fun r hr => by
      obtain ⟨c, hc, hok⟩ := List.any_eq_true.mp (hall r hr).2
      have hany : ((c0 :: more).any fun c => prescribedBy c r.target r.level == r.out) = true :=
        List.any_eq_true.mpr ⟨c, hc, ((Bool.and_eq_true _ _).mp hok).2⟩
      rw [hany]; exact Bool.false_ne_true
  have e3 : ((specState (c0 :: more) trace).recs.any fun r => !(recOk (c0 :: more) strict r)) = false :=
    List.any_eq_false.mpr fun r hr => by simp [(hall r hr).2]
  simp only [specTrace, List.isEmpty_cons, hp, hm, e1, e2, e3, Bool.false_eq_true, if_false]

end Log4rs.Reconfig
