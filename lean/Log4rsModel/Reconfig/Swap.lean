import Log4rsModel.Base.Outcome
/-
C15 (a) — the snapshot swap. Model of `src/lib.rs`:

  struct SharedLogger { root, appenders, err_handler }          -- ONE value: tree + table + handler
  struct Logger(Arc<ArcSwap<SharedLogger>>)                      -- ONE pointer
  fn log(&self, record) { let shared = self.0.load();            -- step `load`
      shared.root.find(target)                                   -- step `find`
            .log(record, &shared.appenders)                      -- steps `deliver a₁ … deliver aₖ`
      for e in errs { (shared.err_handler)(&e) } }               -- step `handleErrors`
  fn set_config(&self, config) { let shared = SharedLogger::new(config); self.shared.store(Arc::new(shared)) }

The machine below runs any number of `log` calls ("threads") against one store. An *event list* is
an interleaving: `step tid` lets one log call take its next step, `swap s` stores a new snapshot
(by another thread, or re-entrantly by the appender the stepping thread is currently inside of —
`deliver` is split into "resolve index and enter `append`" and "return from `append`", so a swap
can fall inside a delivery), `spawn t l` starts a new log call (possibly nested inside an `append`).

`LoadMode.once` is the code as it is (the pointer is loaded once). The other load modes are
deliberately wrong variants; they exist only to show that the theorems distinguish them from the
code (non-vacuity).
-/
namespace Log4rs.Reconfig

abbrev AppenderId := Nat
abbrev Target := Nat
abbrev Level := Nat

/-- one `SharedLogger`: the tree (what `root.find(target)` yields: the found logger's level and
its appender indices) and the appender table, together -/
structure Snapshot where
  tag : Nat
  table : List AppenderId
  /-- `root.find(target).level` -/
  level : Target → Nat
  /-- `root.find(target).appenders`: indices into `table` -/
  apps : Target → List Nat

/-- `find` + the level gate of `ConfiguredLogger::log`: the indices the record fans out to -/
def Snapshot.route (s : Snapshot) (t : Target) (l : Level) : List Nat :=
  if s.level t ≥ l then s.apps t else []

/-- invariant of every snapshot `SharedLogger::new` builds: indices point into its own table -/
def Snapshot.WF (s : Snapshot) : Prop := ∀ t i, i ∈ s.apps t → i < s.table.length

theorem Snapshot.WF.route {s : Snapshot} (h : s.WF) (t : Target) (l : Level) (i : Nat)
    (hi : i ∈ s.route t l) : i < s.table.length := by
  unfold Snapshot.route at hi
  split at hi
  · exact h t i hi
  · cases hi

/-- a delivery: (tag of the snapshot whose table resolved the index, appender found there) -/
abbrev Delivery := Nat × AppenderId

/-- resolve a list of indices in the table of `s` (out-of-range indices are *not* silently
dropped by the machine — they panic; here they are dropped, and `resolve_length` shows nothing
is dropped for a well-formed snapshot) -/
def resolve (s : Snapshot) (idxs : List Nat) : List Delivery :=
  idxs.filterMap (fun i => (s.table[i]?).map (fun a => (s.tag, a)))

/-- what routing a record entirely under snapshot `s` delivers -/
def prescribed (s : Snapshot) (t : Target) (l : Level) : List Delivery :=
  resolve s (s.route t l)

/-! ### construction of a snapshot from a configuration (mirror of `SharedLogger::new`) -/

/-- a small configuration: appender table by name, root, and non-additive loggers one per target.
(The full tree is C01's subject; here only "tree and table are built together" matters.) -/
structure MiniCfg where
  tag : Nat
  table : List AppenderId                      -- appender names, table order
  rootLevel : Nat
  rootApps : List AppenderId                   -- names
  loggers : List (Target × Nat × List AppenderId)   -- target, level, appender names (additive = false)

def MiniCfg.valid (c : MiniCfg) : Bool :=
  c.table.Nodup && c.rootApps.all (c.table.contains ·) &&
  c.loggers.all (fun e => e.2.2.all (c.table.contains ·)) && (c.loggers.map (·.1)).Nodup

/-- `appender_map[name]`: name → index in the table -/
def nameIdx (table : List AppenderId) (name : AppenderId) : Option Nat :=
  let i := table.idxOf name
  if i < table.length then some i else none

def MiniCfg.effective (c : MiniCfg) (t : Target) : Nat × List AppenderId :=
  match c.loggers.find? (fun e => e.1 == t) with
  | some e => e.2
  | none => (c.rootLevel, c.rootApps)

/-- `SharedLogger::new`: names are turned into indices of *this* configuration's table -/
def mkSnapshot (c : MiniCfg) : Snapshot where
  tag := c.tag
  table := c.table
  level := fun t => (c.effective t).1
  apps := fun t => (c.effective t).2.filterMap (nameIdx c.table)

/-- `SharedLogger::new` as the code is: `appender_map[&**appender]` PANICS on a name that is not in
the table. (`Config::builder().build` never hands such a configuration over; that is `c.valid`.)
`mkSnapshot` above is the total function used on valid configurations. -/
def mkSnapshotO (c : MiniCfg) : Outcome Unit Snapshot :=
  if c.rootApps.all (c.table.contains ·) && c.loggers.all (fun e => e.2.2.all (c.table.contains ·)) then
    .ok (mkSnapshot c)
  else .panic "appender_map[name]: no such appender"

/-! ### the machine -/

inductive Pc where
  | init                                         -- before `self.0.load()`
  | loaded (s : Snapshot)                        -- pointer loaded, before `find`
  | fanout (s : Snapshot) (todo : List Nat)      -- about to resolve the head index
  | inAppend (s : Snapshot) (todo : List Nat)    -- inside `appenders[idx].append(record)`
  | errs (s : Snapshot)                          -- the error loop (uses `shared.err_handler`)
  | done
  | panicked

structure Thread where
  target : Target
  level : Level
  pc : Pc := .init
  /-- ghost: the value of the store at the moment this call executed `load` -/
  atLoad : Option Snapshot := none
  out : List Delivery := []

/-- what an observer (the capturing appenders, the harness) sees -/
inductive Obs where
  | begin (tid : Nat) (t : Target) (l : Level)
  | deliver (tid : Nat) (tag : Nat) (a : AppenderId)
  | swapped (tag : Nat)
  | fin (tid : Nat)
  | panic (tid : Nat)
  deriving Repr, DecidableEq

inductive Event where
  | spawn (t : Target) (l : Level)
  | step (tid : Nat)
  | swap (s : Snapshot)

structure Sys where
  store : Snapshot
  threads : List Thread := []
  trace : List Obs := []

/-- how a `log` call reads the shared pointer. `once` is the code. The other two are deliberately
wrong variants, present only so that the theorems can be seen to tell them from the code:
`everyStep` re-reads the pointer at every step; `gateThenReload` decides "is this record enabled"
on a first load and does find + fan-out on a second one (an early-return `if !self.enabled(..)`
in front of `let shared = self.0.load()`). -/
inductive LoadMode where
  | once | everyStep | gateThenReload
  deriving Repr, DecidableEq

def LoadMode.pick (m : LoadMode) (store s : Snapshot) : Snapshot :=
  match m with
  | .everyStep => store
  | _ => s

/-- one step of one `log` call. `mode = .once`: the code. -/
def Thread.step (mode : LoadMode) (store : Snapshot) (tid : Nat) (th : Thread) : Thread × List Obs :=
  match th.pc with
  | .init => ({ th with pc := .loaded store, atLoad := some store }, [])
  | .loaded s =>
    match mode with
    | .gateThenReload =>
      if s.level th.target ≥ th.level then ({ th with pc := .fanout store (store.apps th.target) }, [])
      else ({ th with pc := .fanout s [] }, [])
    | _ => ({ th with pc := .fanout s ((mode.pick store s).route th.target th.level) }, [])
  | .fanout s [] => ({ th with pc := .errs s }, [])
  | .fanout s (i :: todo) =>
    let cur := mode.pick store s
    match cur.table[i]? with
    | none => ({ th with pc := .panicked }, [.panic tid])      -- `appenders[idx]` out of bounds
    | some a => ({ th with pc := .inAppend s todo, out := th.out ++ [(cur.tag, a)] },
                 [.deliver tid cur.tag a])
  | .inAppend s todo => ({ th with pc := .fanout s todo }, [])
  | .errs _ => ({ th with pc := .done }, [.fin tid])
  | .done => (th, [])
  | .panicked => (th, [])

def Sys.apply (mode : LoadMode) (sys : Sys) : Event → Sys
  | .spawn t l =>
    { sys with threads := sys.threads ++ [{ target := t, level := l }],
               trace := sys.trace ++ [.begin sys.threads.length t l] }
  | .swap s => { sys with store := s, trace := sys.trace ++ [.swapped s.tag] }
  | .step tid =>
    match sys.threads[tid]? with
    | none => sys
    | some th =>
      let r := th.step mode sys.store tid
      { sys with threads := sys.threads.set tid r.1, trace := sys.trace ++ r.2 }

def Sys.run (mode : LoadMode) (sys : Sys) (evs : List Event) : Sys :=
  evs.foldl (Sys.apply mode) sys

def Thread.finished (th : Thread) : Bool :=
  match th.pc with
  | .done => true
  | .panicked => true
  | _ => false

/-! ### scripted scenarios (what the harness drives deterministically)

`ops` are performed one after the other by the main thread: `log t l` or `swap k` (index into the
case's configurations). An appender `(cfg tag, name)` may carry a script, executed from inside its
`append` for top-level records: `swap k` = `handle.set_config(cfg k)` re-entrantly, `log t l` = a
nested record logged from inside `append` (nested records never trigger scripts). The scheduler
below only *chooses the interleaving*; the run itself is `Sys.run` on the chosen event list. -/

inductive Act where
  | log (t : Target) (l : Level)
  | swap (k : Nat)
  deriving Repr, DecidableEq

structure Scenario where
  cfgs : List MiniCfg
  scripts : List (Nat × AppenderId × List Act)     -- (cfg tag, appender name, actions)
  ops : List Act

def Scenario.script (sc : Scenario) (tag : Nat) (a : AppenderId) : List Act :=
  match sc.scripts.find? (fun e => e.1 == tag && e.2.1 == a) with
  | some e => e.2.2
  | none => []

inductive Frame where
  | acts (depth : Nat) (as : List Act)
  | run (tid : Nat) (depth : Nat)

/-- the scheduler: returns the interleaving (event list) the scripted scenario produces -/
def schedule (sc : Scenario) : Nat → Sys → List Frame → List Event → List Event
  | 0, _, _, acc => acc.reverse
  | _, _, [], acc => acc.reverse
  | fuel + 1, sys, .acts _ [] :: rest, acc => schedule sc fuel sys rest acc
  | fuel + 1, sys, .acts d (.swap k :: as) :: rest, acc =>
    match sc.cfgs[k]? with
    | none => schedule sc fuel sys (.acts d as :: rest) acc
    | some c =>
      let ev := Event.swap (mkSnapshot c)
      schedule sc fuel (sys.apply .once ev) (.acts d as :: rest) (ev :: acc)
  | fuel + 1, sys, .acts d (.log t l :: as) :: rest, acc =>
    let ev := Event.spawn t l
    schedule sc fuel (sys.apply .once ev) (.run sys.threads.length d :: .acts d as :: rest) (ev :: acc)
  | fuel + 1, sys, .run tid d :: rest, acc =>
    match sys.threads[tid]? with
    | none => schedule sc fuel sys rest acc
    | some th =>
      if th.finished then schedule sc fuel sys rest acc
      else
        let ev := Event.step tid
        let r := th.step .once sys.store tid
        let inner : List Frame :=
          if d == 0 then
            match r.2 with
            | [.deliver _ tag a] => [.acts 1 (sc.script tag a)]
            | _ => []
          else []
        schedule sc fuel (sys.apply .once ev) (inner ++ .run tid d :: rest) (ev :: acc)

def Scenario.init (sc : Scenario) : Option Sys :=
  (sc.cfgs[0]?).map (fun c => { store := mkSnapshot c })

def Scenario.events (sc : Scenario) (sys : Sys) : List Event :=
  schedule sc 1000000 sys [.acts 0 sc.ops] []

/-- the model's observation of a scripted scenario -/
def Scenario.trace (sc : Scenario) : Option (List Obs) :=
  sc.init.map (fun sys => (sys.run .once (sc.events sys)).trace)

end Log4rs.Reconfig
