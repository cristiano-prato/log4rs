import Log4rsModel.Reconfig.Swap
/-
C15 (a), the snapshot machine: what one step of a `log` call does under any load discipline
(`Thread.step_cases`), the invariant of a call under the code's discipline and its preservation, one
call followed along a run (`Sys.run_thread`), the scripted scheduler, names against table indices,
and the deliveries an observer sees in the trace.
-/
namespace Log4rs.Reconfig

theorem nameIdx_lt {table : List AppenderId} {n : AppenderId} {i : Nat}
    (h : nameIdx table n = some i) : i < table.length := by
  unfold nameIdx at h
  simp only at h
  split at h
  · rename_i hlt; cases h; exact hlt
  · cases h

theorem resolve_nil (s : Snapshot) : resolve s [] = [] := rfl

theorem resolve_cons_some (s : Snapshot) (i : Nat) (todo : List Nat) (a : AppenderId)
    (h : s.table[i]? = some a) : resolve s (i :: todo) = (s.tag, a) :: resolve s todo := by
  simp [resolve, h]

/-- nothing is dropped when the indices are in range -/
theorem resolve_length (s : Snapshot) (idxs : List Nat) (h : ∀ i ∈ idxs, i < s.table.length) :
    (resolve s idxs).length = idxs.length := by
  induction idxs with
  | nil => rfl
  | cons i rest ih =>
    have hi : i < s.table.length := h i (by simp)
    have : s.table[i]? = some s.table[i] := List.getElem?_eq_getElem hi
    rw [resolve_cons_some s i rest _ this]
    simp [ih (fun j hj => h j (by simp [hj]))]

theorem mem_resolve {s : Snapshot} {idxs : List Nat} {d : Delivery} (h : d ∈ resolve s idxs) :
    ∃ i ∈ idxs, s.table[i]? = some d.2 ∧ d.1 = s.tag := by
  simp only [resolve, List.mem_filterMap] at h
  obtain ⟨i, hi, hd⟩ := h
  obtain ⟨a, ha, rfl⟩ := Option.map_eq_some_iff.mp hd
  exact ⟨i, hi, ha, rfl⟩

/-- the invariant of one `log` call under the code's discipline (pointer loaded once) -/
def Thread.Inv (th : Thread) : Prop :=
  match th.pc with
  | .init => th.atLoad = none ∧ th.out = []
  | .loaded s => th.atLoad = some s ∧ s.WF ∧ th.out = []
  | .fanout s todo => th.atLoad = some s ∧ s.WF ∧ (∀ i ∈ todo, i < s.table.length) ∧
      th.out ++ resolve s todo = prescribed s th.target th.level
  | .inAppend s todo => th.atLoad = some s ∧ s.WF ∧ (∀ i ∈ todo, i < s.table.length) ∧
      th.out ++ resolve s todo = prescribed s th.target th.level
  | .errs s => th.atLoad = some s ∧ s.WF ∧ th.out = prescribed s th.target th.level
  | .done => ∃ s, th.atLoad = some s ∧ s.WF ∧ th.out = prescribed s th.target th.level
  | .panicked => False

def Thread.isPanicked (th : Thread) : Bool :=
  match th.pc with
  | .panicked => true
  | _ => false

def Thread.isDone (th : Thread) : Bool :=
  match th.pc with
  | .done => true
  | _ => false

def Event.WF : Event → Prop
  | .swap s => s.WF
  | _ => True

def Sys.Inv (sys : Sys) : Prop := sys.store.WF ∧ ∀ th ∈ sys.threads, th.Inv

/-- one step of a `log` call, whatever the load discipline: target and level stay, `atLoad` is
written by the step from `init` only, and the step is silent, or one delivery that is also appended
to `out`, or the completion, or the panic -/
theorem Thread.step_cases (mode : LoadMode) (store : Snapshot) (tid : Nat) (th : Thread) :
    let r := th.step mode store tid
    r.1.target = th.target ∧ r.1.level = th.level ∧
    (r.1.atLoad = th.atLoad ∨ th.pc = .init ∧ r.1.atLoad = some store) ∧
    ((r.2 = [] ∧ r.1.out = th.out ∧ r.1.isDone = th.isDone) ∨
     (∃ tag a, r.2 = [.deliver tid tag a] ∧ r.1.out = th.out ++ [(tag, a)] ∧ r.1.isDone = th.isDone) ∨
     (r.2 = [.fin tid] ∧ r.1.out = th.out ∧ r.1.isDone = true) ∨
     (r.2 = [.panic tid] ∧ r.1.out = th.out ∧ r.1.isPanicked = true)) := by
  rcases th with ⟨t, l, pc, al, out⟩
  cases pc with
  | init => exact ⟨rfl, rfl, Or.inr ⟨rfl, rfl⟩, Or.inl ⟨rfl, rfl, rfl⟩⟩
  | loaded s =>
    cases mode with
    | gateThenReload =>
      dsimp only [Thread.step]
      split <;> exact ⟨rfl, rfl, Or.inl rfl, Or.inl ⟨rfl, rfl, rfl⟩⟩
    | _ => exact ⟨rfl, rfl, Or.inl rfl, Or.inl ⟨rfl, rfl, rfl⟩⟩
  | fanout s todo =>
    cases todo with
    | nil => exact ⟨rfl, rfl, Or.inl rfl, Or.inl ⟨rfl, rfl, rfl⟩⟩
    | cons i rest =>
      dsimp only [Thread.step]
      split
      · exact ⟨rfl, rfl, Or.inl rfl, Or.inr (Or.inr (Or.inr ⟨rfl, rfl, rfl⟩))⟩
      · exact ⟨rfl, rfl, Or.inl rfl, Or.inr (Or.inl ⟨_, _, rfl, rfl, rfl⟩)⟩
  | inAppend s todo => exact ⟨rfl, rfl, Or.inl rfl, Or.inl ⟨rfl, rfl, rfl⟩⟩
  | errs s => exact ⟨rfl, rfl, Or.inl rfl, Or.inr (Or.inr (Or.inl ⟨rfl, rfl, rfl⟩))⟩
  | done => exact ⟨rfl, rfl, Or.inl rfl, Or.inl ⟨rfl, rfl, rfl⟩⟩
  | panicked => exact ⟨rfl, rfl, Or.inl rfl, Or.inl ⟨rfl, rfl, rfl⟩⟩

theorem Thread.step_inv (store : Snapshot) (hs : store.WF) (tid : Nat) (th : Thread) (h : th.Inv) :
    (th.step .once store tid).1.Inv := by
  rcases th with ⟨t, l, pc, al, out⟩
  cases pc with
  | init => exact ⟨rfl, hs, h.2⟩
  | loaded s =>
    obtain ⟨h1, h2, h3⟩ := h
    exact ⟨h1, h2, fun i hi => h2.route _ _ i hi, by rw [show out = [] from h3]; rfl⟩
  | fanout s todo =>
    obtain ⟨h1, h2, h3, h4⟩ := h
    cases todo with
    | nil => exact ⟨h1, h2, (List.append_nil _).symm.trans h4⟩
    | cons i rest =>
      have hi : i < s.table.length := h3 i (List.mem_cons_self ..)
      have hget : s.table[i]? = some s.table[i] := List.getElem?_eq_getElem hi
      simp only [Thread.step, LoadMode.pick, hget]
      refine ⟨h1, h2, fun j hj => h3 j (List.mem_cons_of_mem _ hj), ?_⟩
      rw [← h4, resolve_cons_some s i rest _ hget, List.append_assoc]
      rfl
  | inAppend s todo => exact h
  | errs s => exact ⟨s, h⟩
  | done => exact h
  | panicked => exact h.elim

theorem Sys.apply_inv (sys : Sys) (h : sys.Inv) (e : Event) (he : e.WF) : (sys.apply .once e).Inv := by
  obtain ⟨hs, ht⟩ := h
  cases e with
  | spawn t l =>
    refine ⟨hs, ?_⟩
    intro th hth
    simp only [Sys.apply, List.mem_append, List.mem_singleton] at hth
    rcases hth with hth | rfl
    · exact ht th hth
    · exact ⟨rfl, rfl⟩
  | swap s =>
    exact ⟨he, ht⟩
  | step tid =>
    simp only [Sys.apply]
    cases hg : sys.threads[tid]? with
    | none => exact ⟨hs, ht⟩
    | some th =>
      refine ⟨hs, ?_⟩
      intro th' hth'
      simp only at hth'
      have hmem : th ∈ sys.threads := List.mem_of_getElem? hg
      rcases List.mem_or_eq_of_mem_set hth' with h1 | h1
      · exact ht th' h1
      · rw [h1]; exact Thread.step_inv sys.store hs tid th (ht th hmem)

theorem Sys.run_inv (sys : Sys) (h : sys.Inv) (evs : List Event) (hev : ∀ e ∈ evs, e.WF) :
    (sys.run .once evs).Inv := by
  induction evs generalizing sys with
  | nil => exact h
  | cons e rest ih =>
    simp only [Sys.run, List.foldl_cons]
    exact ih (sys.apply .once e) (Sys.apply_inv sys h e (hev e (List.mem_cons_self ..)))
      (fun e' he' => hev e' (List.mem_cons_of_mem _ he'))

/-- a property of the thread at position `tid` that every step keeps, as long as the store holds a
snapshot satisfying `P` whenever the thread steps, holds after any run whose swaps store such
snapshots only -/
theorem Sys.run_thread (mode : LoadMode) (tid : Nat) (P : Snapshot → Prop) (I : Thread → Prop)
    (hstep : ∀ th store, P store → I th → I (th.step mode store tid).1) (evs : List Event) :
    ∀ (sys : Sys) (th0 : Thread), P sys.store → (∀ s, Event.swap s ∈ evs → P s) →
      sys.threads[tid]? = some th0 → I th0 →
      ∃ th, (sys.run mode evs).threads[tid]? = some th ∧ I th := by
  induction evs with
  | nil => intro sys th0 _ _ h0 hI; exact ⟨th0, h0, hI⟩
  | cons e rest ih =>
    intro sys th0 hP hev h0 hI
    have hrest : ∀ s, Event.swap s ∈ rest → P s := fun s hs => hev s (List.mem_cons_of_mem _ hs)
    obtain ⟨hlt, _⟩ := List.getElem?_eq_some_iff.mp h0
    simp only [Sys.run, List.foldl_cons]
    cases e with
    | spawn t l =>
      exact ih _ th0 hP hrest (by simp only [Sys.apply]; rw [List.getElem?_append_left hlt]; exact h0) hI
    | swap s => exact ih _ th0 (hev s (List.mem_cons_self ..)) hrest h0 hI
    | step tid' =>
      have hst : (sys.apply mode (.step tid')).store = sys.store := by
        simp only [Sys.apply]; cases sys.threads[tid']? <;> rfl
      by_cases heq : tid' = tid
      · subst heq
        refine ih _ (th0.step mode sys.store tid').1 (hst ▸ hP) hrest ?_ (hstep th0 sys.store hP hI)
        simp only [Sys.apply, h0]
        exact List.getElem?_set_self hlt
      · refine ih _ th0 (hst ▸ hP) hrest ?_ hI
        simp only [Sys.apply]
        cases sys.threads[tid']? with
        | none => exact h0
        | some th' => simp only; rw [List.getElem?_set_ne heq]; exact h0

theorem Thread.Inv.not_panicked {th : Thread} (h : th.Inv) : th.isPanicked = false := by
  rcases th with ⟨t, l, pc, al, out⟩
  cases pc <;> first | rfl | exact h.elim

/-- the invariant in one piece: the call has not loaded yet and has delivered nothing, or it has
loaded `s` and its deliveries are a prefix of what `s` prescribes, all of it once it is done -/
theorem Thread.Inv.view {th : Thread} (h : th.Inv) :
    (th.atLoad = none ∧ th.out = [] ∧ th.isDone = false) ∨
    ∃ s rest, th.atLoad = some s ∧ s.WF ∧ th.out ++ rest = prescribed s th.target th.level ∧
      (th.isDone = true → rest = []) := by
  rcases th with ⟨t, l, pc, al, out⟩
  cases pc with
  | init => obtain ⟨h1, h2⟩ := h; exact Or.inl ⟨h1, h2, rfl⟩
  | loaded s =>
    obtain ⟨h1, h2, h3⟩ := h
    exact Or.inr ⟨s, prescribed s t l, h1, h2, by rw [show out = [] from h3]; rfl, nofun⟩
  | fanout s todo => obtain ⟨h1, h2, _, h4⟩ := h; exact Or.inr ⟨s, _, h1, h2, h4, nofun⟩
  | inAppend s todo => obtain ⟨h1, h2, _, h4⟩ := h; exact Or.inr ⟨s, _, h1, h2, h4, nofun⟩
  | errs s =>
    obtain ⟨h1, h2, h3⟩ := h
    exact Or.inr ⟨s, [], h1, h2, (List.append_nil _).trans h3, nofun⟩
  | done =>
    obtain ⟨s, h1, h2, h3⟩ := h
    exact Or.inr ⟨s, [], h1, h2, (List.append_nil _).trans h3, fun _ => rfl⟩
  | panicked => exact h.elim

theorem Thread.Inv.of_done {th : Thread} (h : th.Inv) (hd : th.isDone = true) :
    ∃ s, th.atLoad = some s ∧ s.WF ∧ th.out = prescribed s th.target th.level := by
  rcases h.view with ⟨_, _, hn⟩ | ⟨s, rest, h1, h2, h3, h4⟩
  · rw [hn] at hd; cases hd
  · rw [h4 hd, List.append_nil] at h3; exact ⟨s, h1, h2, h3⟩

/-- at every moment: the deliveries made so far are a prefix of what the loaded snapshot prescribes -/
theorem Thread.Inv.pre {th : Thread} (h : th.Inv) {s : Snapshot} (hs : th.atLoad = some s) :
    s.WF ∧ ∃ rest, th.out ++ rest = prescribed s th.target th.level := by
  rcases h.view with ⟨hn, _⟩ | ⟨s', rest, h1, h2, h3, _⟩
  · rw [hn] at hs; cases hs
  · rw [h1] at hs; cases hs; exact ⟨h2, rest, h3⟩

/-- spawns, steps, and swaps to the snapshot of one of the scenario's configurations -/
theorem schedule_mem (sc : Scenario) (P : Event → Prop) (hspawn : ∀ t l, P (.spawn t l))
    (hstep : ∀ tid, P (.step tid)) (hswap : ∀ c ∈ sc.cfgs, P (.swap (mkSnapshot c)))
    (fuel : Nat) (sys : Sys) (stack : List Frame) (acc : List Event)
    (hacc : ∀ e ∈ acc, P e) : ∀ e ∈ schedule sc fuel sys stack acc, P e := by
  fun_induction schedule sc fuel sys stack acc with
  | case1 => simpa using hacc
  | case2 => simpa using hacc
  | case3 _ _ _ _ _ ih => exact ih hacc
  | case4 _ _ _ _ _ _ _ _ ih => exact ih hacc
  | case5 _ _ _ _ _ _ _ c hk _ ih =>
    exact ih (List.forall_mem_cons.mpr ⟨hswap c (List.mem_of_getElem? hk), hacc⟩)
  | case6 _ _ _ _ _ _ _ _ _ ih => exact ih (List.forall_mem_cons.mpr ⟨hspawn _ _, hacc⟩)
  | case7 _ _ _ _ _ _ _ ih => exact ih hacc
  | case8 _ _ _ _ _ _ _ _ _ ih => exact ih hacc
  | case9 _ _ _ _ _ _ _ _ _ _ _ _ ih => exact ih (List.forall_mem_cons.mpr ⟨hstep _, hacc⟩)

theorem nameIdx_of_mem {table : List AppenderId} {n : AppenderId} (h : n ∈ table) :
    nameIdx table n = some (table.idxOf n) ∧ table[table.idxOf n]? = some n := by
  have hlt : table.idxOf n < table.length := List.idxOf_lt_length_of_mem h
  refine ⟨by simp [nameIdx, hlt], ?_⟩
  rw [List.getElem?_eq_getElem hlt, List.getElem_idxOf hlt]

theorem resolve_names (tag : Nat) (table : List AppenderId) (level : Target → Nat) (apps : Target → List Nat)
    (names : List AppenderId) (h : ∀ n ∈ names, n ∈ table) :
    resolve { tag, table, level, apps } (names.filterMap (nameIdx table)) = names.map (fun n => (tag, n)) := by
  induction names with
  | nil => rfl
  | cons n rest ih =>
    obtain ⟨h1, h2⟩ := nameIdx_of_mem (h n (by simp))
    have := ih (fun m hm => h m (by simp [hm]))
    simp only [List.filterMap_cons, h1, List.map_cons]
    rw [resolve_cons_some _ _ _ n (by simpa using h2), this]

theorem MiniCfg.effective_mem (c : MiniCfg) (hv : c.valid = true) (t : Target) :
    ∀ n ∈ (c.effective t).2, n ∈ c.table := by
  simp only [MiniCfg.valid, Bool.and_eq_true, List.all_eq_true, List.contains_iff_mem] at hv
  obtain ⟨⟨⟨_, hroot⟩, hlog⟩, _⟩ := hv
  intro n hn
  unfold MiniCfg.effective at hn
  split at hn
  · rename_i e he
    have hmem := List.mem_of_find?_eq_some he
    exact hlog e hmem n hn
  · exact hroot n hn

/-- the deliveries of call `tid` as they appear in the observable trace -/
def delivOf (tid : Nat) : Obs → Option Delivery
  | .deliver t tag a => if t = tid then some (tag, a) else none
  | _ => none

def Sys.TraceInv (sys : Sys) : Prop :=
  ∀ tid, sys.trace.filterMap (delivOf tid) = ((sys.threads[tid]?).map (·.out)).getD []

theorem Thread.step_obs (mode : LoadMode) (store : Snapshot) (tid : Nat) (th : Thread) :
    (th.step mode store tid).1.out = th.out ++ (th.step mode store tid).2.filterMap (delivOf tid) ∧
    ∀ tid', tid' ≠ tid → (th.step mode store tid).2.filterMap (delivOf tid') = [] := by
  obtain ⟨_, _, _, h⟩ := Thread.step_cases mode store tid th
  rcases h with ⟨ho, hout, _⟩ | ⟨tag, a, ho, hout, _⟩ | ⟨ho, hout, _⟩ | ⟨ho, hout, _⟩ <;> rw [ho, hout]
  · exact ⟨(List.append_nil _).symm, fun _ _ => rfl⟩
  · exact ⟨by simp [delivOf], fun tid' hne => by simp [delivOf, Ne.symm hne]⟩
  · exact ⟨(List.append_nil _).symm, fun _ _ => rfl⟩
  · exact ⟨(List.append_nil _).symm, fun _ _ => rfl⟩

theorem Sys.apply_traceInv (mode : LoadMode) (sys : Sys) (h : sys.TraceInv) (e : Event) :
    (sys.apply mode e).TraceInv := by
  intro tid
  -- an observation that is no delivery leaves the deliveries seen in the trace as they were
  have htr : ∀ o, delivOf tid o = none →
      (sys.trace ++ [o]).filterMap (delivOf tid) = sys.trace.filterMap (delivOf tid) := by
    intro o ho
    rw [List.filterMap_append, List.filterMap_cons_none ho]
    exact List.append_nil _
  cases e with
  | spawn t l =>
    -- the new call has delivered nothing
    simp only [Sys.apply, htr (.begin ..) rfl, h tid, List.getElem?_append]
    split
    · rfl
    · rename_i hge
      rw [List.getElem?_eq_none (Nat.le_of_not_lt hge)]
      cases tid - sys.threads.length <;> rfl
  | swap s =>
    simp only [Sys.apply, htr (.swapped _) rfl, h tid]
  | step tid' =>
    simp only [Sys.apply]
    cases hg : sys.threads[tid']? with
    | none => exact h tid
    | some th' =>
      obtain ⟨ho1, ho2⟩ := Thread.step_obs mode sys.store tid' th'
      simp only [List.filterMap_append, h tid, List.getElem?_set]
      by_cases heq : tid' = tid
      · subst heq
        obtain ⟨hlt, hget⟩ := List.getElem?_eq_some_iff.mp hg
        simp [hlt, hget, ho1]
      · simp [heq, ho2 tid (Ne.symm heq)]

theorem Sys.run_traceInv (mode : LoadMode) (evs : List Event) :
    ∀ (sys : Sys), sys.TraceInv → (sys.run mode evs).TraceInv := by
  induction evs with
  | nil => intro sys h; exact h
  | cons e rest ih =>
    intro sys h
    simp only [Sys.run, List.foldl_cons]
    exact ih _ (Sys.apply_traceInv mode sys h e)

/-! ### witnesses used by the non-vacuity theorems of Properties/C15.lean -/

def wOld : Snapshot := { tag := 0, table := [10, 11, 12], level := fun _ => 5, apps := fun _ => [0, 2] }
def wSmall : Snapshot := { tag := 1, table := [20], level := fun _ => 5, apps := fun _ => [0] }
def wBig : Snapshot := { tag := 1, table := [20, 21, 22], level := fun _ => 5, apps := fun _ => [1] }
/-- a configuration that switches the record's level off -/
def wQuiet : Snapshot := { tag := 1, table := [20, 21, 22], level := fun _ => 1, apps := fun _ => [1] }

theorem wOld_WF : wOld.WF := by
  intro t i hi; simp [wOld] at hi ⊢; omega
theorem wSmall_WF : wSmall.WF := by
  intro t i hi; simp [wSmall] at hi ⊢; omega
theorem wBig_WF : wBig.WF := by
  intro t i hi; simp [wBig] at hi ⊢; omega
theorem wQuiet_WF : wQuiet.WF := by
  intro t i hi; simp [wQuiet] at hi ⊢; omega

/-- the interleaving for the double-load variant: the swap falls between the first load (the
"is it enabled" check) and the second (find + fan-out) -/
def wEventsEarly (new : Snapshot) : List Event :=
  [.spawn 0 3, .step 0, .swap new, .step 0, .step 0, .step 0, .step 0, .step 0, .step 0, .step 0]

/-- the interleaving: one record; the appender at fan-out position 0 calls `set_config` from
inside `append` (the swap falls between "enter append" and "return from append") -/
def wEvents (new : Snapshot) : List Event :=
  [.spawn 0 3, .step 0, .step 0, .step 0, .swap new, .step 0, .step 0, .step 0, .step 0, .step 0]

def outs (sys : Sys) : List (List Delivery × Bool × Bool) :=
  sys.threads.map (fun th => (th.out, th.isDone, th.isPanicked))

end Log4rs.Reconfig
