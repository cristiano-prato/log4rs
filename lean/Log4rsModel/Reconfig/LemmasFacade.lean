import Log4rsModel.Reconfig.Facade
import Log4rsModel.Reconfig.LemmasSwap
/-
Helper lemmas for the two-write `set_config` (Facade.lean).
-/
namespace Log4rs.Reconfig

/-- at most one call is between its two writes, and the gate is that call's — or, when there is
none, that of the configuration whose snapshot is stored -/
def FSys.Consistent (cfgs : List MiniCfg) (s : FSys) : Prop :=
  s.atHook.length ≤ 1 ∧ s.maxLevel = cfgMax cfgs (s.atHook.head?.getD s.store)

theorem FSys.init_consistent (cfgs : List MiniCfg) : (FSys.init cfgs).Consistent cfgs :=
  ⟨Nat.zero_le _, rfl⟩

/-- with no call between its two writes the gate is that of the stored configuration -/
theorem FSys.Consistent.quiescent {cfgs : List MiniCfg} {s : FSys} (h : s.Consistent cfgs)
    (hq : s.quiescent = true) : s.maxLevel = cfgMax cfgs s.store := by
  simp only [FSys.quiescent, Bool.and_eq_true, List.isEmpty_iff] at hq
  have h2 := h.2
  rw [hq.1] at h2
  exact h2

theorem eq_singleton_of_mem {k : Nat} {l : List Nat} (hk : k ∈ l) (h1 : l.length ≤ 1) : l = [k] := by
  match l, hk, h1 with
  | [a], hk, _ => rw [List.mem_singleton.mp hk]
  | _ :: _ :: _, _, h1 => exact absurd h1 (by simp)

theorem FSys.apply_consistent (serialised : Bool) (cfgs : List MiniCfg) (s : FSys) (e : FEvent)
    (h : s.Consistent cfgs) (hone : (s.apply serialised cfgs e).atHook.length ≤ 1) :
    (s.apply serialised cfgs e).Consistent cfgs := by
  obtain ⟨h1, h2⟩ := h
  refine ⟨hone, ?_⟩
  cases e with
  | enter k =>
    simp only [FSys.apply] at hone ⊢
    by_cases hdup : (s.atHook.contains k || s.waiting.contains k || s.done.contains k) = true
    · rw [if_pos hdup]; exact h2
    · rw [if_neg hdup] at hone ⊢
      by_cases hw : (serialised && !s.atHook.isEmpty) = true
      · rw [if_pos hw]; exact h2
      · -- the call writes its level; by `hone` it is alone between the writes
        rw [if_neg hw] at hone ⊢
        have : s.atHook = [] := List.eq_nil_of_length_eq_zero (by simpa using hone)
        simp [this]
  | finish k =>
    simp only [FSys.apply] at hone ⊢
    by_cases hk : (!s.atHook.contains k) = true
    · rw [if_pos hk]; exact h2
    · -- `k` is the call between the writes: the gate is `k`'s, and `k` is what gets stored
      rw [if_neg hk]
      have hs : s.atHook = [k] := eq_singleton_of_mem (by simpa using hk) h1
      have h2' : s.maxLevel = cfgMax cfgs k := by rw [h2, hs]; rfl
      cases serialised with
      | false => simp [hs, h2']
      | true => cases s.waiting <;> simp [hs, h2']

/-- the serialised variant never has two calls between their writes -/
theorem FSys.apply_serialised_one (cfgs : List MiniCfg) (s : FSys) (e : FEvent)
    (h : s.atHook.length ≤ 1) : (s.apply true cfgs e).atHook.length ≤ 1 := by
  cases e with
  | enter k =>
    simp only [FSys.apply]
    by_cases hdup : (s.atHook.contains k || s.waiting.contains k || s.done.contains k) = true
    · rw [if_pos hdup]; exact h
    · rw [if_neg hdup]
      by_cases hw : (true && !s.atHook.isEmpty) = true
      · rw [if_pos hw]; exact h
      · rw [if_neg hw]
        have : s.atHook = [] := by simpa using hw
        simp [this]
  | finish k =>
    simp only [FSys.apply]
    by_cases hk : (!s.atHook.contains k) = true
    · rw [if_pos hk]; exact h
    · rw [if_neg hk]
      cases s.waiting with
      | nil => exact Nat.le_trans List.length_erase_le h
      | cons w ws => exact Nat.le_refl 1

theorem FSys.run_serialised_consistent (cfgs : List MiniCfg) (evs : List FEvent) :
    ∀ s : FSys, s.Consistent cfgs → (s.run true cfgs evs).Consistent cfgs := by
  induction evs with
  | nil => intro s h; exact h
  | cons e rest ih =>
    intro s h
    simp only [FSys.run, List.foldl_cons]
    exact ih _ (FSys.apply_consistent true cfgs s e h (FSys.apply_serialised_one cfgs s e h.1))

theorem FSys.run_consistent_of_one (serialised : Bool) (cfgs : List MiniCfg) (evs : List FEvent) :
    ∀ s : FSys, s.Consistent cfgs →
      (∀ s' ∈ FSys.states serialised cfgs s evs, s'.atHook.length ≤ 1) →
      (s.run serialised cfgs evs).Consistent cfgs := by
  induction evs with
  | nil => intro s h _; exact h
  | cons e rest ih =>
    intro s h hall
    simp only [FSys.run, List.foldl_cons]
    have hnext : (s.apply serialised cfgs e).atHook.length ≤ 1 := by
      apply hall
      simp only [FSys.states, List.mem_cons]
      right
      cases rest <;> simp [FSys.states]
    apply ih _ (FSys.apply_consistent serialised cfgs s e h hnext)
    intro s' hs'
    exact hall s' (by simp [FSys.states, hs'])

/-! ### the gate never produces a mixture for a single record -/

theorem MiniCfg.effective_le_max (c : MiniCfg) (t : Target) : (c.effective t).1 ≤ c.maxLevel := by
  have hfold : ∀ (ls : List (Target × Nat × List AppenderId)) (m : Nat),
      m ≤ ls.foldl (fun m e => max m e.2.1) m ∧ ∀ e ∈ ls, e.2.1 ≤ ls.foldl (fun m e => max m e.2.1) m := by
    intro ls
    induction ls with
    | nil => exact fun m => ⟨Nat.le_refl m, nofun⟩
    | cons a r ih =>
      intro m
      obtain ⟨hm, hr⟩ := ih (max m a.2.1)
      refine ⟨Nat.le_trans (Nat.le_max_left ..) hm, fun e he => ?_⟩
      rcases List.mem_cons.mp he with rfl | he
      · exact Nat.le_trans (Nat.le_max_right ..) hm
      · exact hr e he
  unfold MiniCfg.effective MiniCfg.maxLevel
  split
  · rename_i e he
    exact (hfold c.loggers c.rootLevel).2 e (List.mem_of_find?_eq_some he)
  · exact (hfold c.loggers c.rootLevel).1

/-- a record above a configuration's max level is routed nowhere by that configuration: being
dropped by the facade gate is "routed entirely under it" -/
theorem prescribed_above_max (c : MiniCfg) (t : Target) (l : Level) (h : c.maxLevel < l) :
    prescribed (mkSnapshot c) t l = [] := by
  have hn : ¬ (mkSnapshot c).level t ≥ l := fun hge =>
    Nat.lt_irrefl _ (Nat.lt_of_lt_of_le h (Nat.le_trans hge (c.effective_le_max t)))
  unfold prescribed Snapshot.route
  rw [if_neg hn]
  rfl

def fc0 : MiniCfg := { tag := 0, table := [10], rootLevel := 3, rootApps := [10], loggers := [] }
def fc1 : MiniCfg := { tag := 1, table := [20], rootLevel := 5, rootApps := [20], loggers := [] }
def fc2 : MiniCfg := { tag := 2, table := [30], rootLevel := 1, rootApps := [30], loggers := [] }
/-- A writes its level, B writes its level, B stores, A stores -/
def fRace : List FEvent := [.enter 1, .enter 2, .finish 2, .finish 1]

end Log4rs.Reconfig
