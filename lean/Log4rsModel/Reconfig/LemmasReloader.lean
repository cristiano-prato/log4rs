import Log4rsModel.Reconfig.Spec
/-
C15 (b). One `run_once` is the mtime rule (`readsOne`: does this poll read the file;
`nextModified`: which mtime it remembers afterwards) followed by what a text that was read does
(`applyText`, `textAction`: comparison with the remembered source, parse, `set_config`).
`runOnce_eq` is that decomposition; what is said about single polls, about histories and about the
executable specification is read off it.
-/
namespace Log4rs.Reconfig.Reloader

section
variable {Text : Type}

/-- the remembered mtime after one `run_once` -/
def nextModified (fixed : Bool) (last : Option Mtime) (fv : FileView Text) : Option Mtime :=
  match last with
  | none => none
  | some l =>
    match fv.mtime? with
    | none => some l
    | some m => if l = m then some l else if fixed && fv.text?.isNone then some l else some m

/-- the text one `run_once` reads, if it gets as far as a successful `read_config` -/
def readsOne (last : Option Mtime) (fv : FileView Text) : Option Text :=
  match last with
  | none => fv.text?
  | some l =>
    match fv.mtime? with
    | none => none
    | some m => if l = m then none else fv.text?

/-- what a `run_once` answers that does not get as far as a successful `read_config` -/
def skipAction (last : Option Mtime) (fv : FileView Text) : Action :=
  match last, fv.mtime? with
  | some l, some m => if l = m then .unchanged else .error
  | _, _ => .error

theorem skipAction_quiet (last : Option Mtime) (fv : FileView Text) :
    skipAction last fv ≠ .applied ∧ skipAction last fv ≠ .dead := by
  unfold skipAction
  split
  · split <;> exact ⟨nofun, nofun⟩
  · exact ⟨nofun, nofun⟩

theorem readsOne_of_text_none {fv : FileView Text} (h : fv.text? = none) (last : Option Mtime) :
    readsOne last fv = none := by
  unfold readsOne
  cases last with
  | none => exact h
  | some l => simp only [h, ite_self]; cases fv.mtime? <;> rfl

theorem readsOne_ok (last : Option Mtime) (m : Mtime) (t : Text) :
    readsOne last (.ok m t) = if last = some m then none else some t := by
  cases last with
  | none => rfl
  | some l => simp [readsOne, FileView.mtime?, FileView.text?]

theorem readsOne_some {last : Option Mtime} {fv : FileView Text} {t : Text}
    (h : readsOne last fv = some t) : fv.text? = some t := by
  cases fv with
  | ok m t' =>
    rw [readsOne_ok] at h
    split at h
    · cases h
    · exact h
  | _ => rw [readsOne_of_text_none rfl] at h; cases h

theorem nextModified_unreadable (fixed : Bool) (last : Option Mtime) (m : Mtime) :
    nextModified fixed last (.unreadable m : FileView Text) =
      if fixed then last else last.map (fun _ => m) := by
  cases last with
  | none => cases fixed <;> rfl
  | some l =>
    by_cases hlm : l = m <;> cases fixed <;> simp [nextModified, FileView.mtime?, FileView.text?, hlm]

theorem nextModified_ok (fixed : Bool) (last : Option Mtime) (m : Mtime) (t : Text) :
    nextModified fixed last (.ok m t) = last.map (fun _ => m) := by
  cases last with
  | none => rfl
  | some l => by_cases hlm : l = m <;> simp [nextModified, FileView.mtime?, FileView.text?, hlm]

/-- a second look at the same file view reads nothing the first look did not read -/
theorem readsOne_again (fixed : Bool) (last : Option Mtime) (fv : FileView Text) (t : Text)
    (h : readsOne (nextModified fixed last fv) fv = some t) : readsOne last fv = some t := by
  cases last with
  | none => exact h
  | some l =>
    cases fv with
    | missing => cases h
    | unreadable m => rw [readsOne_of_text_none rfl] at h; cases h
    | ok m t' =>
      rw [nextModified_ok, readsOne_ok] at h
      simp at h

theorem nextModified_idem (fixed : Bool) (last : Option Mtime) (fv : FileView Text) :
    nextModified fixed (nextModified fixed last fv) fv = nextModified fixed last fv := by
  cases fv with
  | missing => cases last <;> rfl
  | unreadable m => simp only [nextModified_unreadable]; cases fixed <;> cases last <;> rfl
  | ok m t => simp only [nextModified_ok]; cases last <;> rfl

end

section
variable {Text : Type} [DecidableEq Text] (parse : Text → Option (ConfigTag × Option Rate))

/-- the effect of having read text `t` (everything in `run_once` after `read_config`) -/
def applyText (st : RState Text) (t : Text) : RState Text :=
  if t = st.source then st
  else match parse t with
    | none => { st with source := t }
    | some (c, r) => { st with source := t, active := c, rate := r.getD st.rate, alive := r.isSome }

/-- what a `run_once` answers that read text `t` while remembering `src` -/
def textAction (src t : Text) : Action :=
  if t = src then .unchanged
  else match parse t with
    | none => .error
    | some _ => .applied

/-- the three things a text that was read can be: the remembered one, a new one that does not
parse (remembered, nothing else), a new one that parses (applied) -/
theorem applyText_cases (st : RState Text) (t : Text) :
    (t = st.source ∧ applyText parse st t = st ∧ textAction parse st.source t = .unchanged) ∨
    (t ≠ st.source ∧ parse t = none ∧ applyText parse st t = { st with source := t } ∧
      textAction parse st.source t = .error) ∨
    (t ≠ st.source ∧ ∃ c r, parse t = some (c, r) ∧
      applyText parse st t = { st with source := t, active := c, rate := r.getD st.rate, alive := r.isSome } ∧
      textAction parse st.source t = .applied) := by
  unfold applyText textAction
  by_cases ht : t = st.source
  · exact Or.inl ⟨ht, if_pos ht, if_pos ht⟩
  · rw [if_neg ht, if_neg ht]
    cases parse t with
    | none => exact Or.inr (Or.inl ⟨ht, rfl, rfl, rfl⟩)
    | some p => exact Or.inr (Or.inr ⟨ht, p.1, p.2, rfl, rfl, rfl⟩)

theorem applyText_source (st : RState Text) (t : Text) : (applyText parse st t).source = t := by
  rcases applyText_cases parse st t with ⟨ht, h, _⟩ | ⟨_, _, h, _⟩ | ⟨_, _, _, _, h, _⟩ <;> rw [h]
  exact ht.symm

theorem applyText_with_modified (st : RState Text) (t : Text) (m : Option Mtime) :
    applyText parse { st with modified := m } t = { applyText parse st t with modified := m } := by
  unfold applyText
  by_cases ht : t = st.source
  · rw [if_pos ht, if_pos ht]
  · rw [if_neg ht, if_neg ht]
    cases parse t <;> rfl

theorem readAndApply_eq (st : RState Text) (fv : FileView Text) :
    readAndApply parse st fv = match fv.text? with
      | none => (st, .error)
      | some t => (applyText parse st t, textAction parse st.source t) := by
  unfold readAndApply applyText textAction
  cases fv.text? with
  | none => rfl
  | some t =>
    by_cases ht : t = st.source
    · simp only [if_pos ht]
    · simp only [if_neg ht]
      cases parse t <;> rfl

theorem runOnce_eq (fixed : Bool) (st : RState Text) (fv : FileView Text) :
    runOnce parse fixed st fv =
      match readsOne st.modified fv with
      | none => ({ st with modified := nextModified fixed st.modified fv }, skipAction st.modified fv)
      | some t => ({ applyText parse st t with modified := nextModified fixed st.modified fv },
                   textAction parse st.source t) := by
  rcases st with ⟨μ, src, a, r, al⟩
  cases μ with
  | none =>
    simp only [runOnce, readAndApply_eq, readsOne, nextModified, ← applyText_with_modified]
    cases fv.text? <;> rfl
  | some l =>
    simp only [runOnce, readsOne, nextModified, skipAction]
    cases fv.mtime? with
    | none => rfl
    | some m =>
      by_cases hlm : l = m
      · simp only [if_pos hlm]
      · simp only [if_neg hlm, readAndApply_eq, ← applyText_with_modified]
        cases fv.text? <;> cases fixed <;> rfl

theorem runOnce_missing (fixed : Bool) (st : RState Text) :
    runOnce parse fixed st .missing = (st, .error) := by
  rcases st with ⟨μ, src, a, r, al⟩
  cases μ <;> rfl

theorem runOnce_unreadable (fixed : Bool) (st : RState Text) (m : Mtime) :
    runOnce parse fixed st (.unreadable m) =
      ({ st with modified := if fixed then st.modified else st.modified.map (fun _ => m) },
       skipAction st.modified (.unreadable m : FileView Text)) := by
  rw [runOnce_eq, readsOne_of_text_none rfl, nextModified_unreadable]

theorem runOnce_ok_same (fixed : Bool) (st : RState Text) (m : Mtime) (t : Text)
    (h : st.modified = some m) : runOnce parse fixed st (.ok m t) = (st, .unchanged) := by
  simp [runOnce, h, FileView.mtime?]

theorem runOnce_ok_read (fixed : Bool) (st : RState Text) (m : Mtime) (t : Text)
    (h : st.modified ≠ some m) :
    runOnce parse fixed st (.ok m t) =
      ({ applyText parse st t with modified := st.modified.map (fun _ => m) },
       textAction parse st.source t) := by
  rw [runOnce_eq, readsOne_ok, if_neg h, nextModified_ok]

theorem runOnce_ne_dead (fixed : Bool) (st : RState Text) (fv : FileView Text) :
    (runOnce parse fixed st fv).2 ≠ .dead := by
  rw [runOnce_eq]
  cases readsOne st.modified fv with
  | none => exact (skipAction_quiet _ _).2
  | some t =>
    rcases applyText_cases parse st t with ⟨_, _, h⟩ | ⟨_, _, _, h⟩ | ⟨_, _, _, _, _, h⟩ <;>
      simp only [h] <;> nofun

theorem poll_alive (fixed : Bool) {st : RState Text} (fv : FileView Text) (h : st.alive = true) :
    poll parse fixed st fv = runOnce parse fixed st fv := if_pos h

theorem poll_dead (fixed : Bool) {st : RState Text} (fv : FileView Text) (h : st.alive = false) :
    poll parse fixed st fv = (st, .dead) := by
  simp [poll, h]

/-- the texts read by a history of `run_once` calls (the mtime rule, nothing else) -/
def reads (fixed : Bool) : Option Mtime → List (FileView Text) → List Text
  | _, [] => []
  | last, fv :: rest => (readsOne last fv).toList ++ reads fixed (nextModified fixed last fv) rest

/-- the remembered mtime after a history -/
def finalModified (fixed : Bool) : Option Mtime → List (FileView Text) → Option Mtime
  | last, [] => last
  | last, fv :: rest => finalModified fixed (nextModified fixed last fv) rest

/-- change detection: the texts that differ from the one remembered at the time they are read -/
def changes (src : Text) : List Text → List Text
  | [] => []
  | t :: rest => if t = src then changes src rest else t :: changes t rest

/-- what a sequence of *changed* texts leaves behind: a text that parses replaces configuration,
rate and liveness; a text that does not parse replaces nothing -/
def lastGood (init : ConfigTag × Rate × Bool) (ts : List Text) : ConfigTag × Rate × Bool :=
  ts.foldl (fun acc t => match parse t with
    | none => acc
    | some (c, r) => (c, r.getD acc.2.1, r.isSome)) init

theorem foldl_applyText_with_modified (ts : List Text) (st : RState Text) (m : Option Mtime) :
    ts.foldl (applyText parse) { st with modified := m } = { ts.foldl (applyText parse) st with modified := m } := by
  induction ts generalizing st with
  | nil => rfl
  | cons t rest ih =>
    simp only [List.foldl_cons, applyText_with_modified, ih]

theorem stepAll_cons (fixed : Bool) (st : RState Text) (fv : FileView Text) (rest : List (FileView Text)) :
    stepAll parse fixed st (fv :: rest) = stepAll parse fixed (runOnce parse fixed st fv).1 rest := rfl

theorem stepAll_eq (fixed : Bool) (h : List (FileView Text)) (st : RState Text) :
    stepAll parse fixed st h =
      { (reads fixed st.modified h).foldl (applyText parse) st with
        modified := finalModified fixed st.modified h } := by
  induction h generalizing st with
  | nil => rfl
  | cons fv rest ih =>
    rw [stepAll_cons, ih, runOnce_eq]
    simp only [reads, finalModified]
    cases readsOne st.modified fv with
    | none =>
      simp only [Option.toList_none, List.nil_append]
      rw [foldl_applyText_with_modified]
    | some t =>
      simp only [Option.toList_some, List.cons_append, List.nil_append, List.foldl_cons]
      rw [foldl_applyText_with_modified]

theorem foldl_applyText (ts : List Text) (st : RState Text) :
    let r := ts.foldl (applyText parse) st
    (r.active, r.rate, r.alive) = lastGood parse (st.active, st.rate, st.alive) (changes st.source ts) ∧
    r.source = ((changes st.source ts).getLast?).getD st.source := by
  induction ts generalizing st with
  | nil => exact ⟨rfl, rfl⟩
  | cons t rest ih =>
    simp only [List.foldl_cons, changes]
    rcases applyText_cases parse st t with ⟨ht, he, _⟩ | ⟨ht, hp, he, _⟩ | ⟨ht, c, r, hp, he, _⟩
    · rw [he, if_pos ht]; exact ih st
    · rw [he, if_neg ht, List.getLast?_cons]
      refine ⟨(ih _).1.trans ?_, (ih _).2⟩
      simp only [lastGood, List.foldl_cons, hp]
    · rw [he, if_neg ht, List.getLast?_cons]
      refine ⟨(ih _).1.trans ?_, (ih _).2⟩
      simp only [lastGood, List.foldl_cons, hp]

def obsOf (a : Action) (st : RState Text) : PollObs :=
  { action := a, active := st.active, rate := st.rate, alive := st.alive }

def Linked (id : Ideal Text) (st : RState Text) : Prop :=
  id.prev.active = st.active ∧ id.prev.rate = st.rate ∧ id.prev.alive = st.alive ∧
  (st.alive = true → id.remM = st.modified ∧ id.remText = st.source)

def SafeStep (fixed : Bool) (st : RState Text) (fv : FileView Text) : Prop :=
  fixed = true ∨ st.modified = none ∨ ∀ m, fv ≠ .unreadable m

/-! what the ideal observer remembers after a poll: the (mtime, text) of a readable file whose
mtime differs from the remembered one, otherwise what it remembered before -/

theorem specPoll_snd_ok (id : Ideal Text) (m : Mtime) (t : Text) (o : PollObs) :
    (specPoll parse id (.ok m t) o).2 =
      if id.remM = some m then { id with prev := o }
      else { remM := id.remM.map (fun _ => m), remText := t, prev := o } := by
  unfold specPoll
  rcases id with ⟨remM, remText, prev⟩
  cases remM with
  | none => rfl
  | some l =>
    by_cases h : l = m
    · simp only [FileView.mtime?, h, bne_self_eq_false, Bool.false_eq_true, if_false, if_true]
    · simp only [FileView.mtime?, bne_iff_ne, ne_eq, h, not_false_eq_true, if_true, Option.some.injEq, if_false, Option.map_some]

/-- one poll of the model is accepted by the ideal observer, and the observer's memory stays that
of the model: by the form of the file view, then by what the text that was read is. In each case
the verdict is read off `specPoll` unfolded on the model's answer. -/
theorem specPoll_step (fixed : Bool) (id : Ideal Text) (st : RState Text) (fv : FileView Text)
    (hl : Linked id st) (hs : SafeStep fixed st fv) :
    let r := poll parse fixed st fv
    (specPoll parse id fv (obsOf r.2 r.1)).1 = none ∧ Linked (specPoll parse id fv (obsOf r.2 r.1)).2 r.1 := by
  obtain ⟨h1, h2, h3, h4⟩ := hl
  cases ha : st.alive with
  | false =>
    have hpa : id.prev.alive = false := h3.trans ha
    simp only [poll_dead parse fixed fv ha]
    refine ⟨by simp [specPoll, obsOf, hpa, h1, h2, ha], ?_⟩
    cases fv with
    | ok m t =>
      rw [specPoll_snd_ok]
      split <;> exact ⟨rfl, rfl, rfl, fun h => by rw [ha] at h; cases h⟩
    | _ => exact ⟨rfl, rfl, rfl, fun h => by rw [ha] at h; cases h⟩
  | true =>
    obtain ⟨hM, hT⟩ := h4 ha
    have hpa : id.prev.alive = true := h3.trans ha
    simp only [poll_alive parse fixed fv ha]
    cases fv with
    | missing =>
      rw [runOnce_missing]
      exact ⟨by simp [specPoll, untouched, obsOf, hpa, h1, h2, ha], ⟨rfl, rfl, rfl, fun _ => ⟨hM, hT⟩⟩⟩
    | unreadable m =>
      have hmod : (if fixed then st.modified else st.modified.map (fun _ => m)) = st.modified := by
        rcases hs with rfl | hs | hs
        · rfl
        · rw [hs]; cases fixed <;> rfl
        · exact absurd rfl (hs m)
      obtain ⟨hq1, hq2⟩ := skipAction_quiet st.modified (.unreadable m : FileView Text)
      rw [runOnce_unreadable, hmod]
      exact ⟨by simp [specPoll, untouched, obsOf, hpa, h1, h2, ha, hq1, hq2],
        ⟨rfl, rfl, rfl, fun _ => ⟨hM, hT⟩⟩⟩
    | ok m t =>
      by_cases hm : st.modified = some m
      · rw [runOnce_ok_same parse fixed st m t hm, specPoll_snd_ok, if_pos (hM.trans hm)]
        refine ⟨?_, ⟨rfl, rfl, rfl, fun _ => ⟨hM, hT⟩⟩⟩
        cases hp : parse t <;> simp [specPoll, untouched, obsOf, hpa, h1, h2, ha, hM, hm, hp, FileView.mtime?]
      · rw [runOnce_ok_read parse fixed st m t hm, specPoll_snd_ok, if_neg (fun e => hm (hM.symm.trans e)), hM]
        rcases applyText_cases parse st t with ⟨ht, he, ha'⟩ | ⟨ht, hp, he, ha'⟩ | ⟨ht, c, r, hp, he, ha'⟩ <;>
          rw [he, ha']
        · refine ⟨?_, ⟨rfl, rfl, rfl, fun _ => ⟨rfl, ht⟩⟩⟩
          have hT' : id.remText = t := hT.trans ht.symm
          cases hp : parse t <;> simp [specPoll, untouched, obsOf, hpa, h1, h2, ha, hT', hp]
        · exact ⟨by simp [specPoll, untouched, obsOf, hpa, h1, h2, ha, hp],
            ⟨rfl, rfl, rfl, fun _ => ⟨rfl, rfl⟩⟩⟩
        · refine ⟨?_, ⟨rfl, rfl, rfl, fun _ => ⟨rfl, rfl⟩⟩⟩
          have ht' : t ≠ id.remText := fun e => ht (e.trans hT)
          cases r <;> simp [specPoll, appliedAs, obsOf, hpa, h2, hp, ht']

/-- the model's observation of a history, paired with the file views (what the driver hands to the Spec) -/
def modelPolls (fixed : Bool) : RState Text → List (FileView Text) → List (FileView Text × PollObs)
  | _, [] => []
  | st, fv :: rest =>
    let r := poll parse fixed st fv
    (fv, obsOf r.2 r.1) :: modelPolls fixed r.1 rest

theorem modelPolls_eq_zip (fixed : Bool) (h : List (FileView Text)) (st : RState Text) :
    modelPolls parse fixed st h = List.zip h ((pollAll parse fixed st h).map (fun p => obsOf p.1 p.2)) := by
  induction h generalizing st with
  | nil => rfl
  | cons fv rest ih => simp [modelPolls, pollAll, ih]

def Safe (fixed : Bool) (st : RState Text) (h : List (FileView Text)) : Prop :=
  fixed = true ∨ st.modified = none ∨ ∀ fv ∈ h, ∀ m, fv ≠ .unreadable m

theorem poll_modified_none (fixed : Bool) (st : RState Text) (fv : FileView Text)
    (h : st.modified = none) : (poll parse fixed st fv).1.modified = none := by
  unfold poll
  split
  · rw [runOnce_eq, h]
    cases readsOne none fv <;> rfl
  · exact h

theorem specPolls_model (fixed : Bool) (h : List (FileView Text)) :
    ∀ (st : RState Text) (id : Ideal Text) (i : Nat), Linked id st → Safe fixed st h →
      specPolls parse id i (modelPolls parse fixed st h) = none := by
  induction h with
  | nil => intro st id i _ _; rfl
  | cons fv rest ih =>
    intro st id i hl hs
    have hstep : SafeStep fixed st fv := hs.imp_right (Or.imp_right (fun h1 => h1 fv (by simp)))
    obtain ⟨hv, hl'⟩ := specPoll_step parse fixed id st fv hl hstep
    simp only [modelPolls, specPolls]
    cases hsp : specPoll parse id fv (obsOf (poll parse fixed st fv).2 (poll parse fixed st fv).1) with
    | mk v id' =>
      rw [hsp] at hv hl'
      cases hv
      exact ih _ _ _ hl' (hs.imp_right (Or.imp (poll_modified_none parse fixed st fv)
        (fun h1 fv' hfv' => h1 fv' (by simp [hfv']))))

/-- from `init_file` on: the initial observation and every poll of any history -/
theorem specHistory_model (fixed : Bool) (m0 : Option Mtime) (text0 : Text) (st0 : RState Text)
    (hinit : initState parse m0 text0 = some st0) (h : List (FileView Text)) (hs : Safe fixed st0 h) (a : Action) :
    specHistory parse m0 text0 (obsOf a st0) (modelPolls parse fixed st0 h) = none := by
  unfold initState at hinit
  unfold specHistory
  cases hp : parse text0 with
  | none => simp [hp] at hinit
  | some p =>
    obtain ⟨c, r⟩ := p
    simp only [hp, Option.some.injEq] at hinit
    subst hinit
    have hspec := specPolls_model parse fixed h _ { remM := m0, remText := text0, prev := obsOf a _ } 1
      ⟨rfl, rfl, rfl, fun _ => ⟨rfl, rfl⟩⟩ hs
    cases r <;> simp [obsOf] at hspec ⊢ <;> exact hspec

/-- "stat, then read": whatever edit lands between the two looks, the history that follows
satisfies the specification (the remembered mtime is the older one, the remembered text the newer) -/
theorem specHistory2_model_statsFirst (fixed noMtime : Bool) (v1 v2 : FileView Text) (st0 : RState Text)
    (h : List (FileView Text)) (hinit : initState2 parse true noMtime v1 v2 = some st0)
    (hs : Safe fixed st0 h) (a : Action) :
    specHistory2 parse noMtime v1 v2 (obsOf a st0) (modelPolls parse fixed st0 h) = none := by
  unfold initState2 at hinit
  simp only [if_true] at hinit
  cases hv : v2.text? with
  | none => simp [hv] at hinit
  | some text =>
    simp only [hv] at hinit
    unfold initState at hinit
    cases hp : parse text with
    | none => simp [hp] at hinit
    | some p =>
      obtain ⟨c, r⟩ := p
      simp only [hp, Option.some.injEq] at hinit
      -- the observer that remembers `v1`'s mtime and `v2`'s text accepts the history
      have hgo : goInit parse noMtime (obsOf a st0) (modelPolls parse fixed st0 h) v1 v2 = none := by
        simp only [goInit, hv]
        exact specPolls_model parse fixed h _ _ 1
          ⟨rfl, rfl, rfl, fun _ => by rw [← hinit]; exact ⟨rfl, rfl⟩⟩ hs
      have hfit : fitsInit parse (obsOf a st0) v2 = true := by
        rw [← hinit]; cases r <;> simp [fitsInit, hv, hp, obsOf]
      unfold specHistory2
      rw [if_pos]
      rw [List.any_eq_true]
      exact ⟨(v1, v2), List.mem_filter.mpr ⟨by simp, hfit⟩, by rw [hgo]; rfl⟩

theorem runAll_cons (fixed : Bool) (st : RState Text) (fv : FileView Text) (rest : List (FileView Text)) :
    runAll parse fixed st (fv :: rest) = runAll parse fixed (poll parse fixed st fv).1 rest := rfl

/-- once the loop of `run` has ended nothing is read or applied any more -/
theorem runAll_dead (fixed : Bool) (h : List (FileView Text)) (st : RState Text) (hd : st.alive = false) :
    runAll parse fixed st h = st := by
  induction h with
  | nil => rfl
  | cons fv rest ih => rw [runAll_cons, poll_dead parse fixed fv hd]; exact ih

/-- no text that gets applied lacks a refresh rate -/
def NoRateRemoval (ts : List Text) : Prop := ∀ t ∈ ts, ∀ c, parse t ≠ some (c, none)

theorem runAll_eq_stepAll (fixed : Bool) (h : List (FileView Text)) :
    ∀ (st : RState Text), st.alive = true →
      NoRateRemoval parse (changes st.source (reads fixed st.modified h)) →
      runAll parse fixed st h = stepAll parse fixed st h := by
  induction h with
  | nil => intro st _ _; rfl
  | cons fv rest ih =>
    intro st ha hn
    rw [runAll_cons, stepAll_cons, poll_alive parse fixed fv ha, runOnce_eq]
    simp only [reads] at hn
    cases hr : readsOne st.modified fv with
    | none =>
      rw [hr] at hn
      exact ih _ ha hn
    | some t =>
      simp only [hr, Option.toList_some, List.cons_append, List.nil_append, changes] at hn
      rcases applyText_cases parse st t with ⟨ht, he, _⟩ | ⟨ht, hp, he, _⟩ | ⟨ht, c, r, hp, he, _⟩ <;>
        simp only [he]
      · rw [if_pos ht] at hn
        exact ih _ ha hn
      · rw [if_neg ht] at hn
        exact ih _ ha (fun t' ht' => hn t' (List.mem_cons_of_mem _ ht'))
      · rw [if_neg ht] at hn
        -- a text that is applied has a refresh rate: the loop goes on
        cases r with
        | none => exact absurd hp (hn t (List.mem_cons_self ..) c)
        | some x => exact ih _ rfl (fun t' ht' => hn t' (List.mem_cons_of_mem _ ht'))

/-- `lastGood` for the loop of `run`: once a text without a refresh rate has been applied the loop
has ended and later texts are not even looked at -/
def lastGoodRun : (ConfigTag × Rate × Bool) → List Text → (ConfigTag × Rate × Bool)
  | acc, [] => acc
  | acc, t :: ts =>
    if acc.2.2 then
      match parse t with
      | none => lastGoodRun acc ts
      | some (c, r) => lastGoodRun (c, r.getD acc.2.1, r.isSome) ts
    else acc

omit [DecidableEq Text] in
theorem lastGoodRun_dead (a : ConfigTag) (r : Rate) (ts : List Text) :
    lastGoodRun parse (a, r, false) ts = (a, r, false) := by
  cases ts <;> simp [lastGoodRun]

/-- the state after a poll remembers the text that poll read, so a second poll of the same file
view reads nothing or that very text: no change either way -/
theorem runOnce_idem (fixed : Bool) (st : RState Text) (fv : FileView Text) :
    (runOnce parse fixed (runOnce parse fixed st fv).1 fv).1 = (runOnce parse fixed st fv).1 ∧
    (runOnce parse fixed (runOnce parse fixed st fv).1 fv).2 ≠ .applied := by
  have hmod : (runOnce parse fixed st fv).1.modified = nextModified fixed st.modified fv := by
    rw [runOnce_eq]; cases readsOne st.modified fv <;> rfl
  rw [runOnce_eq parse fixed (runOnce parse fixed st fv).1, hmod, nextModified_idem]
  cases hr : readsOne (nextModified fixed st.modified fv) fv with
  | none =>
    refine ⟨?_, (skipAction_quiet _ _).1⟩
    simp only [← hmod]
  | some t =>
    have hsrc : (runOnce parse fixed st fv).1.source = t := by
      rw [runOnce_eq, readsOne_again fixed _ fv t hr]; exact applyText_source parse st t
    rcases applyText_cases parse (runOnce parse fixed st fv).1 t with ⟨_, he, ha⟩ | ⟨ht, _⟩ | ⟨ht, _⟩
    · simp only [he, ha, ← hmod]
      exact ⟨trivial, nofun⟩
    · exact absurd hsrc.symm ht
    · exact absurd hsrc.symm ht

theorem poll_idem (fixed : Bool) (st : RState Text) (fv : FileView Text) :
    (poll parse fixed (poll parse fixed st fv).1 fv).1 = (poll parse fixed st fv).1 ∧
    (poll parse fixed (poll parse fixed st fv).1 fv).2 ≠ .applied := by
  cases ha : st.alive with
  | false => simp only [poll_dead parse fixed fv ha]; exact ⟨trivial, nofun⟩
  | true =>
    rw [poll_alive parse fixed fv ha]
    cases ha2 : (runOnce parse fixed st fv).1.alive with
    | false => simp only [poll_dead parse fixed fv ha2]; exact ⟨trivial, nofun⟩
    | true => rw [poll_alive parse fixed fv ha2]; exact runOnce_idem parse fixed st fv

def tobsOf (p : Action × RState Text) : TObs :=
  { active := p.2.active, touched := p.1 == .applied, alive := p.2.alive, polled := true }

/-- every refresh rate a file can ask for is an ordinary (fast) one -/
def FastRates : Prop := ∀ t c r, parse t = some (c, some r) → r < slowRate

theorem poll_rate_fast (hf : FastRates parse) (fixed : Bool) (st : RState Text) (fv : FileView Text)
    (h : st.rate < slowRate) : (poll parse fixed st fv).1.rate < slowRate := by
  unfold poll
  split
  · rw [runOnce_eq]
    cases readsOne st.modified fv with
    | none => exact h
    | some t =>
      rcases applyText_cases parse st t with ⟨_, he, _⟩ | ⟨_, _, he, _⟩ | ⟨_, c, r, hp, he, _⟩ <;>
        simp only [he]
      · exact h
      · exact h
      · cases r with
        | none => exact h
        | some x => exact hf t c x hp
  · exact h

/-- with ordinary rates only, what the thread shows after each edit is what the poll history shows -/
theorem threadRun_fast (hf : FastRates parse) (fixed : Bool) (views : List (FileView Text)) :
    ∀ (st : RState Text) (cur : FileView Text), st.rate < slowRate →
      threadRun parse fixed st cur (views.map .edit) = (pollAll parse fixed st views).map tobsOf := by
  induction views with
  | nil => intro st cur _; rfl
  | cons fv rest ih =>
    intro st cur h
    simp only [List.map_cons, threadRun, pollAll, h, decide_true, if_true]
    rw [ih _ fv (poll_rate_fast parse hf fixed st fv h)]
    rfl

/-- the file views the loop actually polls, as the model's own rates decide -/
def polledViews (fixed : Bool) : RState Text → FileView Text → List (TStep Text) → List (FileView Text)
  | _, _, [] => []
  | st, cur, step :: rest =>
    let (view, polled) : FileView Text × Bool := match step with
      | .edit fv => (fv, decide (st.rate < slowRate))
      | .longWait => (cur, true)
    if polled then view :: polledViews fixed (poll parse fixed st view).1 view rest
    else polledViews fixed st view rest

end

/-! ### witnesses used by Properties/C15.lean -/

def wA : Doc := { kind := .good, tag := 1, rate := some 30, nonce := 0 }
def wB : Doc := { kind := .good, tag := 2, rate := some 60, nonce := 0 }
/-- the file becomes unreadable (here: mtime 11), then readable again with the new text and the
same mtime: witness case `C15 reload g:1:30:0;g:2:60:0 0:10:0 d:11,w:1:11` -/
def wHistory : List (FileView Doc) := [.unreadable 11, .ok 11 wB]
def wInit : RState Doc := { modified := some 10, source := wA, active := 1, rate := 30, alive := true }

def wBad : Doc := { kind := .syntax, tag := 9, rate := none, nonce := 0 }
def wNoRate : Doc := { kind := .good, tag := 3, rate := none, nonce := 0 }

end Log4rs.Reconfig.Reloader
