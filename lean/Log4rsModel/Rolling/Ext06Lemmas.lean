import Log4rsModel.Rolling.Ext06Spec
import Log4rsModel.Rolling.Ext17Roller
import Log4rsModel.Rolling.LemmasWindow
import Log4rsModel.Rolling.ExtOpen
/-
The model's histories (size trigger, any roller honouring `RollGone` and `RollErrKeeps`, restarts
with changed mode / limit, failing encoders, roller faults) satisfy the executable statement `Spec06`.
-/
namespace Log4rs.Rolling
open Log4rs.Roller

/-- what a FAILING roll may do to the log file: leave it as it is, or have removed it (a roller
that reports `Err` after doing its work) — never replace its content -/
def RollErrKeeps (roll : RollFn) (path : Path) : Prop :=
  ∀ fault d e d', roll path fault d = (.error e, d') → d'.get? path = d.get? path ∨ d'.get? path = none

theorem size_getD (d : Disk) (path : Path) :
    ((d.get? path).map List.length).getD 0 = ((d.get? path).getD []).length := by
  cases d.get? path <;> rfl

theorem sizeCfg_fire (path : Path) (am : Bool) (N : Nat) (roll : RollFn) (t : Unit) (L now : Nat) :
    ((sizeCfg path am N roll).trig.fire t L now).1 = if L > N then .yes else .no := rfl

/-- whatever the trigger and the roller, an operation that consults the policy shows it the true size -/
theorem applyX_consult {σ : Type} (cfg : Cfg σ) (s : St σ) (op : XOp) (hwf : WF cfg s) :
    ∀ out, (applyX cfg s op).1 = some out → ∀ c, out.consult = some c → c.1 = c.2 := by
  intro out hout c hc
  rcases op with (⟨r, f⟩ | _ | dt) | ⟨r, n, f⟩
  · obtain ⟨L, hL⟩ := (append_wf cfg s r (faultFn f) hwf).2
    obtain rfl : (append cfg s r (faultFn f)).1 = out := Option.some.inj hout
    obtain rfl : (L, L) = c := Option.some.inj (hL.symm.trans hc)
    rfl
  · cases hout
  · cases hout
  · obtain rfl : (appendFail cfg s r n (faultFn f)).1 = out := Option.some.inj hout
    cases hpre : cfg.trig.pre with
    | true =>
      obtain ⟨hcc, _⟩ := appendFail_pre_spec cfg s r n (faultFn f) hwf hpre
      obtain rfl := Option.some.inj (hcc.symm.trans hc)
      rfl
    | false =>
      rw [(appendFail_post_spec cfg s r n (faultFn f) hwf hpre).1] at hc
      cases hc

/-- One append under the size trigger, from a state between two operations. `a1` is the file with the
record in it: its length is what the policy is shown; within the limit the file stays as it is,
above it the roller runs on a disk `d1` holding `a1` and leaves the disk of the state afterwards. -/
theorem size_append (path : Path) (am : Bool) (N : Nat) (roll : RollFn) (s : St Unit)
    (hwf : WF (sizeCfg path am N roll) s) (r : Rec) (fault : Nat → Bool) :
    let cfg := sizeCfg path am N roll
    let a1 := fileOf cfg s.disk ++ encBytes r
    let out := (append cfg s r fault).1
    let s' := (append cfg s r fault).2
    out.consult = some (a1.length, a1.length) ∧
    (a1.length ≤ N → out.res = .ok ∧ out.rolled = none ∧ s'.disk.get? path = some a1) ∧
    (N < a1.length → ∃ d1 res d', d1.get? path = some a1 ∧ roll path fault d1 = (res, d') ∧ s'.disk = d' ∧
      ((∃ x, res = .ok x) ∧ out.res = .ok ∧ out.rolled = some true ∨
       (∃ e, res = .error e) ∧ out.res = .errRoll ∧ out.rolled = some false)) := by
  intro cfg a1 out s'
  obtain ⟨hc, _, _, _, hno, _, hyes⟩ := append_post_spec cfg s r fault hwf rfl
  rw [openView_of_opened cfg s hwf.1] at hc hno hyes
  have hfire := sizeCfg_fire path am N roll s.tst a1.length s.now
  refine ⟨hc, fun hle => ?_, fun hgt => ?_⟩
  · obtain ⟨h1, h2, ho, _⟩ := hno (hfire.trans (if_neg (Nat.not_lt.mpr hle)))
    exact ⟨h1, h2, ho.get⟩
  · obtain ⟨d1, hg1, _, _, hd, hres⟩ := hyes (hfire.trans (if_pos hgt))
    refine ⟨d1, _, _, hg1, rfl, hd, ?_⟩
    rcases hres with ⟨x, hx, h1, h2⟩ | ⟨e, he, h1, h2⟩
    · exact Or.inl ⟨⟨x, hx⟩, h1, h2⟩
    · exact Or.inr ⟨⟨e, he⟩, h1, h2⟩

namespace Spec06

theorem okEntry_append (path : Path) (roll : RollFn) (hgone : RollGone roll path) (herr : RollErrKeeps roll path)
    (s : St6) (hwf : WF (sizeCfg path s.am s.limit roll) s.st) (r : Rec) (f : Option Nat) :
    okEntry (sOf path s) (.arrive (encBytes r).length false) (entryOf path (apply6 path roll s (.x (.op (.append r f))))) = true := by
  obtain ⟨hc, hle, hgt⟩ := size_append path s.am s.limit roll s.st hwf r (faultFn f)
  have hsz : (sOf path s).size.getD 0 + (encBytes r).length =
      (fileOf (sizeCfg path s.am s.limit roll) s.st.disk ++ encBytes r).length := by
    rw [List.length_append]; exact congrArg (· + _) (size_getD _ _)
  simp only [okEntry, entryOf, apply6, applyX, applyOp, Option.map_some, Option.bind_some, hc, Option.toList_some,
    hsz, beq_self_eq_true, Bool.true_and]
  by_cases h : (fileOf (sizeCfg path s.am s.limit roll) s.st.disk ++ encBytes r).length ≤ s.limit
  · obtain ⟨h1, h2, h3⟩ := hle h
    rw [List.length_append] at h
    simp [sOf, h1, h2, h3, h]
  · have hg := Nat.lt_of_not_le h
    obtain ⟨d1, res, d', hg1, hroll, hd, hres⟩ := hgt hg
    rw [List.length_append] at hg
    rcases hres with ⟨⟨x, hx⟩, h1, h2⟩ | ⟨⟨e, he⟩, h1, h2⟩
    · have h3 := hgone _ _ _ _ (hx ▸ hroll)
      simp [sOf, h1, h2, hd, h3, hg]
    · rcases herr _ _ _ _ (he ▸ hroll) with h3 | h3 <;> simp [sOf, h1, h2, hd, h3, hg1, hg]

theorem okEntry_appendFail (path : Path) (roll : RollFn) (s : St6) (hwf : WF (sizeCfg path s.am s.limit roll) s.st)
    (r : Rec) (n : Nat) (f : Option Nat) :
    okEntry (sOf path s) (.arrive (encBytes r).length true) (entryOf path (apply6 path roll s (.x (.appendFail r n f)))) = true := by
  obtain ⟨hout, ho, _⟩ := appendFail_post_spec (sizeCfg path s.am s.limit roll) s.st r n (faultFn f) hwf rfl
  rw [openView_of_opened _ s.st hwf.1] at ho
  simp only [okEntry, entryOf, apply6, applyX]
  rw [hout, show (appendFail (sizeCfg path s.am s.limit roll) s.st r n (faultFn f)).2.disk.get? path = _ from ho.get]
  simp [sOf, size_getD, fileOf, sizeCfg]

theorem okEntry_reconf (path : Path) (roll : RollFn) (s : St6) (hwf : WF (sizeCfg path s.am s.limit roll) s.st)
    (am' : Bool) (n' : Nat) :
    ((build (sizeCfg path am' n' roll) (dropWriter (sizeCfg path s.am s.limit roll) s.st)).disk.get? path).map List.length =
      some (if am' then (sOf path s).size.getD 0 else 0) := by
  have hg := (rebuild_opened (sizeCfg path s.am s.limit roll) (sizeCfg path am' n' roll) rfl s.st hwf.2).get
  rw [show (build (sizeCfg path am' n' roll) (dropWriter (sizeCfg path s.am s.limit roll) s.st)).disk.get? path = _ from hg]
  cases am'
  · rfl
  · exact congrArg some (size_getD _ _).symm

theorem WF_apply6 (path : Path) (roll : RollFn) (s : St6) (hwf : WF (sizeCfg path s.am s.limit roll) s.st) (op : Op6) :
    WF (sizeCfg path (apply6 path roll s op).2.am (apply6 path roll s op).2.limit roll) (apply6 path roll s op).2.st := by
  cases op with
  | reconf am' n' => exact WF_build _ _
  | x o => exact WF_applyX _ s.st o hwf

theorem step6 (path : Path) (roll : RollFn) (hgone : RollGone roll path) (herr : RollErrKeeps roll path)
    (s : St6) (hwf : WF (sizeCfg path s.am s.limit roll) s.st) (op : Op6) :
    okEntry (sOf path s) (evOf s op) (entryOf path (apply6 path roll s op)) = true ∧
    next (sOf path s) (evOf s op) (entryOf path (apply6 path roll s op)) = sOf path (apply6 path roll s op).2 := by
  -- a restart is a reconfiguration with the parameters in force
  have hreconf : ∀ am' n', okEntry (sOf path s) (.restart am' n') (entryOf path (apply6 path roll s (.reconf am' n'))) = true := by
    intro am' n'
    simp only [okEntry, entryOf, apply6]
    rw [okEntry_reconf path roll s hwf am' n']
    simp
  rcases op with ((⟨r, f⟩ | _ | dt) | ⟨r, n, f⟩) | ⟨am', n'⟩
  · exact ⟨okEntry_append path roll hgone herr s hwf r f, rfl⟩
  · exact ⟨hreconf s.am s.limit, rfl⟩
  · exact ⟨by simp [okEntry, evOf, entryOf, apply6, applyX, applyOp, sOf], rfl⟩
  · exact ⟨okEntry_appendFail path roll s hwf r n f, rfl⟩
  · exact ⟨hreconf am' n', rfl⟩

theorem trace6_meets_spec (path : Path) (roll : RollFn) (hgone : RollGone roll path) (herr : RollErrKeeps roll path)
    (ops : List Op6) (s : St6) (hwf : WF (sizeCfg path s.am s.limit roll) s.st) (k : Nat) :
    go k (sOf path s) (evsOf path roll s ops) ((trace6 path roll s ops).map (entryOf path)) = none := by
  induction ops generalizing s k with
  | nil => rfl
  | cons op ops ih =>
    obtain ⟨h1, h3⟩ := step6 path roll hgone herr s hwf op
    simp only [evsOf, trace6, List.map_cons, go, h1, if_true]
    rw [h3]
    exact ih _ (WF_apply6 path roll s hwf op) _

/-- the state after a history -/
def final6 (path : Path) (roll : RollFn) (s : St6) (ops : List Op6) : St6 :=
  ops.foldl (fun s op => (apply6 path roll s op).2) s

theorem WF_final6 (path : Path) (roll : RollFn) (ops : List Op6) (s : St6) (hwf : WF (sizeCfg path s.am s.limit roll) s.st) :
    WF (sizeCfg path (final6 path roll s ops).am (final6 path roll s ops).limit roll) (final6 path roll s ops).st := by
  induction ops generalizing s with
  | nil => exact hwf
  | cons op ops ih => exact ih _ (WF_apply6 path roll s hwf op)

theorem WF_init6 (path : Path) (roll : RollFn) (am : Bool) (limit : Nat) (d : Disk) (now : Nat) :
    WF (sizeCfg path (init6 path roll am limit d now).am (init6 path roll am limit d now).limit roll)
      (init6 path roll am limit d now).st := WF_init _ d () now

end Spec06

theorem rollGone_lateWrap (roll : RollFn) (path : Path) (hg : RollGone roll path) : RollGone (Spec17.lateWrap roll) path := by
  intro fault d x d' h
  obtain ⟨g, res, d'', hr, h1 | ⟨_, h2⟩⟩ := lateWrap_run roll path fault d
  · obtain ⟨rfl, rfl⟩ := Prod.mk.inj (h.symm.trans h1)
    exact hg g d x d' hr
  · cases (Prod.mk.inj (h.symm.trans h2)).1

theorem rollErrKeeps_lateWrap (roll : RollFn) (path : Path) (hg : RollGone roll path) (hk : RollErrKeeps roll path) :
    RollErrKeeps (Spec17.lateWrap roll) path := by
  intro fault d e d' h
  obtain ⟨g, res, d'', hr, h1 | ⟨⟨x, rfl⟩, h2⟩⟩ := lateWrap_run roll path fault d
  · obtain ⟨rfl, rfl⟩ := Prod.mk.inj (h.symm.trans h1)
    exact hk g d e d' hr
  · obtain rfl := (Prod.mk.inj (h.symm.trans h2)).2
    exact Or.inr (hg g d x d' hr)

theorem rollErrKeeps_of_contract (roll : RollFn) (path : Path) (arch : Disk → List Bytes)
    (hc : RollContract roll path arch) : RollErrKeeps roll path :=
  fun fault d e d' h => Or.inl (hc.err fault d e d' h).1

end Log4rs.Rolling
