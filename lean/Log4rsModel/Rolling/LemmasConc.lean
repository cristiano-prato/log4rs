import Log4rsModel.Rolling.Lemmas
/-
The lock machine of the file appender (C04): an invariant preserved by every step of every
thread, hence true in every state any schedule can reach.
-/
namespace Log4rs.Rolling

theorem logOf_append_self (s : CState) (i : Nat) (r : Rec) (s' : CState) (h : s'.log = s.log ++ [(i, r)]) :
    s'.logOf i = s.logOf i ++ [r] := by
  simp [CState.logOf, h, List.filter_append]

theorem logOf_append_ne (s : CState) (i j : Nat) (r : Rec) (s' : CState) (h : s'.log = s.log ++ [(i, r)])
    (hne : j ≠ i) : s'.logOf j = s.logOf j := by
  simp [CState.logOf, h, filter_fst_append_ne _ _ hne]

theorem committed_append (s : CState) (i : Nat) (r : Rec) (s' : CState) (h : s'.log = s.log ++ [(i, r)]) :
    s'.committed = s.committed ++ encBytes r := by
  simp [CState.committed, h]

/-- what is true of thread `j` in state `s` -/
def TOk (progs : List (List Rec)) (log : List (Nat × Rec)) (j : Nat) (t : Thread) : Prop :=
  (∃ p, progs[j]? = some p ∧ t.acked ++ t.todo = p) ∧
  (match t.pc with
   | .idle => (log.filter (fun e => e.1 == j)).map (·.2) = t.acked
   | .writing r dn rest =>
     (log.filter (fun e => e.1 == j)).map (·.2) = t.acked ∧ (∃ tl, t.todo = r :: tl) ∧ [encBytes r] = dn ++ rest
   | .flushed r => (log.filter (fun e => e.1 == j)).map (·.2) = t.acked ++ [r] ∧ (∃ tl, t.todo = r :: tl))

/-- what the lock protects -/
def LockOk (init0 : Bytes) (s : CState) : Prop :=
  match s.holder with
  | none => (∀ (j : Nat) (t : Thread), s.threads[j]? = some t → t.pc = Pc.idle) ∧ s.w.buf = [] ∧ s.w.disk = init0 ++ s.committed
  | some h =>
    ∃ t, s.threads[h]? = some t ∧ (∀ (j : Nat) (t' : Thread), j ≠ h → s.threads[j]? = some t' → t'.pc = Pc.idle) ∧
      (match t.pc with
       | .idle => False
       | .writing _ dn _ => ∃ p, s.w.disk = init0 ++ s.committed ++ p ∧ p ++ s.w.buf = dn.flatten
       | .flushed _ => s.w.buf = [] ∧ s.w.disk = init0 ++ s.committed)

structure CInv (progs : List (List Rec)) (init0 : Bytes) (s : CState) : Prop where
  threadsOk : ∀ j t, s.threads[j]? = some t → TOk progs s.log j t
  lockOk : LockOk init0 s

theorem CInv.init (m : OpenMode) (pre : Option Bytes) (progs : List (List Rec)) :
    CInv progs (openContent m pre) (CState.init m pre progs) := by
  constructor
  · intro j t h
    simp only [CState.init, List.getElem?_map, Option.map_eq_some_iff] at h
    obtain ⟨p, hp, rfl⟩ := h
    exact ⟨⟨p, hp, by simp⟩, by simp [CState.init]⟩
  · simp only [LockOk, CState.init]
    refine ⟨?_, rfl, by simp [CState.committed, FileAppender.build]⟩
    intro j t h
    simp only [List.getElem?_map, Option.map_eq_some_iff] at h
    obtain ⟨p, _, rfl⟩ := h
    rfl

/-- a thread inside `append` holds the lock: the others are idle and the lock's clause for its
program counter holds -/
theorem LockOk.of_busy {init0 : Bytes} {s : CState} {i : Nat} {t : Thread} (lk : LockOk init0 s)
    (hti : s.threads[i]? = some t) (hpc : t.pc ≠ .idle) :
    s.holder = some i ∧ (∀ (j : Nat) (t' : Thread), j ≠ i → s.threads[j]? = some t' → t'.pc = Pc.idle) ∧
      (match t.pc with
       | .idle => False
       | .writing _ dn _ => ∃ p, s.w.disk = init0 ++ s.committed ++ p ∧ p ++ s.w.buf = dn.flatten
       | .flushed _ => s.w.buf = [] ∧ s.w.disk = init0 ++ s.committed) := by
  cases hh : s.holder with
  | none =>
    simp only [LockOk, hh] at lk
    exact absurd (lk.1 i t hti) hpc
  | some h =>
    simp only [LockOk, hh] at lk
    obtain ⟨th, hth, hoth, hbody⟩ := lk
    by_cases hih : i = h
    · subst hih
      rw [hti] at hth
      cases hth
      exact ⟨rfl, hoth, hbody⟩
    · exact absurd (hoth i t hih hti) hpc

theorem CInv.step {progs : List (List Rec)} {init0 : Bytes} {s s' : CState} {i : Nat}
    (inv : CInv progs init0 s) (hstep : stepThread i s = some s') : CInv progs init0 s' := by
  unfold stepThread at hstep
  cases hti : s.threads[i]? with
  | none => simp [hti] at hstep
  | some t =>
    have hi : i < s.threads.length := (List.getElem?_eq_some_iff.mp hti).1
    have tok := inv.threadsOk i t hti
    simp only [hti] at hstep
    cases hpc : t.pc with
    | idle =>
      simp only [hpc] at hstep
      cases htodo : t.todo with
      | nil => simp [htodo] at hstep
      | cons r tl =>
        cases hh : s.holder with
        | some h => simp [htodo, hh] at hstep
        | none =>
          simp only [htodo, hh] at hstep
          have hs' := (Option.some.inj hstep).symm
          subst hs'
          have lk := inv.lockOk
          simp only [LockOk, hh] at lk
          obtain ⟨hidle, hbuf, hdisk⟩ := lk
          constructor
          · intro j t1 h1
            rcases getElem?_set_cases h1 hi with ⟨rfl, rfl⟩ | ⟨_, h2⟩
            · obtain ⟨⟨pp, hp1, hp2⟩, hl⟩ := tok
              simp only [hpc] at hl
              exact ⟨⟨pp, hp1, by simpa [htodo] using hp2⟩, by simp [hl]⟩
            · exact inv.threadsOk j t1 h2
          · simp only [LockOk]
            refine ⟨_, List.getElem?_set_self hi, ?_, ?_⟩
            · intro j t1 hne h1
              rw [List.getElem?_set_ne (fun e => hne e.symm)] at h1
              exact hidle j t1 h1
            · exact ⟨[], by simpa [CState.committed] using hdisk, by simp [hbuf]⟩
    | writing r dn rest =>
      simp only [hpc] at hstep
      obtain ⟨hold, hoth, hbody⟩ := inv.lockOk.of_busy hti (by rw [hpc]; exact nofun)
      simp only [hpc] at hbody
      obtain ⟨p, hdisk, hpb⟩ := hbody
      obtain ⟨hp, hl⟩ := tok
      simp only [hpc] at hl
      obtain ⟨hlog, ⟨tl, htodo⟩, hr⟩ := hl
      cases hrest : rest with
      | cons c cs =>
        simp only [hrest] at hstep
        have hs' := (Option.some.inj hstep).symm
        subst hs'
        constructor
        · intro j t1 h1
          rcases getElem?_set_cases h1 hi with ⟨rfl, rfl⟩ | ⟨_, h2⟩
          · exact ⟨hp, hlog, ⟨tl, htodo⟩, by rw [hr, hrest]; simp⟩
          · exact inv.threadsOk j t1 h2
        · simp only [LockOk, hold]
          refine ⟨_, List.getElem?_set_self hi, ?_, ?_⟩
          · intro j t1 hne h1
            rw [List.getElem?_set_ne (fun e => hne e.symm)] at h1
            exact hoth j t1 hne h1
          · obtain ⟨q, hq1, hq2⟩ := BufFile.writeAll_grows s.w c
            refine ⟨p ++ q, ?_, ?_⟩
            · simp only [CState.committed] at hdisk ⊢
              rw [hq1, hdisk]
              simp
            · simp only [List.flatten_append, List.flatten_cons, List.flatten_nil, List.append_nil,
                List.append_assoc]
              rw [hq2, ← List.append_assoc, hpb]
      | nil =>
        simp only [hrest] at hstep
        have hs' := (Option.some.inj hstep).symm
        subst hs'
        constructor
        · intro j t1 h1
          rcases getElem?_set_cases h1 hi with ⟨rfl, rfl⟩ | ⟨hne, h2⟩
          · refine ⟨hp, ?_⟩
            simp only [List.filter_append, List.map_append, hlog]
            exact ⟨by simp, ⟨tl, htodo⟩⟩
          · simp only [TOk, filter_fst_append_ne _ _ hne]
            exact inv.threadsOk j t1 h2
        · simp only [LockOk, hold]
          refine ⟨_, List.getElem?_set_self hi, ?_, ?_⟩
          · intro j t1 hne h1
            rw [List.getElem?_set_ne (fun e => hne e.symm)] at h1
            exact hoth j t1 hne h1
          · refine ⟨rfl, ?_⟩
            subst hrest
            simp only [List.append_nil] at hr
            subst hr
            simp only [List.flatten_cons, List.flatten_nil, List.append_nil] at hpb
            simp only [CState.committed] at hdisk ⊢
            simp only [BufFile.flush_disk, hdisk, List.map_append, List.flatMap_append, List.map_cons,
              List.map_nil, List.flatMap_cons, List.flatMap_nil, List.append_nil, encBytes,
              List.append_assoc, hpb]
    | flushed r =>
      simp only [hpc] at hstep
      have hs' := (Option.some.inj hstep).symm
      subst hs'
      obtain ⟨hold, hoth, hbody⟩ := inv.lockOk.of_busy hti (by rw [hpc]; exact nofun)
      simp only [hpc] at hbody
      obtain ⟨hbuf, hdisk⟩ := hbody
      obtain ⟨⟨pp, hp1, hp2⟩, hl⟩ := tok
      simp only [hpc] at hl
      obtain ⟨hlog, tl, htodo⟩ := hl
      constructor
      · intro j t1 h1
        rcases getElem?_set_cases h1 hi with ⟨rfl, rfl⟩ | ⟨_, h2⟩
        · refine ⟨⟨pp, hp1, ?_⟩, by simpa using hlog⟩
          rw [← hp2, htodo]
          simp
        · exact inv.threadsOk j t1 h2
      · simp only [LockOk]
        refine ⟨?_, hbuf, by simpa [CState.committed] using hdisk⟩
        intro j t1 h1
        rcases getElem?_set_cases h1 hi with ⟨rfl, rfl⟩ | ⟨hne, h2⟩
        · rfl
        · exact hoth j t1 hne h2

/-- the commit log only names existing threads, and no step changes the number of threads -/
def LogRange (n : Nat) (s : CState) : Prop := s.threads.length = n ∧ ∀ e ∈ s.log, e.1 < n

theorem LogRange.step {n : Nat} {s s' : CState} {i : Nat} (h : LogRange n s) (hstep : stepThread i s = some s') :
    LogRange n s' := by
  unfold stepThread at hstep
  cases hti : s.threads[i]? with
  | none => simp [hti] at hstep
  | some t =>
    have hi : i < s.threads.length := (List.getElem?_eq_some_iff.mp hti).1
    simp only [hti] at hstep
    cases hpc : t.pc with
    | idle =>
      simp only [hpc] at hstep
      cases htodo : t.todo with
      | nil => simp [htodo] at hstep
      | cons r tl =>
        cases hh : s.holder with
        | some h => simp [htodo, hh] at hstep
        | none =>
          simp only [htodo, hh] at hstep
          have hs' := (Option.some.inj hstep).symm
          subst hs'
          exact ⟨by simp [h.1], h.2⟩
    | writing r dn rest =>
      simp only [hpc] at hstep
      cases hrest : rest with
      | cons c cs =>
        simp only [hrest] at hstep
        have hs' := (Option.some.inj hstep).symm
        subst hs'
        exact ⟨by simp [h.1], h.2⟩
      | nil =>
        simp only [hrest] at hstep
        have hs' := (Option.some.inj hstep).symm
        subst hs'
        refine ⟨by simp [h.1], ?_⟩
        intro e he
        simp only [List.mem_append, List.mem_singleton] at he
        rcases he with he | rfl
        · exact h.2 e he
        · exact h.1 ▸ hi
    | flushed r =>
      simp only [hpc] at hstep
      have hs' := (Option.some.inj hstep).symm
      subst hs'
      exact ⟨by simp [h.1], h.2⟩

/-- what every step of every thread preserves holds after any schedule -/
theorem runSched_preserves {P : CState → Prop} (hstep : ∀ i s s', P s → stepThread i s = some s' → P s')
    (sched : List Nat) {s : CState} (h : P s) : P (runSched s sched) := by
  induction sched generalizing s with
  | nil => exact h
  | cons i rest ih =>
    simp only [runSched]
    cases hs : stepThread i s with
    | none => simpa [hs] using ih h
    | some s' => simpa [hs] using ih (hstep i s s' h hs)

theorem LogRange.init (m : OpenMode) (pre : Option Bytes) (progs : List (List Rec)) :
    LogRange progs.length (CState.init m pre progs) := ⟨by simp [CState.init], by simp [CState.init]⟩

theorem LogRange.run {n : Nat} (sched : List Nat) {s : CState} (h : LogRange n s) :
    LogRange n (runSched s sched) :=
  runSched_preserves (fun _ _ _ h hs => h.step hs) sched h

theorem CInv.run {progs : List (List Rec)} {init0 : Bytes} (sched : List Nat) {s : CState}
    (inv : CInv progs init0 s) : CInv progs init0 (runSched s sched) :=
  runSched_preserves (fun _ _ _ inv hs => inv.step hs) sched inv

end Log4rs.Rolling
