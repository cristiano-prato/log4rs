import Log4rsModel.Rolling.LemmasRolling
/-
What building an appender, dropping it and building a new one on the same path leave in the active
file — shared by the no-loss (C05), size-trigger (C06) and on-start-up-trigger (C17) developments.
-/
namespace Log4rs.Rolling
open Log4rs.Roller (Disk Path)

variable {σ : Type}

theorem build_spec (cfg : Cfg σ) (s : St σ) :
    Opened cfg (build cfg s) (if cfg.appendMode then fileOf cfg s.disk else []) ∧
    SameElse cfg s.disk (build cfg s).disk ∧ (build cfg s).tst = cfg.trig.reinit s.tst s.now := by
  obtain ⟨ho, _, hse, ht, _⟩ := getWriter_spec cfg
    { s with writer := none, tst := cfg.trig.reinit s.tst s.now, opened := false } (Or.inl rfl)
  refine ⟨?_, hse, ht⟩
  simp only [openView, Bool.or_false] at ho
  exact ho

theorem init_spec (cfg : Cfg σ) (d : Disk) (t0 : σ) (now : Nat) :
    Opened cfg (init cfg d t0 now) (if cfg.appendMode then fileOf cfg d else []) ∧
    SameElse cfg d (init cfg d t0 now).disk ∧ (init cfg d t0 now).tst = cfg.trig.reinit t0 now :=
  build_spec cfg { disk := d, writer := none, tst := t0, now }

theorem dropWriter_lookup (cfg : Cfg σ) (s : St σ) (hwf : WFw cfg s) :
    (dropWriter cfg s).writer = none ∧ (∀ q, (dropWriter cfg s).disk.get? q = s.disk.get? q) ∧
    (dropWriter cfg s).tst = s.tst ∧ (dropWriter cfg s).now = s.now := by
  unfold dropWriter
  cases hw : s.writer with
  | none => exact ⟨hw, fun _ => rfl, rfl, rfl⟩
  | some w =>
    rcases hwf with h | ⟨a, w', hw', hb, hg, _⟩
    · rw [hw] at h; cases h
    · rw [hw] at hw'
      obtain rfl : w = w' := Option.some.inj hw'
      refine ⟨rfl, fun q => ?_, rfl, rfl⟩
      simp only [flushW, hb, List.append_nil, fileOf_of_get hg]
      by_cases hq : q = cfg.path
      · subst hq; rw [DiskL.get?_set_self]; exact hg.symm
      · exact DiskL.get?_set_ne _ _ _ _ hq

theorem rebuild_opened (cfg cfg' : Cfg σ) (hp : cfg'.path = cfg.path) (s : St σ) (hwf : WFw cfg s) :
    Opened cfg' (build cfg' (dropWriter cfg s)) (if cfg'.appendMode then fileOf cfg s.disk else []) := by
  have h := (build_spec cfg' (dropWriter cfg s)).1
  have hfile : fileOf cfg' (dropWriter cfg s).disk = fileOf cfg s.disk := by
    unfold fileOf
    rw [hp, (dropWriter_lookup cfg s hwf).2.1]
  rwa [hfile] at h

end Log4rs.Rolling
