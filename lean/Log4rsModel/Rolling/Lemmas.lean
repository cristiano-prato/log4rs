import Log4rsModel.Rolling.File
import Log4rsModel.Rolling.Spec
/-
Lemmas about the BufWriter rule and the sequential file appender (C04), reused by the rolling
appender (C05 C06 C17).
-/
namespace Log4rs.Rolling

/-- reading a list after one `set`: the position written or an untouched one (the thread tables of
the lock machines are updated this way) -/
theorem getElem?_set_cases {α : Type} {ts : List α} {i j : Nat} {t t' : α}
    (h : (ts.set i t')[j]? = some t) (hi : i < ts.length) : (j = i ∧ t = t') ∨ (j ≠ i ∧ ts[j]? = some t) := by
  by_cases hji : j = i
  · subst hji
    rw [List.getElem?_set_self hi] at h
    exact Or.inl ⟨rfl, (Option.some.inj h).symm⟩
  · rw [List.getElem?_set_ne (fun e => hji e.symm)] at h
    exact Or.inr ⟨hji, h⟩

/-- a commit of thread `i` at the end of a commit log is not seen by another thread `k` -/
theorem filter_fst_append_ne {β : Type} (l : List (Nat × β)) {i k : Nat} (b : β) (h : k ≠ i) :
    (l ++ [(i, b)]).filter (fun e => e.1 == k) = l.filter (fun e => e.1 == k) := by
  have : (i == k) = false := beq_false_of_ne h.symm
  simp [List.filter_append, this]

/-- writing `a` into a list of copies of `a` changes nothing (`Quiet` and `AllAppend` are such
statements about the buffers and the offsets of the handles) -/
theorem set_eq_self {α : Type} {l : List α} {a : α} (h : ∀ x ∈ l, x = a) (k : Nat) : l.set k a = l := by
  by_cases hk : k < l.length
  · exact (congrArg (l.set k) (h _ (List.getElem_mem hk)).symm).trans (List.set_getElem_self hk)
  · exact List.set_eq_of_length_le (Nat.le_of_not_lt hk)

theorem forall_mem_concat {α : Type} {l : List α} {a : α} (h : ∀ x ∈ l, x = a) : ∀ x ∈ l ++ [a], x = a :=
  fun x hx => (List.mem_append.mp hx).elim (h x) List.mem_singleton.mp

namespace BufFile

@[simp] theorem flush_buf (w : BufFile) : w.flush.buf = [] := rfl
@[simp] theorem flush_disk (w : BufFile) : w.flush.disk = w.disk ++ w.buf := rfl
@[simp] theorem logical_flush (w : BufFile) : w.flush.logical = w.logical := by
  simp [logical, flush]

theorem writeAll_grows (w : BufFile) (data : Bytes) :
    ∃ p, (w.writeAll data).disk = w.disk ++ p ∧ p ++ (w.writeAll data).buf = w.buf ++ data := by
  unfold writeAll
  by_cases h1 : data.length < CAP - w.buf.length
  · exact ⟨[], by simp [h1]⟩
  · simp only [h1, if_false]
    by_cases h2 : data.length > CAP - w.buf.length
    · by_cases h3 : data.length ≥ CAP
      · exact ⟨w.buf ++ data, by simp [h2, h3, flush]⟩
      · exact ⟨w.buf, by simp [h2, h3, flush]⟩
    · by_cases h3 : data.length ≥ CAP
      · have hb : w.buf.length = 0 := by
          simp only [CAP] at h1 h2 h3 ⊢
          omega
        have hb' : w.buf = [] := List.length_eq_zero_iff.mp hb
        have h2' : ¬ (CAP < data.length) := by
          simp only [CAP] at h1 h2 h3 ⊢
          omega
        exact ⟨data, by simp [h2', h3, hb']⟩
      · exact ⟨[], by simp [h2, h3]⟩

theorem foldl_writeAll_grows (r : List Bytes) (w : BufFile) :
    ∃ p, (r.foldl writeAll w).disk = w.disk ++ p ∧ p ++ (r.foldl writeAll w).buf = w.buf ++ r.flatten := by
  induction r generalizing w with
  | nil => exact ⟨[], by simp⟩
  | cons c cs ih =>
    obtain ⟨p1, h1, h2⟩ := writeAll_grows w c
    obtain ⟨p2, h3, h4⟩ := ih (w.writeAll c)
    refine ⟨p1 ++ p2, ?_, ?_⟩
    · simp only [List.foldl_cons]
      rw [h3, h1, List.append_assoc]
    · simp only [List.foldl_cons, List.flatten_cons]
      rw [List.append_assoc, h4, ← List.append_assoc, h2, List.append_assoc]

/-- the spill rule never reorders: whatever branch is taken, the accepted bytes grow by `data` -/
theorem logical_writeAll (w : BufFile) (data : Bytes) : (w.writeAll data).logical = w.logical ++ data := by
  obtain ⟨p, h1, h2⟩ := writeAll_grows w data
  rw [logical, h1, List.append_assoc, h2, ← List.append_assoc]
  rfl

theorem logical_writeLoop (w : BufFile) (data : Bytes) : (w.writeLoop data).logical = w.logical ++ data := by
  unfold writeLoop
  by_cases h : data.isEmpty
  · have : data = [] := List.isEmpty_iff.mp h
    simp [this]
  · simp [h, logical_writeAll]

theorem logical_foldl_writeAll (r : List Bytes) (w : BufFile) :
    (r.foldl writeAll w).logical = w.logical ++ r.flatten := by
  induction r generalizing w with
  | nil => simp
  | cons c cs ih => simp [ih, logical_writeAll]

theorem logical_foldl_writeLoop (r : List Bytes) (w : BufFile) :
    (r.foldl writeLoop w).logical = w.logical ++ r.flatten := by
  induction r generalizing w with
  | nil => simp
  | cons c cs ih => simp [ih, logical_writeLoop]

end BufFile

namespace FileAppender

theorem append_disk (w : BufFile) (r : Rec) : (append w r).disk = w.disk ++ w.buf ++ encBytes r := by
  have := BufFile.logical_writeAll w (encBytes r)
  simp only [BufFile.logical] at this
  simp [append, encode, this]

@[simp] theorem append_buf (w : BufFile) (r : Rec) : (append w r).buf = [] := rfl

@[simp] theorem build_buf (m : OpenMode) (pre : Option Bytes) : (build m pre).buf = [] := rfl
@[simp] theorem build_disk (m : OpenMode) (pre : Option Bytes) : (build m pre).disk = openContent m pre := rfl

theorem applyOp_buf (m : OpenMode) (w : BufFile) (op : Op) : (applyOp m w op).buf = [] := by
  cases op <;> rfl

/-- the model's `fs::read` trace is the specification's, from any quiescent appender -/
theorem trace_eq_fileTrace (m : OpenMode) (ops : List Op) (w : BufFile) (hq : w.buf = []) :
    trace m w ops = Spec.fileTrace m w.disk ops := by
  induction ops generalizing w with
  | nil => rfl
  | cons op ops ih =>
    cases op with
    | append r =>
      have hd : (applyOp m w (.append r)).disk = w.disk ++ encBytes r := by
        simp [applyOp, append_disk, hq]
      simp only [trace, Spec.fileTrace]
      rw [ih _ (applyOp_buf m w _), hd]
    | restart =>
      simp only [trace, Spec.fileTrace]
      rw [ih _ (applyOp_buf m w _)]
      cases m <;> simp [applyOp, build, openContent, hq]

theorem runOps_appends (m : OpenMode) (rs : List Rec) (w : BufFile) (hq : w.buf = []) :
    (runOps m w (rs.map Op.append)).disk = w.disk ++ rs.flatMap encBytes ∧
    (runOps m w (rs.map Op.append)).buf = [] := by
  induction rs generalizing w with
  | nil => simp [runOps, hq]
  | cons r rs ih =>
    have := ih (applyOp m w (.append r)) (applyOp_buf m w _)
    simp only [runOps, List.map_cons, List.foldl_cons] at this ⊢
    rw [this.1, this.2]
    simp [applyOp, append_disk, hq]

end FileAppender

namespace Handles

/-- all appenders are quiescent -/
def Quiet (s : Handles) : Prop := ∀ b ∈ s.bufs, b = []

/-- every descriptor has `O_APPEND` -/
def AllAppend (s : Handles) : Prop := ∀ o ∈ s.offs, o = none

theorem view_quiet (s : Handles) (k : Nat) (h : s.Quiet) : (s.view k).buf = [] := by
  simp only [view]
  cases hk : s.bufs[k]? with
  | none => rfl
  | some b => exact h b (List.mem_of_getElem? hk)

theorem off_allAppend (s : Handles) (k : Nat) (h : s.AllAppend) : s.off k = none := by
  simp only [off]
  cases hk : s.offs[k]? with
  | none => rfl
  | some o => simp [h o (List.mem_of_getElem? hk)]

/-- the variants in which every descriptor `build` opens has `O_APPEND` -/
theorem newOff_none (m : OpenMode) (flag : Bool) (hm : m = .append ∨ flag = true) : newOff m flag = none := by
  rcases hm with rfl | rfl
  · rfl
  · cases m <;> rfl

/-- quiescent `O_APPEND` handles stay so when one of them runs an `f` that ends with a flush: only
the shared file moves -/
theorem commit_quiet (s : Handles) (k : Nat) (f : BufFile → BufFile) (hq : s.Quiet) (ha : s.AllAppend)
    (hf : ∀ w, (f w).buf = []) : s.commit k f = { s with file := (f ⟨s.file, []⟩).disk } := by
  have hv : s.view k = ⟨s.file, []⟩ := congrArg (BufFile.mk s.file) (view_quiet s k hq)
  rw [commit, off_allAppend s k ha, hv, store, hf, set_eq_self hq]

/-- the model's trace is the specification's for every history: appends through any appender,
failing encoders, foreign appends, external truncations, further appenders, restarts — in every
variant and mode in which `build` opens with `O_APPEND` -/
theorem traceV_eq_fileTraceM (flag : Bool) (m : OpenMode) (hm : m = .append ∨ flag = true)
    (ops : List MOp) (s : Handles) (hq : s.Quiet) (ha : s.AllAppend)
    (hv : validOps s.bufs.length ops = true) :
    traceV flag m s ops = Spec.fileTraceM m s.file ops := by
  induction ops generalizing s with
  | nil => rfl
  | cons op ops ih =>
    cases op with
    | append k r fa =>
      simp only [validOps, Bool.and_eq_true, decide_eq_true_eq] at hv
      cases fa with
      | none =>
        have hap : applyOp m s (.append k r none) false flag = { s with file := s.file ++ encBytes r } := by
          simp [applyOp, hv.1, commit_quiet s k (FileAppender.append · r) hq ha (fun _ => rfl), FileAppender.append_disk]
        simp only [traceV, Spec.fileTraceM]
        rw [hap]
        exact congrArg _ (ih _ hq ha hv.2)
      | some n =>
        -- the encoder failed in memory: nothing happened to the file or to the appender
        have hsame : applyOp m s (.append k r (some n)) false flag = s := by simp [applyOp]
        simp only [traceV, Spec.fileTraceM]
        rw [hsame, ih _ hq ha hv.2]
    | foreign x | truncate =>
      simp only [traceV, Spec.fileTraceM]
      exact congrArg _ (ih (applyOp m s _ false flag) hq ha hv)
    | build =>
      have ha' : (applyOp m s .build false flag).AllAppend := by
        rw [applyOp, newOff_none m flag hm]
        exact forall_mem_concat ha
      simp only [traceV, Spec.fileTraceM]
      rw [ih (applyOp m s .build false flag) (forall_mem_concat hq) ha' (by simpa [applyOp, validOps] using hv)]
      cases m <;> rfl
    | restart k =>
      simp only [validOps, Bool.and_eq_true, decide_eq_true_eq] at hv
      have hap : applyOp m s (.restart k) false flag = { s with file := openContent m (some s.file) } := by
        simp [applyOp, hv.1, commit_quiet s k BufFile.flush hq ha (fun _ => rfl), newOff_none m flag hm, set_eq_self hq, set_eq_self ha]
      simp only [traceV, Spec.fileTraceM]
      rw [hap]
      cases m <;> exact congrArg _ (ih _ hq ha hv.2)

theorem trace_eq_traceV (m : OpenMode) (s : Handles) (ops : List MOp) :
    trace m s ops = traceV truncateUsesAppendFlag m s ops := by
  induction ops generalizing s with
  | nil => rfl
  | cons op ops ih => simp only [trace, traceV]; rw [ih]

theorem init_quiet (m : OpenMode) (pre : Option Bytes) (flag : Bool) : (init m pre flag).Quiet := by
  intro b hb; simpa [init] using hb

theorem init_allAppend (m : OpenMode) (pre : Option Bytes) (flag : Bool) (hm : m = .append ∨ flag = true) :
    (init m pre flag).AllAppend := by
  intro o ho
  simp only [init, List.mem_singleton] at ho
  rw [ho]; exact newOff_none m flag hm

end Handles

end Log4rs.Rolling
