import Log4rsModel.Rolling.LemmasWindow
import Log4rsModel.Rolling.ExtOpen
/-
C05: ghost segmentation of the record stream into files, the invariant tying it to the disk, and
its preservation by every operation — for any trigger and any roller satisfying `RollContractE`
(every call of the roller discards at most one whole oldest archive; a call that reports `Err`
either left the log file alone or had already archived it).
-/
namespace Log4rs.Rolling
open Log4rs.Roller

variable {σ : Type}

/-- What the no-loss argument needs of a roller (`arch` = the retained archives, oldest first):
* `arch` looks only at paths other than the log file;
* success: the log file is gone, its content is the newest archive, at most ONE whole oldest
  archive was discarded;
* `Err`: either the log file is untouched and at most one whole oldest archive was discarded (a
  rotation that stopped half-way), or the roller had finished its work before reporting the error
  (log file gone, content archived, again at most one oldest archive discarded). What is excluded:
  an `Err` that leaves the content BOTH in the archive and in the log file. -/
structure RollContractE (roll : RollFn) (path : Path) (arch : Disk → List Bytes) : Prop where
  frame : ∀ d d', (∀ q, q ≠ path → d'.get? q = d.get? q) → arch d' = arch d
  ok : ∀ fault d x d' a, roll path fault d = (.ok x, d') → d.get? path = some a →
    d'.get? path = none ∧ ∃ j, j ≤ 1 ∧ arch d' = (arch d ++ [a]).drop j
  err : ∀ fault d e d' a, roll path fault d = (.error e, d') → d.get? path = some a →
    (d'.get? path = some a ∧ ∃ j, j ≤ 1 ∧ arch d' = (arch d).drop j) ∨
    (d'.get? path = none ∧ ∃ j, j ≤ 1 ∧ arch d' = (arch d ++ [a]).drop j)

theorem RollContractB.toE {roll : RollFn} {path : Path} {arch : Disk → List Bytes}
    (h : RollContractB roll path arch) : RollContractE roll path arch where
  frame := h.frame
  ok := h.ok
  err := fun fault d e d' a hr hg => Or.inl ⟨by rw [(h.err fault d e d' hr).1, hg], (h.err fault d e d' hr).2⟩

theorem RollContractE.late {inner : RollFn} {path : Path} {arch : Disk → List Bytes}
    (h : RollContractE inner path arch) (late : Nat) : RollContractE (lateRoll inner late) path arch where
  frame := h.frame
  ok := by
    intro fault d x d' a hr hg
    obtain ⟨g, res, d'', hrun, h1 | ⟨_, h2⟩⟩ := lateRoll_run inner late path fault d
    · obtain ⟨rfl, rfl⟩ := Prod.mk.inj (hr.symm.trans h1)
      exact h.ok g d x d' a hrun hg
    · cases (Prod.mk.inj (hr.symm.trans h2)).1
  err := by
    intro fault d e d' a hr hg
    obtain ⟨g, res, d'', hrun, h1 | ⟨⟨x, rfl⟩, h2⟩⟩ := lateRoll_run inner late path fault d
    · obtain ⟨rfl, rfl⟩ := Prod.mk.inj (hr.symm.trans h1)
      exact h.err g d e d' a hrun hg
    · obtain rfl := (Prod.mk.inj (hr.symm.trans h2)).2
      exact Or.inr (h.ok g d x d' a hrun hg)

/-- ghost state: the stream of written items (whole encoded records; pre-existing contents are
opaque items) cut into files — `closed` oldest first, `cur` = the active file — and the number of
times the roller has been called -/
structure Ghost where
  closed : List (List Bytes)
  cur : List Bytes
  calls : Nat := 0

/-- the operation closed the current segment: the roller succeeded, or it reported `Err` after
having archived the file (`gone` = the log file does not exist after the operation) -/
def closes (out : Out) (gone : Bool) : Bool :=
  out.rolled == some true || (out.rolled == some false && gone)

def callsOfOut (out : Out) : Nat := if out.rolled.isSome then 1 else 0

/-- how one operation moves the ghost; it reads the operation, its visible result and whether the
log file exists afterwards. A failed append (`appendFail`, or any `Err` in pre-process mode)
writes nothing; in post-process mode the record is written before the policy runs. -/
def ghostStepX (cfg : Cfg σ) (g : Ghost) (op : XOp) (o : Option Out) (gone : Bool) : Ghost :=
  match op, o with
  | .op (.append r _), some out =>
    let g := { g with calls := g.calls + callsOfOut out }
    if cfg.trig.pre then
      if closes out gone then
        { g with closed := g.closed ++ [g.cur], cur := if out.res = .ok then [encBytes r] else [] }
      else if out.res = .ok then { g with cur := g.cur ++ [encBytes r] }
      else g
    else
      if closes out gone then { g with closed := g.closed ++ [g.cur ++ [encBytes r]], cur := [] }
      else { g with cur := g.cur ++ [encBytes r] }
  | .appendFail _ _ _, some out =>
    let g := { g with calls := g.calls + callsOfOut out }
    if cfg.trig.pre ∧ closes out gone then { g with closed := g.closed ++ [g.cur], cur := [] } else g
  | .op .restart, _ => if cfg.appendMode then g else { g with cur := [] }
  | _, _ => g

def goneAfter (cfg : Cfg σ) (s : St σ) : Bool := (s.disk.get? cfg.path).isNone

/-! `ghostStepX` is made of two moves: an item joins the current segment, and the policy has been
consulted. -/

def Ghost.write (g : Ghost) (x : Bytes) : Ghost := { g with cur := g.cur ++ [x] }

/-- the roller's call (if any) is counted; the current segment is closed if the operation closed it -/
def Ghost.policy (g : Ghost) (out : Out) (gone : Bool) : Ghost :=
  if closes out gone then { closed := g.closed ++ [g.cur], cur := [], calls := g.calls + callsOfOut out }
  else { g with calls := g.calls + callsOfOut out }

/-- pre-process: the policy, then (if it did not fail) the record; post-process: the record, then
the policy -/
theorem ghostStepX_append (cfg : Cfg σ) (g : Ghost) (r : Rec) (f : Option Nat) (out : Out) (gone : Bool) :
    ghostStepX cfg g (.op (.append r f)) (some out) gone =
      if cfg.trig.pre then
        if out.res = .ok then (g.policy out gone).write (encBytes r) else g.policy out gone
      else (g.write (encBytes r)).policy out gone := by
  delta ghostStepX Ghost.policy Ghost.write
  cases cfg.trig.pre
  · rfl
  · by_cases hc : closes out gone = true <;> by_cases hok : out.res = .ok <;>
      simp only [hc, hok, if_true, if_false] <;> rfl

theorem ghostStepX_appendFail (cfg : Cfg σ) (g : Ghost) (r : Rec) (n : Nat) (f : Option Nat) (out : Out) (gone : Bool) :
    ghostStepX cfg g (.appendFail r n f) (some out) gone =
      if cfg.trig.pre then g.policy out gone else { g with calls := g.calls + callsOfOut out } := by
  delta ghostStepX Ghost.policy
  cases cfg.trig.pre
  · simp only [Bool.false_eq_true, false_and, if_false]
  · simp only [true_and, if_true]

theorem Ghost.policy_calls (g : Ghost) (out : Out) (gone : Bool) :
    (g.policy out gone).calls = g.calls + callsOfOut out := by
  unfold Ghost.policy
  split <;> rfl

/-- run a history with its ghost: outputs, final state, final ghost -/
def grunX (cfg : Cfg σ) (s : St σ) (g : Ghost) : List XOp → List (Option Out) × St σ × Ghost
  | [] => ([], s, g)
  | op :: ops =>
    let r := applyX cfg s op
    let rest := grunX cfg r.2 (ghostStepX cfg g op r.1 (goneAfter cfg r.2)) ops
    (r.1 :: rest.1, rest.2)

theorem grunX_outs (cfg : Cfg σ) (s : St σ) (g : Ghost) (ops : List XOp) :
    (grunX cfg s g ops).1 = (traceX cfg s ops).map (·.1) := by
  induction ops generalizing s g with
  | nil => rfl
  | cons op ops ih => simp [grunX, traceX, ih]

theorem grunX_append (cfg : Cfg σ) (s : St σ) (g : Ghost) (ops1 ops2 : List XOp) :
    grunX cfg s g (ops1 ++ ops2) =
      ((grunX cfg s g ops1).1 ++ (grunX cfg (grunX cfg s g ops1).2.1 (grunX cfg s g ops1).2.2 ops2).1,
       (grunX cfg (grunX cfg s g ops1).2.1 (grunX cfg s g ops1).2.2 ops2).2) := by
  induction ops1 generalizing s g with
  | nil => simp [grunX]
  | cons op ops ih => simp [grunX, ih]

structure Inv (cfg : Cfg σ) (arch : Disk → List Bytes) (s : St σ) (g : Ghost) : Prop where
  wf : WF cfg s
  /-- the retained archives are a whole-file suffix of the closed segments; at most one segment
  has been discarded per call of the roller -/
  archives : ∃ k, k ≤ g.calls ∧ arch s.disk = (g.closed.drop k).map List.flatten
  /-- the active file holds exactly the current segment -/
  active : fileOf cfg s.disk = g.cur.flatten

theorem drop_map_snoc {α β : Type} (f : α → β) (l : List α) (c : α) (k j : Nat) :
    ∃ k', k' ≤ k + j ∧ (((l.drop k).map f) ++ [f c]).drop j = ((l ++ [c]).drop k').map f := by
  by_cases hk : k ≤ l.length
  · refine ⟨k + j, Nat.le_refl _, ?_⟩
    rw [← List.drop_drop, List.drop_append_of_le_length hk]
    simp [List.map_drop]
  · have : l.drop k = [] := List.drop_eq_nil_of_le (by omega)
    refine ⟨l.length + j, by omega, ?_⟩
    rw [this, ← List.drop_drop, List.drop_append_of_le_length (Nat.le_refl _)]
    simp [List.map_drop]

theorem openView_eq_cur (cfg : Cfg σ) (arch : Disk → List Bytes) (s : St σ) (g : Ghost) (inv : Inv cfg arch s g) :
    openView cfg s = g.cur.flatten := by
  rw [openView_of_opened cfg s inv.wf.1]
  exact inv.active

theorem goneAfter_opened {cfg : Cfg σ} {s : St σ} {a : Bytes} (h : Opened cfg s a) : goneAfter cfg s = false := by
  simp [goneAfter, h.get]

/-- `restart`: the new appender finds what the old one left (append mode) or an emptied file -/
theorem restart_spec (cfg : Cfg σ) (s : St σ) (hwf : WF cfg s) :
    Opened cfg (restart cfg s) (if cfg.appendMode then fileOf cfg s.disk else []) ∧
    SameElse cfg s.disk (restart cfg s).disk :=
  ⟨rebuild_opened cfg cfg rfl s hwf.2,
    fun q hq => ((build_spec cfg (dropWriter cfg s)).2.1 q hq).trans ((dropWriter_lookup cfg s hwf.2).2.1 q)⟩

theorem Inv.restartStep {cfg : Cfg σ} {arch : Disk → List Bytes} {s : St σ} {g : Ghost}
    (hframe : ∀ d d', (∀ q, q ≠ cfg.path → d'.get? q = d.get? q) → arch d' = arch d)
    (inv : Inv cfg arch s g) (gone : Bool) :
    Inv cfg arch (restart cfg s) (ghostStepX cfg g (.op .restart) none gone) := by
  obtain ⟨ho, hse⟩ := restart_spec cfg s inv.wf
  obtain ⟨k, hkc, hk⟩ := inv.archives
  refine ⟨WF_restart cfg s, ⟨k, ?_, ?_⟩, ?_⟩
  · simp only [ghostStepX]; split <;> exact hkc
  · rw [hframe _ _ hse, hk]
    simp only [ghostStepX]
    split <;> rfl
  · rw [fileOf_opened ho]
    simp only [ghostStepX]
    cases ha : cfg.appendMode with
    | true => simpa using inv.active
    | false => simp

theorem Ghost.policy_none (g : Ghost) (out : Out) (gone : Bool) (h : out.rolled = none) : g.policy out gone = g := by
  simp [Ghost.policy, closes, callsOfOut, h]

theorem Ghost.policy_rolled (g : Ghost) (out : Out) (gone : Bool) {b : Bool} (h : out.rolled = some b) :
    g.policy out gone =
      if b || gone then { closed := g.closed ++ [g.cur], cur := [], calls := g.calls + 1 }
      else { g with calls := g.calls + 1 } := by
  cases b <;> simp [Ghost.policy, closes, callsOfOut, h]

/-- what a call of a roller under contract leaves: the log file archived and gone, or (only with
`Err`) the log file as it was; at most one oldest archive discarded -/
theorem RollContractE.outcome {roll : RollFn} {path : Path} {arch : Disk → List Bytes}
    (hc : RollContractE roll path arch) (fault : Nat → Bool) (d : Disk) (a : Bytes) (hg : d.get? path = some a) :
    ∃ j, j ≤ 1 ∧
      (((roll path fault d).2.get? path = none ∧ arch (roll path fault d).2 = (arch d ++ [a]).drop j) ∨
       ((∃ e, (roll path fault d).1 = .error e) ∧ (roll path fault d).2.get? path = some a ∧
          arch (roll path fault d).2 = (arch d).drop j)) := by
  rcases hr : roll path fault d with ⟨res, d'⟩
  cases res with
  | ok x =>
    obtain ⟨hgone, j, hj, harch⟩ := hc.ok fault d x d' a hr hg
    exact ⟨j, hj, Or.inl ⟨hgone, harch⟩⟩
  | error e =>
    rcases hc.err fault d e d' a hr hg with ⟨hsame, j, hj, harch⟩ | ⟨hgone, j, hj, harch⟩
    · exact ⟨j, hj, Or.inr ⟨⟨e, rfl⟩, hsame, harch⟩⟩
    · exact ⟨j, hj, Or.inl ⟨hgone, harch⟩⟩

theorem Inv.opened {cfg : Cfg σ} {arch : Disk → List Bytes} {s : St σ} {g : Ghost} (inv : Inv cfg arch s g)
    {w : Writer} (hw : s.writer = some w) : Opened cfg s g.cur.flatten := by
  rcases inv.wf.2 with h | ⟨a, ho⟩
  · rw [hw] at h; cases h
  · rw [← inv.active, fileOf_opened ho]; exact ho

theorem Inv.reopen {cfg : Cfg σ} {arch : Disk → List Bytes} {s : St σ} {g : Ghost}
    (hframe : ∀ d d', (∀ q, q ≠ cfg.path → d'.get? q = d.get? q) → arch d' = arch d) (inv : Inv cfg arch s g) :
    Inv cfg arch (getWriter cfg s).1 g ∧ (getWriter cfg s).1.writer = some (getWriter cfg s).2 := by
  obtain ⟨ho, hw, hse, _, _⟩ := getWriter_spec cfg s inv.wf.2
  rw [openView_eq_cur cfg arch s g inv] at ho
  exact ⟨⟨⟨getWriter_opened cfg s (Or.inl inv.wf.1), Or.inr ⟨_, ho⟩⟩, by rw [hframe _ _ hse]; exact inv.archives,
    fileOf_opened ho⟩, hw⟩

theorem Inv.write {cfg : Cfg σ} {arch : Disk → List Bytes} {s : St σ} {g : Ghost}
    (hframe : ∀ d d', (∀ q, q ≠ cfg.path → d'.get? q = d.get? q) → arch d' = arch d) (inv : Inv cfg arch s g)
    {w : Writer} (hw : s.writer = some w) (r : Rec) :
    Inv cfg arch (writeAndFlush cfg s w r).1 (g.write (encBytes r)) ∧
      (writeAndFlush cfg s w r).1.writer = some (writeAndFlush cfg s w r).2 := by
  obtain ⟨w', hw', hb, hg, hl⟩ := inv.opened hw
  rw [hw] at hw'
  cases hw'
  obtain ⟨ho, _, _, hse, _, _, hop⟩ := writeAndFlush_spec cfg s w r _ hb hg hl
  refine ⟨⟨⟨hop.trans inv.wf.1, Or.inr ⟨_, ho⟩⟩, by rw [hframe _ _ hse]; exact inv.archives, ?_⟩, rfl⟩
  rw [fileOf_opened ho]
  simp [Ghost.write]

/-- the policy phase: `out` is any output that reports this consultation; `gone` matters only when
the roller failed -/
theorem Inv.policy {cfg : Cfg σ} {arch : Disk → List Bytes} {s : St σ} {g : Ghost}
    (hc : RollContractE cfg.roll cfg.path arch) (inv : Inv cfg arch s g) {w : Writer} (hw : s.writer = some w)
    (len : Nat) (fault : Nat → Bool) (out : Out) (gone : Bool)
    (hro : out.rolled = (process cfg s len fault).2.1)
    (hgone : (process cfg s len fault).1 ≠ .ok → gone = goneAfter cfg (process cfg s len fault).2.2) :
    Inv cfg arch (process cfg s len fault).2.2 (g.policy out gone) := by
  have ho := inv.opened hw
  obtain ⟨k, hkc, hk⟩ := inv.archives
  obtain ⟨_, _, hop, hno, herr, hyes⟩ := process_spec cfg s _ len fault ho _ _ rfl rfl
  have hkeep : (process cfg s len fault).2.1 = none ∧ Opened cfg (process cfg s len fault).2.2 g.cur.flatten ∧
      (process cfg s len fault).2.2.disk = s.disk → Inv cfg arch (process cfg s len fault).2.2 (g.policy out gone) := by
    intro ⟨h1, h2, h4⟩
    rw [Ghost.policy_none _ _ _ (hro.trans h1)]
    exact ⟨⟨hop.trans inv.wf.1, Or.inr ⟨_, h2⟩⟩, ⟨k, hkc, by rw [h4, hk]⟩, fileOf_opened h2⟩
  cases hans : (cfg.trig.fire s.tst len s.now).1 with
  | no => exact hkeep (hno hans).2
  | err => exact hkeep (herr hans).2
  | yes =>
    obtain ⟨d1, hg1, hse1, hwn, hd, hres⟩ := hyes hans
    obtain ⟨j, hj, hout⟩ := hc.outcome fault d1 _ hg1
    have hwf : WF cfg (process cfg s len fault).2.2 := ⟨hop.trans inv.wf.1, Or.inl hwn⟩
    -- the roller reported `b`; unless it succeeded, `gone` is whether it left the log file
    obtain ⟨b, hb, hbg⟩ : ∃ b, out.rolled = some b ∧
        (b = false → (∃ e, (cfg.roll cfg.path fault d1).1 = .error e) ∧
          gone = ((cfg.roll cfg.path fault d1).2.get? cfg.path).isNone) := by
      rcases hres with ⟨x, hx, hr, hrt⟩ | ⟨e, he, hr, hrf⟩
      · exact ⟨true, hro.trans hrt, fun h => by cases h⟩
      · refine ⟨false, hro.trans hrf, fun _ => ⟨⟨e, he⟩, ?_⟩⟩
        rw [hgone (by rw [hr]; exact fun h => by cases h), goneAfter, hd]
    rw [Ghost.policy_rolled _ _ _ hb]
    rcases hout with ⟨hgn, harch⟩ | ⟨herr', hsame, harch⟩
    · have : (b || gone) = true := by
        cases b
        · rw [(hbg rfl).2, hgn]; rfl
        · rfl
      rw [this, if_pos rfl]
      obtain ⟨k', hk', hkk⟩ := drop_map_snoc List.flatten g.closed g.cur k j
      exact ⟨hwf, ⟨k', by show k' ≤ g.calls + 1; omega, by rw [hd, harch, hc.frame _ _ hse1, hk]; exact hkk⟩,
        by rw [hd]; simp [fileOf, hgn]⟩
    · have : (b || gone) = false := by
        cases b
        · rw [(hbg rfl).2, hsame]; rfl
        · obtain ⟨x, hx, _⟩ | ⟨e, he, _, hrf⟩ := hres
          · obtain ⟨e, he⟩ := herr'; rw [hx] at he; cases he
          · rw [hro.trans hrf] at hb; cases hb
      rw [this, if_neg (by decide)]
      exact ⟨hwf, ⟨k + j, by show k + j ≤ g.calls + 1; omega,
        by rw [hd, harch, hc.frame _ _ hse1, hk, ← List.map_drop, List.drop_drop]⟩, by rw [hd, fileOf, hsame]; rfl⟩

theorem Inv.appendStep {cfg : Cfg σ} {arch : Disk → List Bytes} {s : St σ} {g : Ghost}
    (hc : RollContractE cfg.roll cfg.path arch)
    (inv : Inv cfg arch s g) (r : Rec) (f : Option Nat) :
    Inv cfg arch (append cfg s r (faultFn f)).2
      (ghostStepX cfg g (.op (.append r f)) (some (append cfg s r (faultFn f)).1)
        (goneAfter cfg (append cfg s r (faultFn f)).2)) := by
  obtain ⟨inv1, hw1⟩ := inv.reopen hc.frame
  rw [ghostStepX_append]
  cases hpre : cfg.trig.pre with
  | true =>
    rw [append_pre cfg s r _ hpre, if_pos rfl]
    by_cases hok : (process cfg (getWriter cfg s).1 (getWriter cfg s).2.len (faultFn f)).1 = .ok
    · simp only [hok, if_true]
      obtain ⟨inv3, hw3⟩ := (inv1.policy hc hw1 _ _ ⟨_, _, _⟩ _ rfl (fun h => absurd hok h)).reopen hc.frame
      exact (inv3.write hc.frame hw3 r).1
    · simp only [hok, if_false]
      exact inv1.policy hc hw1 _ _ ⟨_, _, _⟩ _ rfl (fun _ => rfl)
  | false =>
    rw [append_post cfg s r _ hpre, if_neg Bool.false_ne_true]
    obtain ⟨inv2, hw2⟩ := inv1.write hc.frame hw1 r
    exact inv2.policy hc hw2 _ _ ⟨_, _, _⟩ _ rfl (fun _ => rfl)

theorem Inv.appendFailStep {cfg : Cfg σ} {arch : Disk → List Bytes} {s : St σ} {g : Ghost}
    (hc : RollContractE cfg.roll cfg.path arch) (inv : Inv cfg arch s g) (r : Rec) (n : Nat) (f : Option Nat) :
    Inv cfg arch (appendFail cfg s r n (faultFn f)).2
      (ghostStepX cfg g (.appendFail r n f) (some (appendFail cfg s r n (faultFn f)).1)
        (goneAfter cfg (appendFail cfg s r n (faultFn f)).2)) := by
  obtain ⟨inv1, hw1⟩ := inv.reopen hc.frame
  rw [ghostStepX_appendFail]
  cases hpre : cfg.trig.pre with
  | true =>
    rw [appendFail_pre cfg s r n _ hpre, if_pos rfl]
    by_cases hok : (process cfg (getWriter cfg s).1 (getWriter cfg s).2.len (faultFn f)).1 = .ok
    · simp only [hok, if_true]
      exact ((inv1.policy hc hw1 _ _ ⟨_, _, _⟩ _ rfl (fun h => absurd hok h)).reopen hc.frame).1
    · simp only [hok, if_false]
      exact inv1.policy hc hw1 _ _ ⟨_, _, _⟩ _ rfl (fun _ => rfl)
  | false =>
    rw [appendFail_post cfg s r n _ hpre, if_neg Bool.false_ne_true]
    exact inv1

theorem Inv.stepX {cfg : Cfg σ} {arch : Disk → List Bytes} {s : St σ} {g : Ghost}
    (hc : RollContractE cfg.roll cfg.path arch) (inv : Inv cfg arch s g) (op : XOp) :
    Inv cfg arch (applyX cfg s op).2 (ghostStepX cfg g op (applyX cfg s op).1 (goneAfter cfg (applyX cfg s op).2)) := by
  cases op with
  | appendFail r n f => exact inv.appendFailStep hc r n f
  | op o =>
    cases o with
    | append r f => exact inv.appendStep hc r f
    | restart => exact inv.restartStep hc.frame _
    | tick dt => exact ⟨inv.wf, inv.archives, inv.active⟩

/-- the ghost the first appender starts with: every pre-existing archive is one opaque closed
segment, the pre-existing active content (append mode) is the first item of the current one -/
def Ghost.init (cfg : Cfg σ) (arch : Disk → List Bytes) (d : Disk) : Ghost :=
  { closed := (arch d).map (fun x => [x]), cur := if cfg.appendMode then [fileOf cfg d] else [] }

theorem Inv.atInit (cfg : Cfg σ) (arch : Disk → List Bytes)
    (hframe : ∀ d d', (∀ q, q ≠ cfg.path → d'.get? q = d.get? q) → arch d' = arch d)
    (d : Disk) (t0 : σ) (now : Nat) : Inv cfg arch (init cfg d t0 now) (Ghost.init cfg arch d) := by
  obtain ⟨ho, hse, _⟩ := init_spec cfg d t0 now
  refine ⟨WF_init cfg d t0 now, ⟨0, Nat.zero_le _, ?_⟩, ?_⟩
  · rw [hframe _ _ hse]
    simp [Ghost.init, Function.comp_def]
  · rw [fileOf_opened ho]
    simp only [Ghost.init]
    split <;> simp

theorem Inv.historyX {cfg : Cfg σ} {arch : Disk → List Bytes}
    (hc : RollContractE cfg.roll cfg.path arch)
    (ops : List XOp) {s : St σ} {g : Ghost} (inv : Inv cfg arch s g) :
    Inv cfg arch (grunX cfg s g ops).2.1 (grunX cfg s g ops).2.2 := by
  induction ops generalizing s g with
  | nil => exact inv
  | cons op ops ih => exact ih (inv.stepX hc op)

/-- how often the roller was called in a run -/
def rollCalls (outs : List (Option Out)) : Nat :=
  (outs.map (fun o => match o with | some out => callsOfOut out | none => 0)).sum

theorem ghostStepX_calls (cfg : Cfg σ) (s : St σ) (g : Ghost) (op : XOp) (gone : Bool) :
    (ghostStepX cfg g op (applyX cfg s op).1 gone).calls =
      g.calls + (match (applyX cfg s op).1 with | some out => callsOfOut out | none => 0) := by
  cases op with
  | appendFail r n f =>
    show (ghostStepX cfg g (.appendFail r n f) (some (appendFail cfg s r n (faultFn f)).1) gone).calls =
      g.calls + callsOfOut (appendFail cfg s r n (faultFn f)).1
    generalize (appendFail cfg s r n (faultFn f)).1 = out
    rw [ghostStepX_appendFail]
    split
    · exact Ghost.policy_calls ..
    · rfl
  | op oo =>
    cases oo with
    | append r f =>
      show (ghostStepX cfg g (.op (.append r f)) (some (append cfg s r (faultFn f)).1) gone).calls =
        g.calls + callsOfOut (append cfg s r (faultFn f)).1
      generalize (append cfg s r (faultFn f)).1 = out
      rw [ghostStepX_append]
      split
      · split <;> exact Ghost.policy_calls ..
      · exact Ghost.policy_calls ..
    | restart =>
      show (if cfg.appendMode then g else { g with cur := [] }).calls = g.calls + 0
      split <;> rfl
    | tick dt => rfl

theorem grunX_calls (cfg : Cfg σ) (ops : List XOp) (s : St σ) (g : Ghost) :
    (grunX cfg s g ops).2.2.calls = g.calls + rollCalls (grunX cfg s g ops).1 := by
  induction ops generalizing s g with
  | nil => rfl
  | cons op ops ih =>
    simp only [grunX]
    rw [ih, ghostStepX_calls]
    simp only [rollCalls, List.map_cons, List.sum_cons]
    omega

def Op.isRestart : Op → Bool
  | .restart => true
  | _ => false

def XOp.isRestart : XOp → Bool
  | .op o => o.isRestart
  | .appendFail _ _ _ => false

/-- did the record of this (successful-encoder) append reach the file? post-process: always (the
policy runs after the flush); pre-process: iff the append returned `Ok` -/
def wrote (pre : Bool) (out : Out) : Bool :=
  if pre then out.res == .ok else true

/-- the items written by a history, in write order; an append whose encoder failed contributes
nothing -/
def writtenItemsX (pre : Bool) : List XOp → List (Option Out) → List Bytes
  | .op (.append r _) :: ops, some out :: outs => (if wrote pre out then [encBytes r] else []) ++ writtenItemsX pre ops outs
  | _ :: ops, _ :: outs => writtenItemsX pre ops outs
  | _, _ => []

/-- the items whose append returned `Ok` (the acknowledged stream), in call order -/
def ackedItemsX : List XOp → List (Option Out) → List Bytes
  | .op (.append r _) :: ops, some out :: outs => (if out.res = .ok then [encBytes r] else []) ++ ackedItemsX ops outs
  | _ :: ops, _ :: outs => ackedItemsX ops outs
  | _, _ => []

/-! Both are sums over the history of what one operation contributes (`… [op] [o]`); the proofs
below use these equations and never unfold the overlapping matches. -/

theorem writtenItemsX_cons (pre : Bool) (op : XOp) (o : Option Out) (ops : List XOp) (outs : List (Option Out)) :
    writtenItemsX pre (op :: ops) (o :: outs) = writtenItemsX pre [op] [o] ++ writtenItemsX pre ops outs := by
  cases op with
  | appendFail r n f => rfl
  | op o' =>
    cases o' with
    | append r f =>
      cases o with
      | none => rfl
      | some out => exact congrArg (· ++ writtenItemsX pre ops outs) (List.append_nil _).symm
    | restart => rfl
    | tick dt => rfl

theorem ackedItemsX_cons (op : XOp) (o : Option Out) (ops : List XOp) (outs : List (Option Out)) :
    ackedItemsX (op :: ops) (o :: outs) = ackedItemsX [op] [o] ++ ackedItemsX ops outs := by
  cases op with
  | appendFail r n f => rfl
  | op o' =>
    cases o' with
    | append r f =>
      cases o with
      | none => rfl
      | some out => exact congrArg (· ++ ackedItemsX ops outs) (List.append_nil _).symm
    | restart => rfl
    | tick dt => rfl

theorem writtenItemsX_append (pre : Bool) (r : Rec) (f : Option Nat) (out : Out) :
    writtenItemsX pre [.op (.append r f)] [some out] = if wrote pre out then [encBytes r] else [] :=
  List.append_nil _

theorem ackedItemsX_append (r : Rec) (f : Option Nat) (out : Out) :
    ackedItemsX [.op (.append r f)] [some out] = if out.res = .ok then [encBytes r] else [] :=
  List.append_nil _

theorem ackedItemsX_nil_right (ops : List XOp) : ackedItemsX ops [] = [] := by
  rcases ops with _ | ⟨(_ | _ | _) | _, _⟩ <;> rfl

def Ghost.stream (g : Ghost) : List Bytes := (g.closed ++ [g.cur]).flatten

theorem Ghost.write_stream (g : Ghost) (x : Bytes) : (g.write x).stream = g.stream ++ [x] := by
  simp [Ghost.stream, Ghost.write]

theorem Ghost.policy_stream (g : Ghost) (out : Out) (gone : Bool) : (g.policy out gone).stream = g.stream := by
  unfold Ghost.policy
  split <;> simp [Ghost.stream]

/-- one operation appends what it wrote to the stream; only a restart in truncate mode discards
something, namely the active segment -/
theorem ghostStepX_stream (cfg : Cfg σ) (g : Ghost) (op : XOp) (o : Option Out) (gone : Bool) :
    (ghostStepX cfg g op o gone).stream =
      (if op.isRestart && !cfg.appendMode then g.closed.flatten else g.stream) ++
        writtenItemsX cfg.trig.pre [op] [o] := by
  cases op with
  | appendFail r n f =>
    cases o with
    | none => exact (List.append_nil _).symm
    | some out =>
      rw [ghostStepX_appendFail]
      split
      · rw [Ghost.policy_stream]; exact (List.append_nil _).symm
      · exact (List.append_nil _).symm
  | op oo =>
    cases oo with
    | append r f =>
      cases o with
      | none => exact (List.append_nil _).symm
      | some out =>
        rw [ghostStepX_append, writtenItemsX_append]
        unfold wrote
        cases cfg.trig.pre <;> by_cases hok : out.res = .ok <;>
          simp [XOp.isRestart, Op.isRestart, hok, Ghost.write_stream, Ghost.policy_stream]
    | restart =>
      show (if cfg.appendMode then g else { g with cur := [] }).stream = _
      cases cfg.appendMode <;> simp [XOp.isRestart, Op.isRestart, Ghost.stream, writtenItemsX]
    | tick dt => cases o <;> exact (List.append_nil _).symm

/-- the ghost is the written stream, in order, each item once — as long as no restart happens in
truncate mode (which discards the active segment; see `grunX_stream_sublist` and
`grunX_stream_after_restart` for that case) -/
theorem grunX_stream (cfg : Cfg σ) (ops : List XOp) (s : St σ) (g : Ghost)
    (hnr : cfg.appendMode = true ∨ ∀ op ∈ ops, op.isRestart = false) :
    (grunX cfg s g ops).2.2.stream = g.stream ++ writtenItemsX cfg.trig.pre ops (grunX cfg s g ops).1 := by
  induction ops generalizing s g with
  | nil => exact (List.append_nil _).symm
  | cons op ops ih =>
    have hkeep : (op.isRestart && !cfg.appendMode) = false := by
      rcases hnr with h | h
      · rw [h]; exact Bool.and_false _
      · rw [h op (List.mem_cons_self ..)]; rfl
    simp only [grunX]
    rw [ih _ _ (hnr.imp_right fun h o ho => h o (List.mem_cons_of_mem _ ho)), writtenItemsX_cons,
      ghostStepX_stream, hkeep, List.append_assoc]
    rfl

/-- without any hypothesis on restarts: the ghost stream is a subsequence of the pre-existing
items followed by the written ones — nothing invented, nothing duplicated, nothing reordered; what
may be missing is what a truncate-mode restart discarded -/
theorem grunX_stream_sublist (cfg : Cfg σ) (ops : List XOp) (s : St σ) (g : Ghost) :
    (grunX cfg s g ops).2.2.stream.Sublist (g.stream ++ writtenItemsX cfg.trig.pre ops (grunX cfg s g ops).1) := by
  induction ops generalizing s g with
  | nil => exact (List.append_nil _).symm ▸ List.Sublist.refl _
  | cons op ops ih =>
    simp only [grunX]
    refine (ih _ _).trans ?_
    rw [writtenItemsX_cons, ghostStepX_stream, List.append_assoc]
    refine List.Sublist.append ?_ (List.Sublist.refl _)
    split
    · rw [Ghost.stream, List.flatten_append]
      exact List.sublist_append_left _ _
    · exact List.Sublist.refl _

/-- … and exactly what it discards: after a restart (truncate mode: the active segment is dropped
at open, the archives are untouched) followed by a restart-free history, the stream is what had
been archived before, followed by everything written since -/
theorem grunX_stream_after_restart (cfg : Cfg σ) (ops1 ops2 : List XOp) (s : St σ) (g : Ghost)
    (ham : cfg.appendMode = false) (hnr : ∀ op ∈ ops2, op.isRestart = false) :
    let mid := grunX cfg s g ops1
    let fin := grunX cfg s g (ops1 ++ .op .restart :: ops2)
    fin.2.2.stream = mid.2.2.closed.flatten ++
      writtenItemsX cfg.trig.pre ops2 (fin.1.drop (ops1.length + 1)) := by
  intro mid fin
  have hlen : mid.1.length = ops1.length := by
    simp only [mid]
    rw [grunX_outs]
    simp [traceX_length]
  have hfin : fin = _ := grunX_append cfg s g ops1 (.op .restart :: ops2)
  rw [hfin]
  simp only [grunX]
  rw [grunX_stream cfg ops2 _ _ (Or.inr hnr), ghostStepX_stream, ← hlen, ← List.drop_drop, List.drop_left, ham]
  exact congrArg (· ++ _) (List.append_nil _)

theorem ackedX_sublist_writtenX (pre : Bool) (ops : List XOp) (outs : List (Option Out)) :
    (ackedItemsX ops outs).Sublist (writtenItemsX pre ops outs) := by
  induction ops generalizing outs with
  | nil => exact List.Sublist.refl _
  | cons op ops ih =>
    cases outs with
    | nil => rw [ackedItemsX_nil_right]; exact List.nil_sublist _
    | cons o outs =>
      rw [ackedItemsX_cons, writtenItemsX_cons]
      refine List.Sublist.append ?_ (ih outs)
      -- only an append with an output contributes; acknowledged implies written
      rcases op with (⟨r, f⟩ | _ | _) | _
      · cases o with
        | none => exact List.Sublist.refl _
        | some out =>
          rw [ackedItemsX_append, writtenItemsX_append]
          by_cases hok : out.res = .ok
          · have : wrote pre out = true := by cases pre <;> simp [wrote, hok]
            rw [if_pos hok, if_pos this]
            exact List.Sublist.refl _
          · rw [if_neg hok]; exact List.nil_sublist _
      all_goals exact List.Sublist.refl _

end Log4rs.Rolling
