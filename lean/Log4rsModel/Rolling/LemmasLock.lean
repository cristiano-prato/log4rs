import Log4rsModel.Rolling.Lock
import Log4rsModel.Rolling.LockSmall
import Log4rsModel.Rolling.Lemmas
/-
Every reachable state of the coarse lock machine is a sequential execution of the committed jobs
in commit order, and the commit order is a merge of the threads' completed jobs.
-/
namespace Log4rs.Rolling

variable {Sh Job : Type}

structure LInv (body : Job → Sh → Sh) (sh0 : Sh) (progs : List (List Job)) (s : LState Sh Job) : Prop where
  shared : s.shared = (s.log.map (·.2)).foldl (fun sh j => body j sh) sh0
  threads : ∀ i t, s.threads[i]? = some t →
    (s.log.filter (fun e => e.1 == i)).map (·.2) = t.done ∧ ∃ p, progs[i]? = some p ∧ t.done ++ t.todo = p

theorem LInv.init (body : Job → Sh → Sh) (sh0 : Sh) (progs : List (List Job)) :
    LInv body sh0 progs (LState.init sh0 progs) := by
  constructor
  · rfl
  · intro i t h
    simp only [LState.init, List.getElem?_map, Option.map_eq_some_iff] at h
    obtain ⟨p, hp, rfl⟩ := h
    exact ⟨rfl, p, hp, rfl⟩

/-- an enabled step of thread `i`: the thread has a job to do and either runs it and releases the
lock, or takes the free lock -/
theorem lstep_cases {body : Job → Sh → Sh} {i : Nat} {s s' : LState Sh Job} (h : lstep body i s = some s') :
    ∃ t j rest, s.threads[i]? = some t ∧ t.todo = j :: rest ∧
      (s' = { shared := body j s.shared,
              threads := s.threads.set i { todo := rest, holding := false, done := t.done ++ [j] },
              log := s.log ++ [(i, j)] } ∨
       s' = { s with threads := s.threads.set i { t with holding := true } }) := by
  unfold lstep at h
  split at h
  · cases h
  next t hti =>
  split at h
  · cases h
  next j rest htodo =>
  refine ⟨t, j, rest, hti, htodo, ?_⟩
  split at h
  · exact .inl (Option.some.inj h).symm
  split at h
  · exact .inr (Option.some.inj h).symm
  · cases h

theorem LInv.step {body : Job → Sh → Sh} {sh0 : Sh} {progs : List (List Job)} {s s' : LState Sh Job} {i : Nat}
    (inv : LInv body sh0 progs s) (h : lstep body i s = some s') : LInv body sh0 progs s' := by
  obtain ⟨t, j, rest, hti, htodo, hs⟩ := lstep_cases h
  have hi : i < s.threads.length := (List.getElem?_eq_some_iff.mp hti).1
  obtain ⟨hlog, p, hp1, hp2⟩ := inv.threads i t hti
  rcases hs with rfl | rfl
  · constructor
    · simp [inv.shared]
    · intro k t1 h1
      rcases getElem?_set_cases h1 hi with ⟨rfl, rfl⟩ | ⟨hki, h1⟩
      · refine ⟨by simp [List.filter_append, hlog], p, hp1, ?_⟩
        rw [← hp2, htodo]
        simp
      · simp only [filter_fst_append_ne _ _ hki]
        exact inv.threads k t1 h1
  · constructor
    · exact inv.shared
    · intro k t1 h1
      rcases getElem?_set_cases h1 hi with ⟨rfl, rfl⟩ | ⟨_, h1⟩
      · exact ⟨hlog, p, hp1, hp2⟩
      · exact inv.threads k t1 h1

theorem LInv.run {body : Job → Sh → Sh} {sh0 : Sh} {progs : List (List Job)} (sched : List Nat)
    {s : LState Sh Job} (inv : LInv body sh0 progs s) : LInv body sh0 progs (lrun body s sched) := by
  induction sched generalizing s with
  | nil => exact inv
  | cons i rest ih =>
    simp only [lrun]
    cases h : lstep body i s with
    | none => simpa [h] using ih inv
    | some s' => simpa [h] using ih (inv.step h)

/-- a property of every job of every program holds of every committed job -/
theorem lrun_log_forall (body : Job → Sh → Sh) {P : Job → Prop} (sched : List Nat) (s : LState Sh Job)
    (h : (∀ e ∈ s.log, P e.2) ∧ ∀ t ∈ s.threads, ∀ j ∈ t.todo, P j) :
    (∀ e ∈ (lrun body s sched).log, P e.2) ∧ ∀ t ∈ (lrun body s sched).threads, ∀ j ∈ t.todo, P j := by
  induction sched generalizing s with
  | nil => exact h
  | cons i rest ih =>
    refine ih _ ?_
    cases hst : lstep body i s with
    | none => exact h
    | some s1 =>
      obtain ⟨t, j0, r0, ht, htd, hs⟩ := lstep_cases hst
      have htodo : ∀ j ∈ t.todo, P j := h.2 t (List.mem_of_getElem? ht)
      -- the thread that moved keeps (a suffix of) its to-do list
      have hset : ∀ t' : LThread Job, (∀ j ∈ t'.todo, P j) → ∀ u ∈ s.threads.set i t', ∀ j ∈ u.todo, P j := by
        intro t' ht' u hu
        rcases List.mem_or_eq_of_mem_set hu with hu | rfl
        · exact h.2 u hu
        · exact ht'
      rcases hs with rfl | rfl
      · rw [htd] at htodo
        refine ⟨fun e he => ?_, hset _ (fun j hj => htodo j (List.mem_cons_of_mem _ hj))⟩
        rcases List.mem_append.mp he with he | he
        · exact h.1 e he
        · obtain rfl := List.mem_singleton.mp he
          exact htodo j0 (List.mem_cons_self ..)
      · exact ⟨h.1, hset _ htodo⟩

/-! ### the small-step lock machine

Every state it can reach: finishing the holder's remaining micro-steps gives the serial execution of
the committed critical sections plus the holder's; with the lock free the shared state IS that
serial execution; the commit order is a merge of the threads' programs. -/

def serialOf (micro : Job → List (Sh → Sh)) (sh0 : Sh) (log : List (Nat × Job)) : Sh :=
  (log.map (·.2)).foldl (fun sh j => runJob micro j sh) sh0

structure MInv (micro : Job → List (Sh → Sh)) (sh0 : Sh) (progs : List (List Job)) (s : MState Sh Job) : Prop where
  threads : ∀ i t, s.threads[i]? = some t →
    (s.log.filter (fun e => e.1 == i)).map (·.2) = t.done ∧ ∃ p, progs[i]? = some p ∧ t.done ++ t.todo = p
  lock : match s.holder with
    | none => (∀ (i : Nat) (t : MThread Sh Job), s.threads[i]? = some t → t.pc = none) ∧
              s.shared = serialOf micro sh0 s.log
    | some h => ∃ (t : MThread Sh Job) (rest : List (Sh → Sh)) (j : Job) (tl : List Job),
        s.threads[h]? = some t ∧ t.pc = some rest ∧ t.todo = j :: tl ∧
        (∀ (i : Nat) (t' : MThread Sh Job), i ≠ h → s.threads[i]? = some t' → t'.pc = none) ∧
        rest.foldl (fun sh f => f sh) s.shared = runJob micro j (serialOf micro sh0 s.log)

theorem MInv.init (micro : Job → List (Sh → Sh)) (sh0 : Sh) (progs : List (List Job)) :
    MInv micro sh0 progs (MState.init sh0 progs) := by
  constructor
  · intro i t h
    simp only [MState.init, List.getElem?_map, Option.map_eq_some_iff] at h
    obtain ⟨p, hp, rfl⟩ := h
    exact ⟨rfl, p, hp, rfl⟩
  · simp only [MState.init]
    refine ⟨?_, rfl⟩
    intro i t h
    simp only [List.getElem?_map, Option.map_eq_some_iff] at h
    obtain ⟨p, _, rfl⟩ := h
    rfl

theorem MInv.step {micro : Job → List (Sh → Sh)} {sh0 : Sh} {progs : List (List Job)} {s s' : MState Sh Job} {i : Nat}
    (inv : MInv micro sh0 progs s) (h : mstep micro i s = some s') : MInv micro sh0 progs s' := by
  unfold mstep at h
  cases hti : s.threads[i]? with
  | none => simp [hti] at h
  | some t =>
    have hi : i < s.threads.length := (List.getElem?_eq_some_iff.mp hti).1
    simp only [hti] at h
    obtain ⟨hlog, p, hp1, hp2⟩ := inv.threads i t hti
    have lk := inv.lock
    cases hpc : t.pc with
    | none =>
      cases htodo : t.todo with
      | nil => simp [hpc, htodo] at h
      | cons j tl =>
        simp only [hpc, htodo] at h
        cases hh : s.holder with
        | some x => simp [hh] at h
        | none =>
          simp only [hh] at h lk
          have := (Option.some.inj h).symm
          subst this
          constructor
          · intro k t1 h1
            rcases getElem?_set_cases h1 hi with ⟨rfl, rfl⟩ | ⟨_, h2⟩
            · exact ⟨hlog, p, hp1, by simpa [htodo] using hp2⟩
            · exact inv.threads k t1 h2
          · simp only
            refine ⟨_, micro j, j, tl, List.getElem?_set_self hi, rfl, rfl, ?_, ?_⟩
            · intro k t1 hne h1
              rw [List.getElem?_set_ne (fun e => hne e.symm)] at h1
              exact lk.1 k t1 h1
            · rw [lk.2]; rfl
    | some rest =>
      -- the thread holds the lock
      have hold : s.holder = some i := by
        cases hh : s.holder with
        | none =>
          simp only [hh] at lk
          have := lk.1 i t hti
          simp [hpc] at this
        | some x =>
          simp only [hh] at lk
          obtain ⟨_, _, _, _, _, _, _, hoth, _⟩ := lk
          by_cases hix : i = x
          · rw [hix]
          · have := hoth i t hix hti
            simp [hpc] at this
      simp only [hold] at lk
      obtain ⟨th, rest', j, tl, hth, hpc', htodo, hoth, hfin⟩ := lk
      have hte : th = t := by
        rw [hti] at hth
        exact (Option.some.inj hth).symm
      subst hte
      rw [hpc] at hpc'
      have hr : rest' = rest := (Option.some.inj hpc').symm
      subst hr
      cases hrest : rest' with
      | cons f fs =>
        simp only [hpc, hrest] at h
        have := (Option.some.inj h).symm
        subst this
        constructor
        · intro k t1 h1
          rcases getElem?_set_cases h1 hi with ⟨rfl, rfl⟩ | ⟨_, h2⟩
          · exact ⟨hlog, p, hp1, hp2⟩
          · exact inv.threads k t1 h2
        · simp only [hold]
          refine ⟨_, fs, j, tl, List.getElem?_set_self hi, rfl, htodo, ?_, ?_⟩
          · intro k t1 hne h1
            rw [List.getElem?_set_ne (fun e => hne e.symm)] at h1
            exact hoth k t1 hne h1
          · rw [← hfin, hrest]; rfl
      | nil =>
        simp only [hpc, hrest, htodo] at h
        have := (Option.some.inj h).symm
        subst this
        rw [hrest] at hfin
        simp only [List.foldl_nil] at hfin
        constructor
        · intro k t1 h1
          rcases getElem?_set_cases h1 hi with ⟨rfl, rfl⟩ | ⟨hne, h2⟩
          · refine ⟨by simp [List.filter_append, hlog], p, hp1, ?_⟩
            rw [← hp2, htodo]
            simp
          · simp only [filter_fst_append_ne _ _ hne]
            exact inv.threads k t1 h2
        · simp only
          refine ⟨?_, ?_⟩
          · intro k t1 h1
            rcases getElem?_set_cases h1 hi with ⟨rfl, rfl⟩ | ⟨hne, h2⟩
            · rfl
            · exact hoth k t1 hne h2
          · rw [hfin]
            simp [serialOf]

theorem MInv.run {micro : Job → List (Sh → Sh)} {sh0 : Sh} {progs : List (List Job)} (sched : List Nat)
    {s : MState Sh Job} (inv : MInv micro sh0 progs s) : MInv micro sh0 progs (mrun micro s sched) := by
  induction sched generalizing s with
  | nil => exact inv
  | cons i rest ih =>
    simp only [mrun]
    cases h : mstep micro i s with
    | none => simpa [h] using ih inv
    | some s' => simpa [h] using ih (inv.step h)

/-! ### the three micro-steps of `append` compose to `append` -/

variable {σ : Type}

theorem appendMicro_eq (cfg : Cfg σ) (r : Rec) (m : Mid σ) :
    runJob (appendMicro cfg) r m =
      { st := (append cfg m.st r (fun _ => false)).2, outs := m.outs ++ [some (append cfg m.st r (fun _ => false)).1] } := by
  simp only [runJob, appendMicro, List.foldl_cons, List.foldl_nil, phaseA, phaseB, phaseC, append]
  rcases hg : getWriter cfg m.st with ⟨s1, w⟩
  simp only
  cases hpre : cfg.trig.pre with
  | true =>
    simp only [if_true]
    rcases hp : process cfg s1 w.len (fun _ => false) with ⟨res, rolled, s2⟩
    simp only
    cases res <;> rfl
  | false =>
    simp only [Bool.false_eq_true, if_false]

end Log4rs.Rolling
