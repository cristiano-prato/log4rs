import Log4rsModel.Rolling.Ext17Spec
import Log4rsModel.Rolling.LemmasRolling
import Log4rsModel.Roller.Lemmas
/-
The fixed-window roller under the harness's three ways of making it misbehave (C17, C06): the
fault-free rotation, a rotation stopped before step `k`, and the wrapper that reports `Err` after the
work is done; then what it leaves on the disk slot by slot, in the vocabulary of `Spec17`
(`shifted`, `rotateSlots`).
-/
namespace Log4rs.Rolling
open Log4rs.Roller

theorem runSteps_congr (r : RollerCfg) (file : Path) (f g : Nat → Bool) (l : List Step) (k : Nat) (d : Disk)
    (h : ∀ i, k ≤ i → i < k + l.length → f i = g i) : runSteps r file f k l d = runSteps r file g k l d := by
  induction l generalizing k d with
  | nil => rfl
  | cons s l ih =>
    simp only [runSteps]
    rw [← h k (Nat.le_refl _) (by simp)]
    by_cases hf : f k
    · simp [hf]
    · simp only [hf]
      cases applyStep r file s d with
      | error e => rfl
      | ok d' => exact ih (k + 1) d' (fun i h1 h2 => h i (by omega) (by simp only [List.length_cons]; omega))

theorem shiftSteps_add (b a p : Nat) : shiftSteps b (a + p) = shiftSteps (b + a) p ++ shiftSteps b a := by
  induction p with
  | zero => rfl
  | succ p ih => rw [← Nat.add_assoc, shiftSteps_succ, shiftSteps_succ, ih, Nat.add_assoc, List.cons_append]

/-- a rotation whose step `k` fails: the first `k` shifts have happened, nothing else -/
theorem fixedWindowRoll_fault (r : RollerCfg) (file : Path) (d : Disk) (k : Nat) (hk : k < r.count) :
    fixedWindowRoll r file (faultFn (some k)) d =
      (.error (.injected k), applyShifts { r with base := r.base + (r.count - 1 - k) } k d) := by
  -- `a` shifts are left undone
  obtain ⟨a, ha⟩ : ∃ a, r.count - 1 = a + k := ⟨r.count - 1 - k, by omega⟩
  rw [show r.count - 1 - k = a from by omega]
  unfold fixedWindowRoll
  rw [if_neg (by omega), Roller.steps_eq, ha, shiftSteps_add, List.append_assoc,
    runSteps_shifts r file _ _ k 0 _ d (fun i _ h2 => by simp [faultFn]; omega)]
  -- step `k` is the next one, and there is one: at least the final step
  have hfk : faultFn (some k) k = true := by simp [faultFn]
  cases hrest : shiftSteps r.base a ++ [Step.final] with
  | nil => simp at hrest
  | cons s rest => simp only [runSteps, Nat.zero_add, hfk, if_true]

theorem fixedWindowRoll_fault_beyond (r : RollerCfg) (file : Path) (d : Disk) (k : Nat) (hk : Spec17.nSteps r.count ≤ k) :
    fixedWindowRoll r file (faultFn (some k)) d = fixedWindowRoll r file (fun _ => false) d := by
  unfold fixedWindowRoll
  by_cases hc : r.count = 0
  · have : faultFn (some k) 0 = false := by
      simp only [Spec17.nSteps, hc, if_true] at hk
      simp [faultFn]; omega
    simp [hc, this]
  · simp only [hc, if_false]
    apply runSteps_congr
    intro i _ h2
    simp only [Spec17.nSteps, hc, if_false] at hk
    have hlen : (steps r.base r.count).length = r.count := by
      simp [steps]; omega
    rw [hlen] at h2
    simp [faultFn]; omega

theorem faultFn_none : faultFn none = fun _ => false := by
  funext k; simp [faultFn]

theorem deleteRoll_eq (r : RollerCfg) (hc : r.count = 0) : (fun p f d => deleteRoll p f d) = fixedWindowRoll r := by
  funext file fault d
  exact (fixedWindowRoll_eq_delete r file fault d hc).symm

theorem fixedWindowRoll_zero (r : RollerCfg) (hc : r.count = 0) (file : Path) (fault : Nat → Bool) (d : Disk) (a : Bytes)
    (ha : d.get? file = some a) :
    fixedWindowRoll r file fault d = if fault 0 then (.error (.injected 0), d) else (.ok (d.erase file), d.erase file) := by
  simp [fixedWindowRoll, hc, ha]

theorem runSteps_ok_nofault (r : RollerCfg) (file : Path) (fault : Nat → Bool) (l : List Step) (k : Nat) (d : Disk)
    (x d' : Disk) (h : runSteps r file fault k l d = (.ok x, d')) : ∀ i, k ≤ i → i < k + l.length → fault i = false := by
  induction l generalizing k d with
  | nil => intro i h1 h2; simp at h2; omega
  | cons s l ih =>
    simp only [runSteps] at h
    by_cases hf : fault k
    · simp [hf] at h
    · simp only [hf] at h
      cases ha : applyStep r file s d with
      | error e => simp [ha] at h
      | ok d'' =>
        simp only [ha] at h
        intro i h1 h2
        by_cases hik : i = k
        · subst hik; simpa using hf
        · exact ih (k + 1) d'' h i (by omega) (by simp only [List.length_cons] at h2; omega)

theorem fixedWindowRoll_ok_faultfree (r : RollerCfg) (file : Path) (fault : Nat → Bool) (d x d' : Disk)
    (h : fixedWindowRoll r file fault d = (.ok x, d')) : fixedWindowRoll r file (fun _ => false) d = (.ok x, d') := by
  unfold fixedWindowRoll at h ⊢
  by_cases hc : r.count = 0
  · simp only [hc, if_true] at h ⊢
    by_cases hf : fault 0
    · simp [hf] at h
    · simpa [hf] using h
  · simp only [hc, if_false] at h ⊢
    rw [← h]
    exact (runSteps_congr r file fault (fun _ => false) _ 0 d
      (fun i h1 h2 => runSteps_ok_nofault r file fault _ 0 d x d' h i h1 h2)).symm

theorem Spec17.outcomeOf_some (count k : Nat) (hk : k ≠ Spec17.LATE) :
    Spec17.outcomeOf count (Spec17.moodOf (some k)) = if k < Spec17.nSteps count then .stopped k else .done := by
  simp [Spec17.moodOf, hk, Spec17.outcomeOf]

/-- the harness's wrapper is `lateRoll` at the fault index `Spec17.LATE` -/
theorem lateWrap_run (roll : RollFn) (p : Path) (f : Nat → Bool) (d : Disk) :
    ∃ g res d', roll p g d = (res, d') ∧
      (Spec17.lateWrap roll p f d = (res, d') ∨
       (∃ x, res = .ok x) ∧ Spec17.lateWrap roll p f d = (.error (.injected Spec17.LATE), d')) :=
  lateRoll_run roll Spec17.LATE p f d

/-- how an archive is read back: plain patterns store the bytes, compressing ones are decoded -/
def decOf (r : RollerCfg) (decode : Bytes → Bytes) : Bytes → Bytes :=
  match r.comp with
  | .none => id
  | _ => decode

theorem decOf_enc (r : RollerCfg) (decode : Bytes → Bytes) (hdec : ∀ x, decode (r.codec x) = x) (a : Bytes) :
    decOf r decode (r.enc a) = a := by
  unfold decOf RollerCfg.enc
  cases r.comp <;> simp [hdec]

/-- the retention window of a disk, slot by slot, decoded -/
def slotsOf (r : RollerCfg) (decode : Bytes → Bytes) (d : Disk) : List (Option Bytes) :=
  (List.range r.count).map fun j => (d.get? (r.nameOf (r.base + j))).map (decOf r decode)

theorem slotsOf_length (r : RollerCfg) (decode : Bytes → Bytes) (d : Disk) : (slotsOf r decode d).length = r.count := by
  simp [slotsOf]

theorem slotAt_slotsOf (r : RollerCfg) (decode : Bytes → Bytes) (d : Disk) (j : Nat) (hj : j < r.count) :
    Spec17.slotAt (slotsOf r decode d) j = (d.get? (r.nameOf (r.base + j))).map (decOf r decode) := by
  simp [Spec17.slotAt, slotsOf, hj]

theorem slotsOf_congr (r : RollerCfg) (decode : Bytes → Bytes) (d d' : Disk)
    (h : ∀ j, j < r.count → d'.get? (r.nameOf (r.base + j)) = d.get? (r.nameOf (r.base + j))) :
    slotsOf r decode d' = slotsOf r decode d := by
  unfold slotsOf
  apply List.map_congr_left
  intro j hj
  rw [h j (List.mem_range.mp hj)]

theorem rebase_zero (r : RollerCfg) : ({ r with base := r.base + 0 } : RollerCfg) = r := by
  cases r; rfl

/-- The shifts of the names `lo+a … lo+a+m`, read at the name `lo+i`: outside that range nothing
moves; the bottom name has been moved away; above it every name holds what the name below it held,
the top one keeping its own content when that was absent. -/
theorem get?_applyShifts_at (r : RollerCfg) (hinj : NamesInj r) (lo a m i : Nat) (d : Disk) :
    (applyShifts { r with base := lo + a } m d).get? (r.nameOf (lo + i)) =
      if i < a ∨ a + m < i then d.get? (r.nameOf (lo + i))
      else if i = a then (if m = 0 then d.get? (r.nameOf (lo + i)) else none)
      else match d.get? (r.nameOf (lo + (i - 1))) with
        | some y => some y
        | none => if i = a + m then d.get? (r.nameOf (lo + i)) else none := by
  by_cases h1 : i < a ∨ a + m < i
  · rw [if_pos h1]
    exact slot_applyShifts_other (r := { r with base := lo + a }) hinj m d (lo + i)
      (h1.imp (Nat.add_lt_add_left · lo) (fun h => by rw [Nat.add_assoc]; exact Nat.add_lt_add_left h lo))
  · rw [if_neg h1]
    by_cases h2 : i = a
    · subst h2
      rw [if_pos rfl]
      by_cases hm : m = 0
      · subst hm
        rfl
      · rw [if_neg hm]
        exact (slot_applyShifts (r := { r with base := lo + i }) hinj m d).1 (Nat.pos_of_ne_zero hm)
    · rw [if_neg h2]
      -- `i = a + j` with `1 ≤ j ≤ m`
      obtain ⟨j, rfl, hj1, hjm⟩ : ∃ j, i = a + j ∧ 1 ≤ j ∧ j ≤ m := ⟨i - a, by omega, by omega, by omega⟩
      have h : (applyShifts { r with base := lo + a } m d).get? (r.nameOf (lo + a + j)) =
          match d.get? (r.nameOf (lo + a + j - 1)) with
          | some y => some y
          | none => if j = m then d.get? (r.nameOf (lo + a + m)) else none :=
        (slot_applyShifts (r := { r with base := lo + a }) hinj m d).2 j hj1 hjm
      rw [← Nat.add_assoc, h, show lo + a + j - 1 = lo + (a + j - 1) from by omega]
      cases d.get? (r.nameOf (lo + (a + j - 1))) with
      | some y => rfl
      | none =>
        show (if j = m then d.get? (r.nameOf (lo + a + m)) else none) = if a + j = a + m then _ else none
        by_cases h3 : j = m
        · rw [if_pos h3, if_pos (by rw [h3]), h3]
        · rw [if_neg h3, if_neg (fun e => h3 (Nat.add_left_cancel e))]

/-- the window after the first `p` shifts of a rotation -/
theorem slotsOf_applyShifts (r : RollerCfg) (decode : Bytes → Bytes) (hinj : NamesInj r) (p : Nat) (hp : p < r.count)
    (d : Disk) :
    slotsOf r decode (applyShifts { r with base := r.base + (r.count - 1 - p) } p d) =
      Spec17.shifted r.count p (slotsOf r decode d) := by
  apply List.map_congr_left
  intro i hi
  have hi' : i < r.count := List.mem_range.mp hi
  have hs := slotAt_slotsOf r decode d
  rw [get?_applyShifts_at r hinj r.base (r.count - 1 - p) p i d]
  by_cases h1 : i < r.count - 1 - p
  · rw [if_pos (Or.inl h1), if_pos h1, hs i hi']
  · rw [if_neg (by omega), if_neg h1]
    by_cases h2 : i = r.count - 1 - p
    · rw [if_pos h2, if_pos h2]
      by_cases hp0 : p = 0
      · rw [if_pos hp0, if_pos hp0, hs i hi']
      · rw [if_neg hp0, if_neg hp0]
        rfl
    · rw [if_neg h2, if_neg h2, hs (i - 1) (by omega)]
      cases d.get? (r.nameOf (r.base + (i - 1))) with
      | some y => rfl
      | none =>
        show Option.map _ (if i = r.count - 1 - p + p then _ else none) = if i = r.count - 1 then _ else none
        by_cases h3 : i = r.count - 1
        · rw [if_pos (by omega), if_pos h3, hs i hi']
        · rw [if_neg (by omega), if_neg h3]
          rfl

theorem slotsOf_rotated (r : RollerCfg) (decode : Bytes → Bytes) (hdec : ∀ x, decode (r.codec x) = x)
    (hinj : NamesInj r) (path : Path) (hfa : FileApart r path) (hc : r.count ≠ 0) (d d' : Disk) (a : Bytes)
    (hq : ∀ q, d'.get? q =
        if q = r.nameOf r.base then some (r.enc a)
        else if q = path then none else (applyShifts r (r.count - 1) d).get? q) :
    slotsOf r decode d' = Spec17.rotateSlots r.count (slotsOf r decode d) a := by
  have hsh := slotsOf_applyShifts r decode hinj (r.count - 1) (by omega) d
  rw [show r.count - 1 - (r.count - 1) = 0 from by omega, rebase_zero] at hsh
  unfold Spec17.rotateSlots
  rw [← hsh]
  apply List.ext_getElem?
  intro i
  by_cases hi : i < r.count
  · by_cases hi0 : i = 0
    · subst hi0
      rw [List.getElem?_set_self (by rw [slotsOf_length]; exact hi)]
      simp only [slotsOf, List.getElem?_map, List.getElem?_range hi, Option.map_some, Nat.add_zero]
      rw [hq, if_pos rfl]
      simp [decOf_enc r decode hdec]
    · rw [List.getElem?_set_ne (by omega)]
      simp only [slotsOf, List.getElem?_map, List.getElem?_range hi, Option.map_some]
      rw [hq, if_neg (fun e => by have := hinj _ _ e; omega), if_neg (hfa _)]
  · have h1 : (slotsOf r decode d').length ≤ i := by rw [slotsOf_length]; omega
    have h2 : ((slotsOf r decode (applyShifts r (r.count - 1) d)).set 0 (some a)).length ≤ i := by
      rw [List.length_set, slotsOf_length]; omega
    rw [List.getElem?_eq_none h1, List.getElem?_eq_none h2]

theorem Spec17.getElem?_ofWindow (count : Nat) (ws : List Bytes) (i : Nat) (hi : i < count) :
    (Spec17.ofWindow count ws)[i]? = some ws[i]? := by
  unfold Spec17.ofWindow
  rw [List.getElem?_map, List.getElem?_range hi]
  rfl

theorem Spec17.slotAt_ofWindow (count : Nat) (ws : List Bytes) (j : Nat) (hj : j < count) :
    Spec17.slotAt (Spec17.ofWindow count ws) j = ws[j]? := by
  unfold Spec17.slotAt
  rw [Spec17.getElem?_ofWindow count ws j hj]
  rfl

/-- on a dense window the slot-level rotation is the statement's `rotateWindow` -/
theorem Spec17.rotateSlots_dense (count : Nat) (ws : List Bytes) (x : Bytes) :
    Spec17.rotateSlots count (Spec17.ofWindow count ws) x = Spec17.ofWindow count (Spec.rotateWindow count ws x) := by
  apply List.ext_getElem?
  intro i
  by_cases hi : i < count
  · rw [Spec17.getElem?_ofWindow _ _ _ hi]
    unfold Spec17.rotateSlots Spec17.shifted Spec.rotateWindow
    rw [List.getElem?_take, if_pos hi]
    cases i with
    | zero =>
      rw [List.getElem?_set_self (by rw [List.length_map, List.length_range]; exact hi)]
      rfl
    | succ k =>
      rw [List.getElem?_set_ne (by omega)]
      simp only [List.getElem?_map, List.getElem?_range hi, Option.map_some]
      rw [if_neg (by omega), if_neg (by omega), Nat.add_sub_cancel, Spec17.slotAt_ofWindow _ _ k (by omega),
        Spec17.slotAt_ofWindow _ _ (k + 1) hi, List.getElem?_cons_succ]
      -- a dense window has nothing above its first gap
      cases hk : ws[k]? with
      | some y => rfl
      | none =>
        rw [List.getElem?_eq_none (Nat.le_succ_of_le (List.getElem?_eq_none_iff.mp hk)), ite_self]
  · rw [List.getElem?_eq_none, List.getElem?_eq_none]
    · unfold Spec17.ofWindow
      rw [List.length_map, List.length_range]
      omega
    · unfold Spec17.rotateSlots Spec17.shifted
      rw [List.length_set, List.length_map, List.length_range]
      omega

end Log4rs.Rolling
