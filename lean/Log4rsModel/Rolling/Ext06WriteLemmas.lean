import Log4rsModel.Rolling.Ext06Write
import Log4rsModel.Rolling.LemmasRolling
/-
Exact accounting of the `write_all` loop for every short-write oracle, and the coincidence of the
counting appender with the model's.
-/
namespace Log4rs.Rolling.Write06
open Log4rs.Rolling Log4rs.Roller

/-- the oracle accepts at least one byte and at most what is offered (`File::write` on a regular
file; `Ok(0)` would be `WriteZero`, an I/O error outside the model) -/
def GoodAccept (acc : Accept) : Prop := ∀ k n, 1 ≤ n → 1 ≤ acc k n ∧ acc k n ≤ n

theorem write_spec (acc : Accept) (hacc : GoodAccept acc) (w : LW) (data : Bytes) (hne : data ≠ []) :
    1 ≤ (write acc w data).1 ∧ (write acc w data).1 ≤ data.length ∧
    (write acc w data).2.len = w.len + (write acc w data).1 ∧
    (write acc w data).2.bf.logical = w.bf.logical ++ data.take (write acc w data).1 := by
  have hlen : 1 ≤ data.length := by
    cases data with
    | nil => exact absurd rfl hne
    | cons a t => simp
  unfold write
  by_cases h1 : data.length < CAP - w.bf.buf.length
  · rw [if_pos h1]
    refine ⟨hlen, Nat.le_refl _, rfl, ?_⟩
    simp [BufFile.logical, List.append_assoc]
  · rw [if_neg h1]
    by_cases h2 : data.length ≥ CAP
    · rw [if_pos h2]
      obtain ⟨ha1, ha2⟩ := hacc w.calls data.length hlen
      refine ⟨ha1, ha2, rfl, ?_⟩
      by_cases h3 : data.length > CAP - w.bf.buf.length
      · simp [h3, BufFile.logical, BufFile.flush, List.append_assoc]
      · -- the slice exactly fills the spare capacity and is at least the capacity: the buffer is empty
        have hb : w.bf.buf.length = 0 := by
          simp only [CAP] at h1 h2 h3 ⊢
          omega
        have hb' : w.bf.buf = [] := List.eq_nil_of_length_eq_zero hb
        rw [if_neg h3]
        simp [BufFile.logical, hb']
    · rw [if_neg h2]
      refine ⟨hlen, Nat.le_refl _, rfl, ?_⟩
      by_cases h3 : data.length > CAP - w.bf.buf.length
      · simp [h3, BufFile.logical, BufFile.flush, List.append_assoc]
      · simp [h3, BufFile.logical, List.append_assoc]

theorem writeAll_spec (acc : Accept) (hacc : GoodAccept acc) (fuel : Nat) (w : LW) (data : Bytes)
    (hf : data.length ≤ fuel) :
    ∃ w', writeAll acc fuel w data = some w' ∧ w'.len = w.len + data.length ∧
      w'.bf.logical = w.bf.logical ++ data := by
  induction fuel generalizing w data with
  | zero =>
    have : data = [] := List.eq_nil_of_length_eq_zero (by omega)
    subst this
    exact ⟨w, by simp [writeAll], by simp, by simp⟩
  | succ fuel ih =>
    by_cases he : data = []
    · subst he
      exact ⟨w, by simp [writeAll], by simp, by simp⟩
    · obtain ⟨h1, h2, h3, h4⟩ := write_spec acc hacc w data he
      have hie : data.isEmpty = false := by
        cases data with
        | nil => exact absurd rfl he
        | cons a t => rfl
      have hn0 : ¬ (write acc w data).1 = 0 := by omega
      obtain ⟨w', hw', hl', hg'⟩ := ih (write acc w data).2 (data.drop (write acc w data).1)
        (by rw [List.length_drop]; omega)
      refine ⟨w', ?_, ?_, ?_⟩
      · simp only [writeAll, hie, Bool.false_eq_true, if_false, hn0]
        exact hw'
      · rw [hl', h3, List.length_drop]; omega
      · rw [hg', h4, List.append_assoc, List.take_append_drop]

theorem set_set (d : Disk) (p : Path) (x y : Bytes) : (d.set p x).set p y = d.set p y := by
  have : (d.set p x).erase p = d.erase p := by
    simp only [Disk.set, Disk.erase, List.filter_append, List.filter_filter]
    congr 1
    simp
  show (⟨((d.set p x).erase p).files ++ [(p, y)]⟩ : Disk) = _
  rw [this]
  rfl

variable {σ : Type}

theorem writeAndFlushX_eq (acc : Accept) (hacc : GoodAccept acc) (cfg : Cfg σ) (s : St σ) (w : Writer) (r : Rec) :
    writeAndFlushX acc cfg s w r = some (writeAndFlush cfg s w r) := by
  obtain ⟨lw, hlw, hlen, hlog⟩ := writeAll_spec acc hacc (encBytes r).length
    { bf := { disk := fileOf cfg s.disk, buf := w.buf }, len := w.len, calls := 0 } (encBytes r) (Nat.le_refl _)
  have hmodel := BufFile.logical_foldl_writeLoop [encBytes r] { disk := fileOf cfg s.disk, buf := w.buf }
  simp only [BufFile.logical, List.flatten_cons, List.flatten_nil, List.append_nil] at hmodel hlog
  unfold writeAndFlushX
  rw [hlw]
  simp only [writeAndFlush, writeRec, flushW]
  rw [fileOf_set, set_set, set_set, hmodel, hlog, hlen]
  simp [encBytes]

theorem appendX_eq (acc : Accept) (hacc : GoodAccept acc) (cfg : Cfg σ) (s : St σ) (r : Rec) (fault : Nat → Bool) :
    appendX acc cfg s r fault = some (append cfg s r fault) := by
  unfold appendX append
  simp only [writeAndFlushX_eq acc hacc]
  by_cases hp : cfg.trig.pre
  · simp only [hp, if_true]
    rcases hproc : process cfg (getWriter cfg s).1 (getWriter cfg s).2.len fault with ⟨res, rolled, s3⟩
    cases res <;> simp
  · simp only [hp]
    simp

end Log4rs.Rolling.Write06
