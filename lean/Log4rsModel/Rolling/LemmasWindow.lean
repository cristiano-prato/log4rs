import Log4rsModel.Rolling.LemmasRolling
import Log4rsModel.Rolling.Spec
/-
What the appender needs of a roller, as explicit contracts (`RollGone`, `RollContract`,
`RollContractB`), and their proofs for the shared models of the delete roller and the fixed-window
roller.

The fixed-window model (`Roller/Model.lean`: `fixedWindowRoll`) satisfies `RollContractB` for the
reading "contents of the slots base+count-1 … base that exist, oldest first" — for every initial
window (gaps, pre-existing archives), every base/count, with or without compression, and at every
point where the fault oracle makes the rotation stop. The equations of `Roller/Lemmas.lean` for
`moveFile`, `finalStep`, `runSteps` and the shift phase `applyShifts` are used; its slot-by-slot
theorems (`slot_applyShifts`, `rollU32_slots`) do not serve here: they assume slot names injective
everywhere and no fault, while here names need to differ only inside the window, and a rotation may
stop after any step.
-/
namespace Log4rs.Rolling
open Log4rs.Roller

/-- `Roll::roll`'s documented obligation: "If this method returns successfully, there *must* no
longer be a file at the specified location." -/
def RollGone (roll : RollFn) (path : Path) : Prop :=
  ∀ fault d x d', roll path fault d = (.ok x, d') → d'.get? path = none

theorem rollGone_delete (path : Path) : RollGone (fun p f d => deleteRoll p f d) path := by
  intro fault d x d' h
  rcases deleteRoll_cases path fault d with ⟨e, he, _⟩ | ⟨_, _, hok⟩
  · cases (Prod.mk.inj (he.symm.trans h)).1
  · cases (Prod.mk.inj (hok.symm.trans h)).2
    exact Disk.get?_erase_same d path

/-- What the no-loss argument needs of a roller, relative to a reading `arch` of the retained
archives (oldest first):
* `arch` looks only at paths other than the log file;
* a successful roll removes the log file and makes its content the newest archive, dropping at most
  whole oldest archives;
* a failed roll leaves the log file alone and drops at most whole oldest archives. -/
structure RollContract (roll : RollFn) (path : Path) (arch : Disk → List Bytes) : Prop where
  frame : ∀ d d', (∀ q, q ≠ path → d'.get? q = d.get? q) → arch d' = arch d
  ok : ∀ fault d x d' a, roll path fault d = (.ok x, d') → d.get? path = some a →
    d'.get? path = none ∧ ∃ j, arch d' = (arch d ++ [a]).drop j
  err : ∀ fault d e d', roll path fault d = (.error e, d') →
    d'.get? path = d.get? path ∧ ∃ j, arch d' = (arch d).drop j

/-- `RollContract` with the retention bound: one call of the roller discards at most ONE whole
oldest archive (`j ≤ 1`), whether it succeeds or fails — "only whole oldest files may have been
discarded by the retention window", one per rotation request. -/
structure RollContractB (roll : RollFn) (path : Path) (arch : Disk → List Bytes) : Prop where
  frame : ∀ d d', (∀ q, q ≠ path → d'.get? q = d.get? q) → arch d' = arch d
  ok : ∀ fault d x d' a, roll path fault d = (.ok x, d') → d.get? path = some a →
    d'.get? path = none ∧ ∃ j, j ≤ 1 ∧ arch d' = (arch d ++ [a]).drop j
  err : ∀ fault d e d', roll path fault d = (.error e, d') →
    d'.get? path = d.get? path ∧ ∃ j, j ≤ 1 ∧ arch d' = (arch d).drop j

theorem RollContractB.toRollContract {roll : RollFn} {path : Path} {arch : Disk → List Bytes}
    (h : RollContractB roll path arch) : RollContract roll path arch where
  frame := h.frame
  ok := fun fault d x d' a hr hg =>
    let ⟨h1, j, _, h2⟩ := h.ok fault d x d' a hr hg
    ⟨h1, j, h2⟩
  err := fun fault d e d' hr =>
    let ⟨h1, j, _, h2⟩ := h.err fault d e d' hr
    ⟨h1, j, h2⟩

/-- the delete roller retains nothing -/
theorem rollContractB_delete (path : Path) : RollContractB (fun p f d => deleteRoll p f d) path (fun _ => []) := by
  refine ⟨fun _ _ _ => rfl, ?_, ?_⟩
  · intro fault d x d' a h hg
    exact ⟨rollGone_delete path fault d x d' h, 1, Nat.le_refl _, rfl⟩
  · intro fault d e d' h
    rcases deleteRoll_cases path fault d with ⟨e', he, _⟩ | ⟨_, _, hok⟩
    · cases (Prod.mk.inj (he.symm.trans h)).2
      exact ⟨rfl, 0, Nat.zero_le _, rfl⟩
    · cases (Prod.mk.inj (hok.symm.trans h)).1

theorem rollContract_delete (path : Path) : RollContract (fun p f d => deleteRoll p f d) path (fun _ => []) :=
  (rollContractB_delete path).toRollContract

theorem filterMap_congr' {α β : Type} (f g : α → Option β) (l : List α) (h : ∀ x ∈ l, f x = g x) :
    l.filterMap f = l.filterMap g := by
  induction l with
  | nil => rfl
  | cons a l ih =>
    simp only [List.filterMap_cons]
    rw [h a (by simp), ih (fun x hx => h x (by simp [hx]))]

/-- existing contents of slots `lo+n-1 … lo`, oldest (highest index) first -/
def winOf (nameOf : Nat → Path) (lo n : Nat) (d : Disk) : List Bytes :=
  (List.range n).reverse.filterMap (fun j => d.get? (nameOf (lo + j)))

theorem winOf_eq_archives (nameOf : Nat → Path) (lo n : Nat) (d : Disk) :
    winOf nameOf lo n d = Spec.archives nameOf lo n d.get? := rfl

theorem winOf_succ_top (nameOf : Nat → Path) (lo n : Nat) (d : Disk) :
    winOf nameOf lo (n + 1) d = (d.get? (nameOf (lo + n))).toList ++ winOf nameOf lo n d := by
  simp only [winOf, List.range_succ, List.reverse_append, List.reverse_cons, List.reverse_nil, List.nil_append,
    List.singleton_append, List.filterMap_cons]
  cases d.get? (nameOf (lo + n)) <;> rfl

theorem winOf_succ_bot (nameOf : Nat → Path) (lo n : Nat) (d : Disk) :
    winOf nameOf lo (n + 1) d = winOf nameOf (lo + 1) n d ++ (d.get? (nameOf lo)).toList := by
  simp only [winOf, List.range_succ_eq_map, List.reverse_cons, List.filterMap_append, List.filterMap_cons,
    List.filterMap_nil, Nat.add_zero]
  congr 1
  · rw [← List.map_reverse, List.filterMap_map]
    apply filterMap_congr'
    intro j _
    simp only [Function.comp]
    congr 2
    omega

theorem winOf_congr (nameOf : Nat → Path) (lo n : Nat) (d d' : Disk)
    (h : ∀ j, j < n → d'.get? (nameOf (lo + j)) = d.get? (nameOf (lo + j))) :
    winOf nameOf lo n d' = winOf nameOf lo n d := by
  simp only [winOf]
  apply filterMap_congr'
  intro j hj
  simp only [List.mem_reverse, List.mem_range] at hj
  exact h j hj

/-- the shifts from slot `base` upwards empty that slot (its name differing from the next) -/
theorem get?_applyShifts_base (r : RollerCfg) (hne : r.nameOf r.base ≠ r.nameOf (r.base + 1)) (n : Nat)
    (d : Disk) : (applyShifts r (n + 1) d).get? (r.nameOf r.base) = none := by
  induction n generalizing d with
  | zero =>
    show (moveFile (r.nameOf r.base) (r.nameOf (r.base + 1)) d).get? (r.nameOf r.base) = none
    cases hsrc : d.get? (r.nameOf r.base) with
    | none => rw [moveFile_none _ hsrc, hsrc]
    | some x => rw [get?_moveFile_some _ hsrc, if_neg hne, if_pos rfl]
  | succ n ih => exact ih _

/-- what the top `n` shifts of the window `base … base+k` do to it (the lowest `a` have not run):
nothing is lost if the top slot was empty, and at most its content otherwise -/
theorem shift_window (r : RollerCfg) (a n k : Nat) (hk : k = n + a)
    (hinj : ∀ i j, i ≤ k → j ≤ k → r.nameOf (r.base + i) = r.nameOf (r.base + j) → i = j) (d : Disk) :
    (d.get? (r.nameOf (r.base + k)) = none →
      winOf r.nameOf r.base (k + 1) (applyShifts { r with base := r.base + a } n d) =
        winOf r.nameOf r.base (k + 1) d) ∧
    (winOf r.nameOf r.base (k + 1) (applyShifts { r with base := r.base + a } n d) =
        winOf r.nameOf r.base (k + 1) d ∨
     winOf r.nameOf r.base (k + 1) (applyShifts { r with base := r.base + a } n d) =
        (winOf r.nameOf r.base (k + 1) d).drop 1) := by
  subst hk
  induction n generalizing d with
  | zero => exact ⟨fun _ => rfl, Or.inl rfl⟩
  | succ n ih =>
    rw [Nat.add_right_comm n 1 a] at hinj ⊢
    have hinj' : ∀ i j, i ≤ n + a → j ≤ n + a → r.nameOf (r.base + i) = r.nameOf (r.base + j) → i = j :=
      fun i j hi hj h => hinj i j (Nat.le_succ_of_le hi) (Nat.le_succ_of_le hj) h
    have hne : r.nameOf (r.base + (n + a)) ≠ r.nameOf (r.base + (n + a) + 1) := by
      intro h
      have := hinj (n + a) (n + a + 1) (by omega) (by omega) h
      omega
    -- the top shift runs first, on `d`; the other `n` shifts run on its result `d1`
    let d1 := moveFile (r.nameOf (r.base + (n + a))) (r.nameOf (r.base + (n + a) + 1)) d
    have hrun : applyShifts { r with base := r.base + a } (n + 1) d =
        applyShifts { r with base := r.base + a } n d1 := by
      show applyShifts _ n (moveFile (r.nameOf (r.base + a + n)) (r.nameOf (r.base + a + n + 1)) d) = _
      rw [Nat.add_assoc, Nat.add_comm a n]
    obtain ⟨ihc, _⟩ := ih d1 hinj'
    have hlow : ∀ j, j < n + a → d1.get? (r.nameOf (r.base + j)) = d.get? (r.nameOf (r.base + j)) := by
      intro j hj
      apply get?_moveFile_other
      · intro h; have := hinj j (n + a) (by omega) (by omega) h; omega
      · intro h; have := hinj j (n + a + 1) (by omega) (by omega) h; omega
    have htop' : (applyShifts { r with base := r.base + a } n d1).get? (r.nameOf (r.base + (n + a + 1))) =
        d1.get? (r.nameOf (r.base + (n + a + 1))) := by
      apply get?_applyShifts_other
      intro j hj h
      have := hinj (n + a + 1) (a + j) (by omega) (by omega) (h.trans (congrArg r.nameOf (Nat.add_assoc _ _ _)))
      omega
    -- the window after, in terms of the window before
    have hwin : winOf r.nameOf r.base (n + a + 1 + 1) (applyShifts { r with base := r.base + a } (n + 1) d) =
        (match d.get? (r.nameOf (r.base + (n + a))) with
         | none => winOf r.nameOf r.base (n + a + 1 + 1) d
         | some x => [x] ++ winOf r.nameOf r.base (n + a) d) := by
      rw [hrun, winOf_succ_top, htop']
      cases hsrc : d.get? (r.nameOf (r.base + (n + a))) with
      | none =>
        have hd1 : d1 = d := moveFile_none _ hsrc
        simp only
        rw [hd1] at ihc ⊢
        rw [ihc hsrc, ← winOf_succ_top]
      | some x =>
        have hdst : d1.get? (r.nameOf (r.base + (n + a + 1))) = some x := by
          rw [get?_moveFile_some _ hsrc]
          exact if_pos rfl
        have hsrc' : d1.get? (r.nameOf (r.base + (n + a))) = none := by
          rw [get?_moveFile_some _ hsrc, if_neg hne, if_pos rfl]
        simp only
        rw [hdst, ihc hsrc', winOf_succ_top, hsrc']
        simp only [Option.toList, List.nil_append]
        rw [winOf_congr r.nameOf r.base (n + a) d d1 hlow]
    refine ⟨?_, ?_⟩
    · intro htop
      rw [hwin]
      cases hsrc : d.get? (r.nameOf (r.base + (n + a))) with
      | none => rfl
      | some x =>
        simp only
        rw [winOf_succ_top, winOf_succ_top, htop, hsrc]
        rfl
    · rw [hwin]
      cases hsrc : d.get? (r.nameOf (r.base + (n + a))) with
      | none => exact Or.inl rfl
      | some x =>
        simp only
        rw [winOf_succ_top, winOf_succ_top, hsrc]
        cases d.get? (r.nameOf (r.base + (n + a + 1))) with
        | none => exact Or.inl rfl
        | some y => exact Or.inr rfl

/-- the reading of the retained archives used for the fixed-window roller: window contents, oldest
first, decoded (`decode ∘ codec = id` is the codec assumption; plain moves store the bytes as is) -/
def fwArch (r : RollerCfg) (decode : Bytes → Bytes) (d : Disk) : List Bytes :=
  (winOf r.nameOf r.base r.count d).map (match r.comp with | .none => id | _ => decode)

theorem drop_one_snoc {α : Type} (l : List α) (x : α) : ∃ j, j ≤ 1 ∧ l.drop 1 ++ [x] = (l ++ [x]).drop j := by
  cases l with
  | nil => exact ⟨0, by omega, rfl⟩
  | cons a t => exact ⟨1, by omega, rfl⟩

/-- the single `final` step under the fault oracle -/
theorem runSteps_final_only (r : RollerCfg) (file : Path) (fault : Nat → Bool) (kk : Nat) (dm : Disk) :
    (∃ e, runSteps r file fault kk [Step.final] dm = (.error e, dm)) ∨
    (∃ d', finalStep r.comp r.codec file (r.nameOf r.base) dm = .ok d' ∧
      runSteps r file fault kk [Step.final] dm = (.ok d', d')) := by
  simp only [runSteps]
  by_cases hf : fault kk
  · left; exact ⟨FsErr.injected kk, by simp [hf]⟩
  · simp only [hf, applyStep]
    cases hfin : finalStep r.comp r.codec file (r.nameOf r.base) dm with
    | error e => left; exact ⟨e, by simp⟩
    | ok d' => right; exact ⟨d', rfl, by simp⟩

/-- a rotation of a non-empty window stops with `Err` after the top `n` shifts, the lowest `a` not
run (all have run if it is the final step that fails), or runs the final step on the fully shifted
window -/
theorem fixedWindowRoll_cases (r : RollerCfg) (path : Path) (fault : Nat → Bool) (d : Disk) {k : Nat}
    (hk : r.count = k + 1) :
    (∃ a n e, k = n + a ∧
      fixedWindowRoll r path fault d = (.error e, applyShifts { r with base := r.base + a } n d)) ∨
    (∃ d', finalStep r.comp r.codec path (r.nameOf r.base) (applyShifts r k d) = .ok d' ∧
      fixedWindowRoll r path fault d = (.ok d', d')) := by
  have hk1 : r.count - 1 = k := by rw [hk, Nat.add_sub_cancel]
  unfold fixedWindowRoll
  rw [if_neg (hk ▸ Nat.succ_ne_zero k), Roller.steps_eq, hk1]
  rcases runSteps_shifts_stop r path fault r.base k 0 [Step.final] d with ⟨a, n, e, hkan, he⟩ | hall
  · exact Or.inl ⟨a, n, e, hkan, he⟩
  · rw [hall]
    rcases runSteps_final_only r path fault (0 + k) (applyShifts r k d) with ⟨e, he⟩ | ⟨d', hfin, hrun⟩
    · exact Or.inl ⟨0, k, e, rfl, he⟩
    · exact Or.inr ⟨d', hfin, hrun⟩

theorem rollGone_fixedWindow (r : RollerCfg) (path : Path) (hbase : r.nameOf r.base ≠ path) :
    RollGone (fixedWindowRoll r) path := by
  intro fault d x d' h
  by_cases hc : r.count = 0
  · exact rollGone_delete path fault d x d' ((fixedWindowRoll_eq_delete r path fault d hc).symm.trans h)
  · rcases fixedWindowRoll_cases r path fault d (k := r.count - 1) (by omega) with ⟨_, _, e, _, he⟩ | ⟨d'', hfin, hrun⟩
    · rw [he] at h; cases (Prod.mk.inj h).1
    · rw [hrun] at h
      cases (Prod.mk.inj h).2
      exact finalStep_gone _ _ _ _ _ _ hbase hfin

/-- a successful rotation of a non-empty window is the final step on the shifted window -/
theorem fixedWindowRoll_ok_final (r : RollerCfg) (path : Path)
    (hfile : ∀ j, j < r.count → r.nameOf (r.base + j) ≠ path) {k : Nat} (hk : r.count = k + 1)
    (fault : Nat → Bool) (d x d' : Disk) (a : Bytes)
    (h : fixedWindowRoll r path fault d = (.ok x, d')) (hg : d.get? path = some a) :
    d'.get? path = none ∧
    d'.get? (r.nameOf r.base) = some (r.enc a) ∧
    ∀ q, q ≠ path → q ≠ r.nameOf r.base → d'.get? q = (applyShifts r k d).get? q := by
  have hbase : r.nameOf r.base ≠ path := hfile 0 (by omega)
  have hpath : (applyShifts r k d).get? path = some a := by
    rw [get?_applyShifts_other r k d path (fun j hj => (hfile j (by omega)).symm)]
    exact hg
  rcases fixedWindowRoll_cases r path fault d hk with ⟨_, _, e, _, he⟩ | ⟨d'', hfin, hrun⟩
  · rw [he] at h; cases (Prod.mk.inj h).1
  · rw [hrun] at h
    cases (Prod.mk.inj h).2
    obtain ⟨d2, hfin2, hq⟩ := finalStep_ok r path (r.nameOf r.base) _ a hpath hbase
    cases hfin.symm.trans hfin2
    exact ⟨by rw [hq, if_neg hbase.symm, if_pos rfl], by rw [hq, if_pos rfl],
      fun q h1 h2 => by rw [hq, if_neg h2, if_neg h1]⟩

/-- the fixed-window model satisfies the contract with the bound `j ≤ 1` -/
theorem rollContractB_fixedWindow (r : RollerCfg) (path : Path) (decode : Bytes → Bytes)
    (hdec : ∀ x, decode (r.codec x) = x)
    (hinj : ∀ i j, i < r.count → j < r.count → r.nameOf (r.base + i) = r.nameOf (r.base + j) → i = j)
    (hfile : ∀ j, j < r.count → r.nameOf (r.base + j) ≠ path) :
    RollContractB (fixedWindowRoll r) path (fwArch r decode) := by
  have hframe : ∀ d d', (∀ q, q ≠ path → d'.get? q = d.get? q) → fwArch r decode d' = fwArch r decode d := by
    intro d d' h
    simp only [fwArch]
    rw [winOf_congr r.nameOf r.base r.count d d' (fun j hj => h _ (hfile j hj))]
  by_cases hc : r.count = 0
  · -- nothing is retained
    have h0 : ∀ d, fwArch r decode d = [] := fun d => by simp [fwArch, winOf, hc]
    refine ⟨hframe, ?_, ?_⟩
    · intro fault d x d' a h hg
      rw [h0, h0]
      exact (rollContractB_delete path).ok fault d x d' a ((fixedWindowRoll_eq_delete r path fault d hc).symm.trans h) hg
    · intro fault d e d' h
      rw [h0, h0]
      exact (rollContractB_delete path).err fault d e d' ((fixedWindowRoll_eq_delete r path fault d hc).symm.trans h)
  obtain ⟨k, hk⟩ : ∃ k, r.count = k + 1 := ⟨r.count - 1, by omega⟩
  have hinj' : ∀ i j, i ≤ k → j ≤ k → r.nameOf (r.base + i) = r.nameOf (r.base + j) → i = j :=
    fun i j hi hj => hinj i j (by omega) (by omega)
  refine ⟨hframe, ?_, ?_⟩
  · intro fault d x d' a h hg
    obtain ⟨hgone, hslot, hothers⟩ := fixedWindowRoll_ok_final r path hfile hk fault d x d' a h hg
    refine ⟨hgone, ?_⟩
    -- the window after the final step
    have hup : winOf r.nameOf (r.base + 1) k d' = winOf r.nameOf (r.base + 1) k (applyShifts r k d) := by
      apply winOf_congr
      intro j hj
      apply hothers
      · have := hfile (1 + j) (by omega)
        simpa [Nat.add_assoc] using this
      · intro heq
        have := hinj (1 + j) 0 (by omega) (by omega) (by simpa [Nat.add_assoc] using heq)
        omega
    have hnew : winOf r.nameOf r.base (k + 1) d' =
        winOf r.nameOf (r.base + 1) k (applyShifts r k d) ++ [r.enc a] := by
      rw [winOf_succ_bot, hup, hslot]
      rfl
    have hdecA : (match r.comp with | .none => id | _ => decode) (r.enc a) = a := by
      unfold RollerCfg.enc
      cases r.comp <;> simp [hdec]
    -- the window before the final step, bottom slot peeled
    have hmid : ∃ j, j ≤ 1 ∧ winOf r.nameOf (r.base + 1) k (applyShifts r k d) ++ [r.enc a] =
        (winOf r.nameOf r.base (k + 1) d ++ [r.enc a]).drop j := by
      cases k with
      | zero =>
        simp only [winOf, List.range_zero, List.reverse_nil, List.filterMap_nil, List.nil_append]
        cases hb0 : d.get? (r.nameOf r.base) with
        | none => exact ⟨0, by omega, by simp [List.range_succ, hb0]⟩
        | some y => exact ⟨1, by omega, by simp [List.range_succ, hb0]⟩
      | succ k =>
        -- the shifts have emptied slot `base` and lost at most the oldest archive
        have hb : (applyShifts r (k + 1) d).get? (r.nameOf r.base) = none :=
          get?_applyShifts_base r
            (fun e => Nat.zero_ne_one (hinj' 0 1 (Nat.zero_le _) (Nat.succ_le_succ (Nat.zero_le k)) e)) k d
        have hmid' : winOf r.nameOf r.base (k + 1 + 1) (applyShifts r (k + 1) d) =
            winOf r.nameOf (r.base + 1) (k + 1) (applyShifts r (k + 1) d) := by
          rw [winOf_succ_bot, hb]; simp
        rcases (shift_window r 0 (k + 1) (k + 1) rfl hinj' d).2 with hw | hw
        · exact ⟨0, Nat.zero_le 1, congrArg (· ++ [r.enc a]) (hmid'.symm.trans hw)⟩
        · obtain ⟨j, hj1, hj⟩ := drop_one_snoc (winOf r.nameOf r.base (k + 1 + 1) d) (r.enc a)
          exact ⟨j, hj1, (congrArg (· ++ [r.enc a]) (hmid'.symm.trans hw)).trans hj⟩
    obtain ⟨j, hj1, hj⟩ := hmid
    refine ⟨j, hj1, ?_⟩
    simp only [fwArch, hk]
    rw [hnew, hj, List.map_drop, List.map_append, List.map_cons, List.map_nil, hdecA]
  · intro fault d e d' h
    -- whichever shifts ran, the log file is untouched and at most the oldest slot is lost
    rcases fixedWindowRoll_cases r path fault d hk with ⟨a, n, e', hkan, he⟩ | ⟨d'', _, hrun⟩
    · rw [he] at h
      have hd := (Prod.mk.inj h).2
      have hfr := get?_applyShifts_other { r with base := r.base + a } n d path
        (fun j hj => Nat.add_assoc _ _ _ ▸ (hfile (a + j) (by omega)).symm)
      have hwin := (shift_window r a n k hkan hinj' d).2
      rw [hd] at hfr hwin
      refine ⟨hfr, ?_⟩
      simp only [fwArch, hk]
      rcases hwin with hw | hw
      · exact ⟨0, by omega, by rw [hw]; rfl⟩
      · exact ⟨1, by omega, by rw [hw, List.map_drop]⟩
    · rw [hrun] at h; cases (Prod.mk.inj h).1

theorem rollContract_fixedWindow (r : RollerCfg) (path : Path) (decode : Bytes → Bytes)
    (hdec : ∀ x, decode (r.codec x) = x)
    (hinj : ∀ i j, i < r.count → j < r.count → r.nameOf (r.base + i) = r.nameOf (r.base + j) → i = j)
    (hfile : ∀ j, j < r.count → r.nameOf (r.base + j) ≠ path) :
    RollContract (fixedWindowRoll r) path (fwArch r decode) :=
  (rollContractB_fixedWindow r path decode hdec hinj hfile).toRollContract


/-- the three-sub-step model is the shared one, except when the `remove_file(src)` fault (index
`count`) strikes a compressing rotation that would have succeeded -/
theorem fixedWindowRollC_cases (lc : Bool) (r : RollerCfg) (file : Path) (fault : Nat → Bool) (d : Disk) :
    fixedWindowRollC lc r file fault d = fixedWindowRoll r file fault d ∨
    (fault r.count = true ∧ r.count ≠ 0 ∧ ∃ x d' c, fixedWindowRoll r file fault d = (.ok x, d') ∧
      d.get? file = some c ∧
      fixedWindowRollC lc r file fault d =
        (.error (.injected r.count), if lc then d'.set file c else (d'.set file c).erase (r.nameOf r.base))) := by
  unfold fixedWindowRollC
  by_cases hc : r.count = 0
  · left; simp [hc]
  · simp only [hc, if_false]
    cases hcomp : r.comp with
    | none => left; rfl
    | gzip | zstd =>
      simp only
      rcases hr : fixedWindowRoll r file fault d with ⟨res, d'⟩
      cases res with
      | error e => left; rfl
      | ok x =>
        cases hg : d.get? file with
        | none => left; rfl
        | some c =>
          by_cases hf : fault r.count
          · right; exact ⟨hf, hc, x, d', c, rfl, rfl, by simp [hf]⟩
          · left; simp [hf]

theorem fixedWindowRollC_no_fault (lc : Bool) (r : RollerCfg) (file : Path) (fault : Nat → Bool) (d : Disk)
    (h : fault r.count = false) : fixedWindowRollC lc r file fault d = fixedWindowRoll r file fault d := by
  rcases fixedWindowRollC_cases lc r file fault d with heq | ⟨hf, _⟩
  · exact heq
  · rw [h] at hf; cases hf

/-- without compression there is no third sub-step -/
theorem fixedWindowRollC_plain (lc : Bool) (r : RollerCfg) (file : Path) (fault : Nat → Bool) (d : Disk)
    (h : r.comp = .none) : fixedWindowRollC lc r file fault d = fixedWindowRoll r file fault d := by
  unfold fixedWindowRollC
  by_cases hc : r.count = 0
  · simp [hc]
  · simp [hc, h]

/-- the roller as the histories of the partial theorem see it: the `remove_file(src)` sub-step of a
compressing rotation is not made to fail -/
def noRemoveFault (r : RollerCfg) (roll : RollFn) : RollFn := fun p f d => roll p (fun k => f k && k != r.count) d

theorem rollContractB_fixedWindowC_partial (lc : Bool) (r : RollerCfg) (path : Path) (decode : Bytes → Bytes)
    (hdec : ∀ x, decode (r.codec x) = x)
    (hinj : ∀ i j, i < r.count → j < r.count → r.nameOf (r.base + i) = r.nameOf (r.base + j) → i = j)
    (hfile : ∀ j, j < r.count → r.nameOf (r.base + j) ≠ path) :
    RollContractB (noRemoveFault r (fixedWindowRollC lc r)) path (fwArch r decode) := by
  have hB := rollContractB_fixedWindow r path decode hdec hinj hfile
  have heq : ∀ f d, noRemoveFault r (fixedWindowRollC lc r) path f d =
      fixedWindowRoll r path (fun k => f k && k != r.count) d := by
    intro f d
    simp only [noRemoveFault]
    exact fixedWindowRollC_no_fault lc r path _ d (by simp)
  exact { frame := hB.frame
          ok := fun f d x d' a h hg => hB.ok _ d x d' a (by rw [← heq]; exact h) hg
          err := fun f d e d' h => hB.err _ d e d' (by rw [← heq]; exact h) }

theorem dropLast_of_drop_snoc {α : Type} (A L : List α) (a x : α) (j : Nat)
    (h : L ++ [x] = (A ++ [a]).drop j) : L = A.drop j := by
  by_cases hj : j ≤ A.length
  · rw [List.drop_append_of_le_length hj] at h
    exact (List.append_inj' h rfl).1
  · have : (A ++ [a]).drop j = [] := List.drop_eq_nil_of_le (by simp; omega)
    rw [this] at h
    simp at h

/-- THE REPAIRED compressing rotation (`leavesCopy = false`: the destination is removed when
`compress` fails) satisfies the bounded contract at every fault, the `remove_file(src)` sub-step
included -/
theorem rollContractB_fixedWindowC_fixed (r : RollerCfg) (path : Path) (decode : Bytes → Bytes)
    (hdec : ∀ x, decode (r.codec x) = x)
    (hinj : ∀ i j, i < r.count → j < r.count → r.nameOf (r.base + i) = r.nameOf (r.base + j) → i = j)
    (hfile : ∀ j, j < r.count → r.nameOf (r.base + j) ≠ path) :
    RollContractB (fixedWindowRollC false r) path (fwArch r decode) := by
  have hB := rollContractB_fixedWindow r path decode hdec hinj hfile
  -- the new failure: log file back in place, slot `base` empty again
  have hnew : ∀ fault d x d' c, r.count ≠ 0 → fixedWindowRoll r path fault d = (.ok x, d') → d.get? path = some c →
      ((d'.set path c).erase (r.nameOf r.base)).get? path = d.get? path ∧
      ∃ j, j ≤ 1 ∧ fwArch r decode ((d'.set path c).erase (r.nameOf r.base)) = (fwArch r decode d).drop j := by
    intro fault d x d' c hc hr hg
    have hbne : r.nameOf r.base ≠ path := by simpa using hfile 0 (by omega)
    refine ⟨by rw [Disk.get?_erase_ne _ (fun e => hbne e.symm), Disk.get?_set_same, hg], ?_⟩
    obtain ⟨_, j, hj, harch⟩ := hB.ok fault d x d' c hr hg
    obtain ⟨k, hk⟩ : ∃ k, r.count = k + 1 := ⟨r.count - 1, by omega⟩
    obtain ⟨_, hslot, _⟩ := fixedWindowRoll_ok_final r path hfile hk fault d x d' c hr hg
    generalize r.enc c = a' at hslot
    refine ⟨j, hj, ?_⟩
    -- the window of d' ends with slot base; erasing it removes exactly that last element
    have h1 : winOf r.nameOf r.base (k + 1) d' = winOf r.nameOf (r.base + 1) k d' ++ [a'] := by
      rw [winOf_succ_bot, hslot]; rfl
    have h2 : winOf r.nameOf r.base (k + 1) ((d'.set path c).erase (r.nameOf r.base)) = winOf r.nameOf (r.base + 1) k d' := by
      rw [winOf_succ_bot, Disk.get?_erase_same]
      simp only [Option.toList, List.append_nil]
      apply winOf_congr
      intro i hi
      have hne1 : r.nameOf (r.base + 1 + i) ≠ r.nameOf r.base := by
        intro heq
        have := hinj (1 + i) 0 (by omega) (by omega) (by simpa [Nat.add_assoc] using heq)
        omega
      have hne2 : r.nameOf (r.base + 1 + i) ≠ path := by
        have := hfile (1 + i) (by omega)
        simpa [Nat.add_assoc] using this
      rw [Disk.get?_erase_ne _ hne1, Disk.get?_set_ne _ _ hne2]
    simp only [fwArch, hk] at harch ⊢
    rw [h2]
    rw [h1, List.map_append, List.map_cons, List.map_nil] at harch
    exact dropLast_of_drop_snoc _ _ _ _ _ harch
  refine { frame := hB.frame, ok := ?_, err := ?_ }
  · intro fault d x d' a h hg
    rcases fixedWindowRollC_cases false r path fault d with heq | ⟨_, _, _, _, _, _, _, heq⟩
    · exact hB.ok fault d x d' a (heq ▸ h) hg
    · rw [heq] at h; cases (Prod.mk.inj h).1
  · intro fault d e d' h
    rcases fixedWindowRollC_cases false r path fault d with heq | ⟨_, hc, x, d1, c, hr, hg, heq⟩
    · exact hB.err fault d e d' (heq ▸ h)
    · rw [heq] at h
      have hd : d' = (d1.set path c).erase (r.nameOf r.base) := ((Prod.mk.inj h).2).symm
      subst hd
      exact hnew fault d x d1 c hc hr hg

end Log4rs.Rolling
