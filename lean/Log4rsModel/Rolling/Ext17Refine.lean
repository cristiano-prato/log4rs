import Log4rsModel.Rolling.Ext17Roller
import Log4rsModel.Rolling.Ext17Startup
/-
Refinement: the model's rolling appender with an on-start-up trigger and the (wrapped)
fixed-window roller, run on any disk, refines `Spec17.step` — directory (log file, window slots,
everything else), number of rotation requests and result of every operation. The delete roller is
the instance `count = 0`.
-/
namespace Log4rs.Rolling
open Log4rs.Roller

/-- paths that are neither the log file nor a window slot -/
def Outside (r : RollerCfg) (path q : Path) : Prop := q ≠ path ∧ ∀ j, j < r.count → q ≠ r.nameOf (r.base + j)

theorem roll_free (r : RollerCfg) (decode : Bytes → Bytes) (hdec : ∀ x, decode (r.codec x) = x) (path : Path)
    (hinj : r.count ≠ 0 → NamesInj r) (hfa : r.count ≠ 0 → FileApart r path)
    (d1 : Disk) (a0 : Bytes) (h : d1.get? path = some a0) :
    ∃ d', fixedWindowRoll r path (fun _ => false) d1 = (.ok d', d') ∧ d'.get? path = none ∧
      slotsOf r decode d' = Spec17.rotateSlots r.count (slotsOf r decode d1) a0 ∧
      (r.count ≠ 0 → d'.get? (r.nameOf r.base) = some (r.enc a0)) := by
  by_cases hc : r.count = 0
  · refine ⟨d1.erase path, ?_, DiskL.get?_erase_self _ _, ?_, fun h => absurd hc h⟩
    · rw [fixedWindowRoll_zero r hc path _ d1 a0 h]; rfl
    · simp [slotsOf, hc, Spec17.rotateSlots, Spec17.shifted]
  · obtain ⟨d', hroll, hq⟩ := fixedWindowRoll_ok r path d1 a0 hc (hfa hc) h
    refine ⟨d', hroll, ?_, slotsOf_rotated r decode hdec (hinj hc) path (hfa hc) hc d1 d' a0 hq, fun _ => ?_⟩
    · rw [hq, if_neg (fun e => (hfa hc r.base) e.symm), if_pos rfl]
    · rw [hq, if_pos rfl]

theorem fixedWindowRoll_outside (r : RollerCfg) (path : Path) (g : Nat → Bool) (d : Disk) (q : Path)
    (hq : Outside r path q) : (fixedWindowRoll r path g d).2.get? q = d.get? q := by
  apply fixedWindowRoll_frame r path g d q hq.1
  intro i h1 h2
  have := hq.2 (i - r.base) (by omega)
  rwa [show r.base + (i - r.base) = i from by omega] at this

/-- what the wrapped roller returns and leaves, by the `Spec17.Outcome` of the operation -/
structure RollOutcome (r : RollerCfg) (decode : Bytes → Bytes) (path : Path) (d1 : Disk) (a0 : Bytes) (f : Option Nat)
    (res : Except FsErr Disk) (d' : Disk) : Prop where
  frame : ∀ q, Outside r path q → d'.get? q = d1.get? q
  done : Spec17.outcomeOf r.count (Spec17.moodOf f) = .done →
    (∃ x, res = .ok x) ∧ d'.get? path = none ∧ slotsOf r decode d' = Spec17.rotateSlots r.count (slotsOf r decode d1) a0
  doneErr : Spec17.outcomeOf r.count (Spec17.moodOf f) = .doneErr →
    (∃ e, res = .error e) ∧ d'.get? path = none ∧ slotsOf r decode d' = Spec17.rotateSlots r.count (slotsOf r decode d1) a0
  stopped : ∀ p, Spec17.outcomeOf r.count (Spec17.moodOf f) = .stopped p →
    (∃ e, res = .error e) ∧ d'.get? path = some a0 ∧ slotsOf r decode d' = Spec17.shifted r.count p (slotsOf r decode d1)

/-- `RollOutcome` from the clause of the outcome at hand -/
theorem RollOutcome.of_outcome {r : RollerCfg} {decode : Bytes → Bytes} {path : Path} {d1 : Disk} {a0 : Bytes} {f : Option Nat}
    {res : Except FsErr Disk} {d' : Disk} (hframe : ∀ q, Outside r path q → d'.get? q = d1.get? q)
    (h : match Spec17.outcomeOf r.count (Spec17.moodOf f) with
      | .done => (∃ x, res = .ok x) ∧ d'.get? path = none ∧
        slotsOf r decode d' = Spec17.rotateSlots r.count (slotsOf r decode d1) a0
      | .doneErr => (∃ e, res = .error e) ∧ d'.get? path = none ∧
        slotsOf r decode d' = Spec17.rotateSlots r.count (slotsOf r decode d1) a0
      | .stopped p => (∃ e, res = .error e) ∧ d'.get? path = some a0 ∧
        slotsOf r decode d' = Spec17.shifted r.count p (slotsOf r decode d1)) :
    RollOutcome r decode path d1 a0 f res d' := by
  refine ⟨hframe, fun ho => ?_, fun ho => ?_, fun p ho => ?_⟩
  all_goals
    rw [ho] at h
    exact h

theorem roll_outcome (r : RollerCfg) (decode : Bytes → Bytes) (hdec : ∀ x, decode (r.codec x) = x) (path : Path)
    (hinj : r.count ≠ 0 → NamesInj r) (hfa : r.count ≠ 0 → FileApart r path)
    (d1 : Disk) (a0 : Bytes) (h : d1.get? path = some a0) (f : Option Nat) :
    RollOutcome r decode path d1 a0 f
      (Spec17.lateWrap (fixedWindowRoll r) path (faultFn f) d1).1
      (Spec17.lateWrap (fixedWindowRoll r) path (faultFn f) d1).2 := by
  refine .of_outcome (fun q hq => ?_) ?_
  · obtain ⟨g, res, d', hr, h⟩ := lateWrap_run (fixedWindowRoll r) path (faultFn f) d1
    have hd : (Spec17.lateWrap (fixedWindowRoll r) path (faultFn f) d1).2 = (fixedWindowRoll r path g d1).2 := by
      rcases h with h | ⟨_, h⟩ <;> rw [h, hr]
    rw [hd]
    exact fixedWindowRoll_outside r path g d1 q hq
  obtain ⟨d', hfree, hgone, hslots, _⟩ := roll_free r decode hdec path hinj hfa d1 a0 h
  cases f with
  | none =>
    rw [show Spec17.lateWrap (fixedWindowRoll r) path (faultFn none) d1 = (.ok d', d') by
      simp [Spec17.lateWrap, faultFn_none, hfree]]
    exact ⟨⟨_, rfl⟩, hgone, hslots⟩
  | some k =>
    by_cases hk : k = Spec17.LATE
    · subst hk
      rw [show Spec17.lateWrap (fixedWindowRoll r) path (faultFn (some Spec17.LATE)) d1 =
        (.error (.injected Spec17.LATE), d') by simp [Spec17.lateWrap, faultFn, hfree]]
      exact ⟨⟨_, rfl⟩, hgone, hslots⟩
    · rw [show Spec17.lateWrap (fixedWindowRoll r) path (faultFn (some k)) d1 = fixedWindowRoll r path (faultFn (some k)) d1 by
        simp [Spec17.lateWrap, faultFn, hk], Spec17.outcomeOf_some r.count k hk]
      by_cases hlt : k < Spec17.nSteps r.count
      · rw [if_pos hlt]
        by_cases hc : r.count = 0
        · have hk0 : k = 0 := by simp [Spec17.nSteps, hc] at hlt; exact hlt
          subst hk0
          rw [fixedWindowRoll_zero r hc path _ d1 a0 h, if_pos (show faultFn (some 0) 0 = true from rfl)]
          exact ⟨⟨_, rfl⟩, h, by simp [slotsOf, hc, Spec17.shifted]⟩
        · have hkc : k < r.count := by simpa [Spec17.nSteps, hc] using hlt
          rw [fixedWindowRoll_fault r path d1 k hkc]
          refine ⟨⟨_, rfl⟩, ?_, slotsOf_applyShifts r decode (hinj hc) k hkc d1⟩
          show (applyShifts { r with base := r.base + (r.count - 1 - k) } k d1).get? path = some a0
          rw [get?_applyShifts_other { r with base := r.base + (r.count - 1 - k) } k d1 path (fun j _ => ((hfa hc) _).symm)]
          exact h
      · rw [if_neg hlt, fixedWindowRoll_fault_beyond r path d1 k (by omega), hfree]
        exact ⟨⟨_, rfl⟩, hgone, hslots⟩

/-- the directory of the model state is the one the statement describes -/
structure Agrees (r : RollerCfg) (decode : Bytes → Bytes) (path : Path) (d0 : Disk) (x : Spec17.Expect) (s : St Bool) : Prop where
  file : s.disk.get? path = if x.present then some x.active else none
  slots : slotsOf r decode s.disk = x.slots
  frame : ∀ q, Outside r path q → s.disk.get? q = d0.get? q
  tst : s.tst = !x.first
  absent : x.present = false → x.active = []
  firstPresent : x.first = true → x.present = true

/-- verdict of the statement against the model's output of the operation -/
def VerdictOk : Option Spec17.Verdict → Option Out → Prop
  | none, none => True
  | some v, some o => v.calls = (if o.rolled.isSome then 1 else 0) ∧ v.ok = decide (o.res = .ok)
  | _, _ => False

theorem Agrees.fileOf {r : RollerCfg} {decode : Bytes → Bytes} {path : Path} {d0 : Disk} {x : Spec17.Expect} {s : St Bool}
    (h : Agrees r decode path d0 x s) (am : Bool) (m : Nat) (roll : RollFn) :
    fileOf (startupCfg path am m roll) s.disk = x.active := by
  show ((s.disk.get? path).getD []) = x.active
  rw [h.file]
  cases hp : x.present with
  | true => rfl
  | false => exact (h.absent hp).symm

/-- once a record has arrived the one-shot is spent: `Agrees` from what is on the disk -/
theorem Agrees.arrived {r : RollerCfg} {decode : Bytes → Bytes} {path : Path} {d0 : Disk} {s' : St Bool}
    {sl : List (Option Bytes)} {a : Bytes} {p : Bool}
    (hfile : s'.disk.get? path = if p then some a else none) (hslots : slotsOf r decode s'.disk = sl)
    (hframe : ∀ q, Outside r path q → s'.disk.get? q = d0.get? q) (htst : s'.tst = true) (habs : p = false → a = []) :
    Agrees r decode path d0 { slots := sl, active := a, first := false, present := p } s' :=
  ⟨hfile, hslots, hframe, htst, habs, fun h => nomatch h⟩

theorem slotsOf_sameElse (r : RollerCfg) (decode : Bytes → Bytes) (path : Path) (hfa : r.count ≠ 0 → FileApart r path)
    (d d' : Disk) (h : ∀ q, q ≠ path → d'.get? q = d.get? q) : slotsOf r decode d' = slotsOf r decode d := by
  apply slotsOf_congr
  intro j hj
  exact h _ (hfa (by omega) _)

theorem arrive_refines (r : RollerCfg) (decode : Bytes → Bytes) (hdec : ∀ x, decode (r.codec x) = x) (path : Path)
    (hinj : r.count ≠ 0 → NamesInj r) (hfa : r.count ≠ 0 → FileApart r path) (am : Bool) (m : Nat) (d0 : Disk)
    (x : Spec17.Expect) (s : St Bool) (hag : Agrees r decode path d0 x s)
    (recB tail : Bytes) (okRes : Res) (encFails : Bool) (htail : tail = if encFails then [] else recB)
    (hok : decide (okRes = .ok) = !encFails) (f : Option Nat) (out : Out) (s' : St Bool)
    (hspec : Arrives (startupCfg path am m (Spec17.lateWrap (fixedWindowRoll r))) s x.active tail okRes (faultFn f)
      (Spec17.rollsNow m x) out s') :
    Agrees r decode path d0 (Spec17.step r.count m am x (.arrive recB encFails (Spec17.moodOf f))).1 s' ∧
    VerdictOk (Spec17.step r.count m am x (.arrive recB encFails (Spec17.moodOf f))).2 (some out) := by
  have hse_slots := slotsOf_sameElse r decode path hfa
  have hverdict : ∀ {res : Res} {ro : Option Bool}, out.res = res → out.rolled = ro →
      VerdictOk (some { calls := if ro.isSome then 1 else 0, ok := decide (res = .ok) }) (some out) :=
    fun h1 h2 => ⟨by rw [h2], by rw [h1]⟩
  cases hr : Spec17.rollsNow m x with
  | false =>
    obtain ⟨hres, hrolled, ho, hse⟩ := hspec.quiet hr
    simp only [Spec17.step, hr, Bool.false_eq_true, ↓reduceIte]
    refine ⟨Agrees.arrived ?_ ((hse_slots _ _ hse).trans hag.slots)
      (fun q hq => (hse q hq.1).trans (hag.frame q hq)) hspec.tst (fun h => nomatch h), hok ▸ hverdict hres hrolled⟩
    rw [show s'.disk.get? path = some (x.active ++ tail) from ho.get, htail]
    cases encFails <;> simp
  | true =>
    have hpres : x.present = true := hag.firstPresent (Bool.and_eq_true_iff.mp hr).1
    obtain ⟨d1, hg1, hse1, hOk, hErr⟩ := hspec.byResult hr
    have hro := roll_outcome r decode hdec path hinj hfa d1 x.active hg1 f
    have hs1 : slotsOf r decode d1 = x.slots := (hse_slots _ _ hse1).trans hag.slots
    have hframe1 : ∀ q, Outside r path q →
        (Spec17.lateWrap (fixedWindowRoll r) path (faultFn f) d1).2.get? q = d0.get? q :=
      fun q hq => (hro.frame q hq).trans ((hse1 q hq.1).trans (hag.frame q hq))
    cases hout : Spec17.outcomeOf r.count (Spec17.moodOf f) with
    | done =>
      obtain ⟨⟨y, hy⟩, hgone, hsl⟩ := hro.done hout
      obtain ⟨hres, hrolled, ho, hse⟩ := hOk y hy
      simp only [Spec17.step, hr, hout, ↓reduceIte]
      refine ⟨Agrees.arrived ?_ ((hse_slots _ _ hse).trans (hsl.trans (by rw [hs1])))
        (fun q hq => (hse q hq.1).trans (hframe1 q hq)) hspec.tst (fun h => nomatch h), hok ▸ hverdict hres hrolled⟩
      rw [show s'.disk.get? path = some (fileOf _ (Spec17.lateWrap (fixedWindowRoll r) path (faultFn f) d1).2 ++ tail) from ho.get,
        fileOf_of_none (cfg := startupCfg path am m _) hgone, htail]
      rfl
    | doneErr =>
      obtain ⟨⟨e, he⟩, hgone, hsl⟩ := hro.doneErr hout
      obtain ⟨hres, hrolled, _, hd⟩ := hErr e he
      have hd' : s'.disk = (Spec17.lateWrap (fixedWindowRoll r) path (faultFn f) d1).2 := hd
      simp only [Spec17.step, hr, hout, ↓reduceIte]
      exact ⟨Agrees.arrived (hd' ▸ hgone) (hd' ▸ hsl.trans (by rw [hs1])) (hd' ▸ hframe1) hspec.tst (fun _ => rfl),
        hverdict hres hrolled⟩
    | stopped p =>
      obtain ⟨⟨e, he⟩, hkeep, hsl⟩ := hro.stopped p hout
      obtain ⟨hres, hrolled, _, hd⟩ := hErr e he
      have hd' : s'.disk = (Spec17.lateWrap (fixedWindowRoll r) path (faultFn f) d1).2 := hd
      simp only [Spec17.step, hr, hout, ↓reduceIte]
      exact ⟨Agrees.arrived (by rw [hd', hkeep, hpres]; rfl) (hd' ▸ hsl.trans (by rw [hs1])) (hd' ▸ hframe1) hspec.tst
        hag.absent, hverdict hres hrolled⟩

theorem rollsNow_eq {r : RollerCfg} {decode : Bytes → Bytes} {path : Path} {d0 : Disk} {x : Spec17.Expect} {s : St Bool}
    (hag : Agrees r decode path d0 x s) (am : Bool) (m : Nat) (roll : RollFn) :
    (!s.tst && decide ((fileOf (startupCfg path am m roll) s.disk).length ≥ m)) = Spec17.rollsNow m x := by
  rw [hag.fileOf am m roll, hag.tst, Bool.not_not]
  rfl

theorem step_refines (r : RollerCfg) (decode : Bytes → Bytes) (hdec : ∀ x, decode (r.codec x) = x) (path : Path)
    (hinj : r.count ≠ 0 → NamesInj r) (hfa : r.count ≠ 0 → FileApart r path) (am : Bool) (m : Nat) (d0 : Disk)
    (x : Spec17.Expect) (s : St Bool) (hag : Agrees r decode path d0 x s)
    (hwf : WF (startupCfg path am m (Spec17.lateWrap (fixedWindowRoll r))) s) (op : XOp) :
    let cfg := startupCfg path am m (Spec17.lateWrap (fixedWindowRoll r))
    Agrees r decode path d0 (Spec17.step r.count m am x (Spec17.evOf op)).1 (applyX cfg s op).2 ∧
    VerdictOk (Spec17.step r.count m am x (Spec17.evOf op)).2 (applyX cfg s op).1 := by
  intro cfg
  rcases op with (⟨rec, f⟩ | _ | dt) | ⟨rec, n, f⟩
  · have hsp := arrives_append path am m _ s rec (faultFn f) hwf
    simp only at hsp
    rw [rollsNow_eq hag, hag.fileOf] at hsp
    exact arrive_refines r decode hdec path hinj hfa am m d0 x s hag (encBytes rec) (encBytes rec) .ok false rfl (by decide) f _ _ hsp
  · -- restart: the new appender keeps (append mode) or empties (truncate mode) the file
    obtain ⟨_, hdl, _, _⟩ := dropWriter_lookup cfg s hwf.2
    obtain ⟨_, hse, htst⟩ := build_spec cfg (dropWriter cfg s)
    have hg := (rebuild_opened cfg cfg rfl s hwf.2).get
    rw [hag.fileOf am m _] at hg
    refine ⟨⟨?_, ?_, fun q hq => ?_, htst, fun h => (nomatch h), fun _ => rfl⟩, trivial⟩
    · exact hg
    · exact (slotsOf_sameElse r decode path hfa _ _ hse).trans
        ((slotsOf_congr r decode s.disk (dropWriter cfg s).disk (fun j _ => hdl _)).trans hag.slots)
    · exact (hse q hq.1).trans ((hdl q).trans (hag.frame q hq))
  · exact ⟨⟨hag.file, hag.slots, hag.frame, hag.tst, hag.absent, hag.firstPresent⟩, trivial⟩
  · have hsp := arrives_appendFail path am m _ s rec n (faultFn f) hwf
    simp only at hsp
    rw [rollsNow_eq hag, hag.fileOf] at hsp
    exact arrive_refines r decode hdec path hinj hfa am m d0 x s hag (encBytes rec) [] .errEncode true rfl (by decide) f _ _ hsp

/-- what the statement starts from: the directory as the first appender's open leaves it -/
def expect0 (r : RollerCfg) (decode : Bytes → Bytes) (path : Path) (am : Bool) (d : Disk) : Spec17.Expect :=
  { slots := slotsOf r decode d, active := if am then (d.get? path).getD [] else [], first := true, present := true }

theorem agrees_init (r : RollerCfg) (decode : Bytes → Bytes) (path : Path) (hfa : r.count ≠ 0 → FileApart r path)
    (am : Bool) (m : Nat) (roll : RollFn) (d : Disk) (now : Nat) :
    Agrees r decode path d (expect0 r decode path am d) (init (startupCfg path am m roll) d false now) := by
  obtain ⟨ho, hse, htst⟩ := init_spec (startupCfg path am m roll) d false now
  exact ⟨ho.get, slotsOf_sameElse r decode path hfa _ _ hse, fun q hq => hse q hq.1, htst, fun h => (nomatch h), fun _ => rfl⟩

/-- two lists of the same length, related entry by entry -/
def Pointwise {α β : Type} (R : α → β → Prop) : List α → List β → Prop
  | [], [] => True
  | a :: as, b :: bs => R a b ∧ Pointwise R as bs
  | _, _ => False

theorem trace_refines (r : RollerCfg) (decode : Bytes → Bytes) (hdec : ∀ x, decode (r.codec x) = x) (path : Path)
    (hinj : r.count ≠ 0 → NamesInj r) (hfa : r.count ≠ 0 → FileApart r path) (am : Bool) (m : Nat) (d0 : Disk)
    (ops : List XOp) (x : Spec17.Expect) (s : St Bool) (hag : Agrees r decode path d0 x s)
    (hwf : WF (startupCfg path am m (Spec17.lateWrap (fixedWindowRoll r))) s) :
    Pointwise (fun (e : Option Out × St Bool) (xv : Spec17.Expect × Option Spec17.Verdict) =>
        Agrees r decode path d0 xv.1 e.2 ∧ VerdictOk xv.2 e.1)
      (traceX (startupCfg path am m (Spec17.lateWrap (fixedWindowRoll r))) s ops) (Spec17.trace r.count m am x (ops.map Spec17.evOf)) := by
  induction ops generalizing x s with
  | nil => exact trivial
  | cons op ops ih =>
    have h := step_refines r decode hdec path hinj hfa am m d0 x s hag hwf op
    exact ⟨h, ih _ _ h.1 (WF_applyX _ s op hwf)⟩

end Log4rs.Rolling
