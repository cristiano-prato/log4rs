import Log4rsModel.Rolling.Model
import Log4rsModel.Rolling.Lemmas
import Log4rsModel.Roller.Lemmas
/-
What one `RollingFileAppender::append` does, phase by phase and stated on lookups of the disk
(`append_pre_spec`, `append_post_spec`), and
the basic well-formedness invariant of the appender state with its lifting to histories. Used by C05,
C06 and C17. First the lookup lemmas of the shared association-list `Disk` with every argument
explicit, the form the proofs below and in the `Ext*` files apply (proved under `Log4rs.Roller.Disk`).
-/
namespace Log4rs.Rolling.DiskL
open Log4rs.Roller

theorem get?_erase_self (d : Disk) (p : Path) : (d.erase p).get? p = none := Disk.get?_erase_same d p

theorem get?_set_self (d : Disk) (p : Path) (c : Bytes) : (d.set p c).get? p = some c := Disk.get?_set_same ..

theorem get?_set_ne (d : Disk) (p q : Path) (c : Bytes) (h : q ≠ p) : (d.set p c).get? q = d.get? q :=
  Disk.get?_set_ne d c h

end Log4rs.Rolling.DiskL

namespace Log4rs.Rolling
open Log4rs.Roller (Disk Path FsErr)

variable {σ : Type}

/-- `d'` agrees with `d` everywhere except possibly at the active path -/
def SameElse (cfg : Cfg σ) (d d' : Disk) : Prop := ∀ q, q ≠ cfg.path → d'.get? q = d.get? q

theorem SameElse.refl (cfg : Cfg σ) (d : Disk) : SameElse cfg d d := fun _ _ => rfl

theorem SameElse.trans {cfg : Cfg σ} {d1 d2 d3 : Disk} (h1 : SameElse cfg d1 d2) (h2 : SameElse cfg d2 d3) :
    SameElse cfg d1 d3 := fun q hq => (h2 q hq).trans (h1 q hq)

theorem SameElse.set (cfg : Cfg σ) (d : Disk) (c : Bytes) : SameElse cfg d (d.set cfg.path c) :=
  fun q hq => DiskL.get?_set_ne d cfg.path q c hq

/-- the writer is open on the active file, nothing pending, and its counter is the file's size -/
def Opened (cfg : Cfg σ) (s : St σ) (a : Bytes) : Prop :=
  ∃ w, s.writer = some w ∧ w.buf = [] ∧ s.disk.get? cfg.path = some a ∧ w.len = a.length

/-- the writer part of a state between two operations -/
def WFw (cfg : Cfg σ) (s : St σ) : Prop := s.writer = none ∨ ∃ a, Opened cfg s a

/-- state between two operations of a built appender (it has opened its file at least once) -/
def WF (cfg : Cfg σ) (s : St σ) : Prop := s.opened = true ∧ WFw cfg s

/-- the content `get_writer` finds / leaves in the active file -/
def openView (cfg : Cfg σ) (s : St σ) : Bytes :=
  match s.writer with
  | some _ => fileOf cfg s.disk
  | none => if cfg.appendMode || s.opened then fileOf cfg s.disk else []

theorem openView_of_opened (cfg : Cfg σ) (s : St σ) (h : s.opened = true) : openView cfg s = fileOf cfg s.disk := by
  unfold openView
  cases s.writer <;> simp [h]

theorem fileOf_of_get {cfg : Cfg σ} {d : Disk} {a : Bytes} (h : d.get? cfg.path = some a) : fileOf cfg d = a := by
  simp [fileOf, h]

theorem fileOf_of_none {cfg : Cfg σ} {d : Disk} (h : d.get? cfg.path = none) : fileOf cfg d = [] := by
  simp [fileOf, h]

theorem fileOf_set (cfg : Cfg σ) (d : Disk) (c : Bytes) : fileOf cfg (d.set cfg.path c) = c :=
  fileOf_of_get (DiskL.get?_set_self d cfg.path c)

theorem getWriter_opened (cfg : Cfg σ) (s : St σ) (h : s.opened = true ∨ s.writer = none) :
    (getWriter cfg s).1.opened = true := by
  unfold getWriter
  cases hw : s.writer with
  | some w =>
    rcases h with h | h
    · exact h
    · simp [hw] at h
  | none => rfl

theorem getWriter_spec (cfg : Cfg σ) (s : St σ) (hwf : WFw cfg s) :
    Opened cfg (getWriter cfg s).1 (openView cfg s) ∧ (getWriter cfg s).1.writer = some (getWriter cfg s).2 ∧
    SameElse cfg s.disk (getWriter cfg s).1.disk ∧
    (getWriter cfg s).1.tst = s.tst ∧ (getWriter cfg s).1.now = s.now := by
  unfold getWriter openView
  cases hw : s.writer with
  | some w =>
    rcases hwf with h | ⟨a, w', hw', hb, hg, hl⟩
    · simp [hw] at h
    · rw [hw] at hw'
      have : w' = w := (Option.some.inj hw').symm
      subst this
      exact ⟨⟨w', hw, hb, by rw [fileOf_of_get hg]; exact hg, by rw [fileOf_of_get hg]; exact hl⟩, hw,
        SameElse.refl cfg _, rfl, rfl⟩
  | none =>
    refine ⟨⟨_, rfl, rfl, DiskL.get?_set_self _ _ _, ?_⟩, rfl, SameElse.set cfg _ _, rfl, rfl⟩
    by_cases ha : (cfg.appendMode || s.opened) = true <;> simp [ha]

theorem writeAndFlush_spec (cfg : Cfg σ) (s : St σ) (w : Writer) (r : Rec) (a : Bytes)
    (hb : w.buf = []) (hg : s.disk.get? cfg.path = some a) (hl : w.len = a.length) :
    Opened cfg (writeAndFlush cfg s w r).1 (a ++ encBytes r) ∧
    (writeAndFlush cfg s w r).1.writer = some (writeAndFlush cfg s w r).2 ∧
    (writeAndFlush cfg s w r).2.len = (a ++ encBytes r).length ∧
    SameElse cfg s.disk (writeAndFlush cfg s w r).1.disk ∧
    (writeAndFlush cfg s w r).1.tst = s.tst ∧ (writeAndFlush cfg s w r).1.now = s.now ∧
    (writeAndFlush cfg s w r).1.opened = s.opened := by
  have hlog := BufFile.logical_foldl_writeLoop [encBytes r] { disk := a, buf := [] }
  simp only [BufFile.logical, List.append_nil, List.flatten_cons, List.flatten_nil] at hlog
  have hfile : fileOf cfg s.disk = a := fileOf_of_get hg
  simp only [writeAndFlush, writeRec, flushW, hfile, hb]
  rw [fileOf_set, hlog]
  refine ⟨⟨_, rfl, rfl, DiskL.get?_set_self _ _ _, ?_⟩, trivial, ?_, ?_, trivial, trivial, trivial⟩
  · simp [hl, encBytes]
  · simp [hl, encBytes]
  · exact (SameElse.set cfg _ _).trans (SameElse.set cfg _ _)

theorem Opened.get {cfg : Cfg σ} {s : St σ} {a : Bytes} (h : Opened cfg s a) : s.disk.get? cfg.path = some a := by
  obtain ⟨_, _, _, hg, _⟩ := h
  exact hg

theorem fileOf_opened {cfg : Cfg σ} {s : St σ} {a : Bytes} (h : Opened cfg s a) : fileOf cfg s.disk = a :=
  fileOf_of_get h.get

theorem Opened.len {cfg : Cfg σ} {s : St σ} {a : Bytes} {w : Writer} (ho : Opened cfg s a) (hw : s.writer = some w) :
    w.len = a.length := by
  obtain ⟨w', hw', _, _, hl⟩ := ho
  rw [hw] at hw'
  cases hw'
  exact hl

/-- `get_writer` between two operations: the file is open with what it holds -/
theorem reopen_spec (cfg : Cfg σ) (s : St σ) (hwf : WF cfg s) :
    Opened cfg (getWriter cfg s).1 (fileOf cfg s.disk) ∧ SameElse cfg s.disk (getWriter cfg s).1.disk ∧
    (getWriter cfg s).1.tst = s.tst ∧ (getWriter cfg s).1.now = s.now ∧ (getWriter cfg s).1.opened = true := by
  obtain ⟨ho, _, hse, ht, hn⟩ := getWriter_spec cfg s hwf.2
  rw [openView_of_opened cfg s hwf.1] at ho
  exact ⟨ho, hse, ht, hn, getWriter_opened cfg s (Or.inl hwf.1)⟩

/-- … followed by the write of one record -/
theorem reopen_write_spec (cfg : Cfg σ) (s : St σ) (r : Rec) (hwf : WF cfg s) :
    Opened cfg (writeAndFlush cfg (getWriter cfg s).1 (getWriter cfg s).2 r).1 (fileOf cfg s.disk ++ encBytes r) ∧
    SameElse cfg s.disk (writeAndFlush cfg (getWriter cfg s).1 (getWriter cfg s).2 r).1.disk ∧
    (writeAndFlush cfg (getWriter cfg s).1 (getWriter cfg s).2 r).1.tst = s.tst ∧
    (writeAndFlush cfg (getWriter cfg s).1 (getWriter cfg s).2 r).1.now = s.now ∧
    (writeAndFlush cfg (getWriter cfg s).1 (getWriter cfg s).2 r).1.opened = true := by
  obtain ⟨⟨w, hw, hb, hg, hl⟩, hse, ht, hn, hop⟩ := reopen_spec cfg s hwf
  have hw' : (getWriter cfg s).2 = w := Option.some.inj ((getWriter_spec cfg s hwf.2).2.1.symm.trans hw)
  rw [hw']
  obtain ⟨ho2, _, _, hse2, ht2, hn2, hop2⟩ := writeAndFlush_spec cfg _ w r _ hb hg hl
  exact ⟨ho2, hse.trans hse2, ht2.trans ht, hn2.trans hn, hop2.trans hop⟩

/-- the result of the roller on the disk `d1` -/
structure Rolled (cfg : Cfg σ) (fault : Nat → Bool) (d1 : Disk) (out : Out) (s' : St σ) : Prop where
  writer : s'.writer = none
  disk : s'.disk = (cfg.roll cfg.path fault d1).2
  result : (∃ x, (cfg.roll cfg.path fault d1).1 = .ok x ∧ out.res = .ok ∧ out.rolled = some true) ∨
           (∃ e, (cfg.roll cfg.path fault d1).1 = .error e ∧ out.res = .errRoll ∧ out.rolled = some false)

theorem process_spec (cfg : Cfg σ) (s : St σ) (a : Bytes) (len : Nat) (fault : Nat → Bool)
    (ho : Opened cfg s a) :
    ∀ p fa, p = process cfg s len fault → fa = cfg.trig.fire s.tst len s.now →
    p.2.2.tst = fa.2 ∧ p.2.2.now = s.now ∧ p.2.2.opened = s.opened ∧
    (fa.1 = .no → p.1 = .ok ∧ p.2.1 = none ∧ Opened cfg p.2.2 a ∧ p.2.2.disk = s.disk) ∧
    (fa.1 = .err → p.1 = .errTrigger ∧ p.2.1 = none ∧ Opened cfg p.2.2 a ∧ p.2.2.disk = s.disk) ∧
    (fa.1 = .yes → ∃ d1, d1.get? cfg.path = some a ∧ SameElse cfg s.disk d1 ∧
        p.2.2.writer = none ∧ p.2.2.disk = (cfg.roll cfg.path fault d1).2 ∧
        ((∃ x, (cfg.roll cfg.path fault d1).1 = .ok x ∧ p.1 = .ok ∧ p.2.1 = some true) ∨
         (∃ e, (cfg.roll cfg.path fault d1).1 = .error e ∧ p.1 = .errRoll ∧ p.2.1 = some false))) := by
  intro p fa hp hfa
  obtain ⟨w, hw, hb, hg, hl⟩ := ho
  unfold process at hp
  rw [← hfa] at hp
  rcases hfa' : fa with ⟨ans, t'⟩
  rw [hfa'] at hp
  cases ans with
  | no =>
    simp only at hp
    subst hp
    exact ⟨rfl, rfl, rfl, fun _ => ⟨rfl, rfl, ⟨w, hw, hb, hg, hl⟩, rfl⟩, fun h => by simp at h, fun h => by simp at h⟩
  | err =>
    simp only at hp
    subst hp
    exact ⟨rfl, rfl, rfl, fun h => by simp at h, fun _ => ⟨rfl, rfl, ⟨w, hw, hb, hg, hl⟩, rfl⟩, fun h => by simp at h⟩
  | yes =>
    simp only [dropWriter, hw, flushW, hb, List.append_nil, fileOf_of_get hg] at hp
    have hd1 : (s.disk.set cfg.path a).get? cfg.path = some a := DiskL.get?_set_self _ _ _
    rcases hroll : cfg.roll cfg.path fault (s.disk.set cfg.path a) with ⟨res, d'⟩
    rw [hroll] at hp
    cases res with
    | ok x =>
      simp only at hp
      subst hp
      refine ⟨rfl, rfl, rfl, fun h => by simp at h, fun h => by simp at h, fun _ => ?_⟩
      exact ⟨_, hd1, SameElse.set cfg _ _, rfl, by simp [hroll], Or.inl ⟨x, by simp [hroll], rfl, rfl⟩⟩
    | error e =>
      simp only at hp
      subst hp
      refine ⟨rfl, rfl, rfl, fun h => by simp at h, fun h => by simp at h, fun _ => ?_⟩
      exact ⟨_, hd1, SameElse.set cfg _ _, rfl, by simp [hroll], Or.inr ⟨e, by simp [hroll], rfl, rfl⟩⟩

theorem append_pre (cfg : Cfg σ) (s : St σ) (r : Rec) (fault : Nat → Bool) (hpre : cfg.trig.pre = true) :
    append cfg s r fault =
      let g := getWriter cfg s
      let p := process cfg g.1 g.2.len fault
      let c := some (g.2.len, (fileOf cfg g.1.disk).length)
      if p.1 = .ok then
        ({ res := .ok, consult := c, rolled := p.2.1 },
          (writeAndFlush cfg (getWriter cfg p.2.2).1 (getWriter cfg p.2.2).2 r).1)
      else ({ res := p.1, consult := c, rolled := p.2.1 }, p.2.2) := by
  simp only [append, hpre, if_true]
  rcases process cfg (getWriter cfg s).1 (getWriter cfg s).2.len fault with ⟨res, rolled, s2⟩
  cases res <;> rfl

theorem append_post (cfg : Cfg σ) (s : St σ) (r : Rec) (fault : Nat → Bool) (hpre : cfg.trig.pre = false) :
    append cfg s r fault =
      let w := writeAndFlush cfg (getWriter cfg s).1 (getWriter cfg s).2 r
      let p := process cfg w.1 w.2.len fault
      ({ res := p.1, consult := some (w.2.len, (fileOf cfg w.1.disk).length), rolled := p.2.1 }, p.2.2) := by
  simp only [append, hpre, Bool.false_eq_true, if_false]

theorem appendFail_pre (cfg : Cfg σ) (s : St σ) (r : Rec) (n : Nat) (fault : Nat → Bool) (hpre : cfg.trig.pre = true) :
    appendFail cfg s r n fault =
      let g := getWriter cfg s
      let p := process cfg g.1 g.2.len fault
      let c := some (g.2.len, (fileOf cfg g.1.disk).length)
      if p.1 = .ok then ({ res := .errEncode, consult := c, rolled := p.2.1 }, (getWriter cfg p.2.2).1)
      else ({ res := p.1, consult := c, rolled := p.2.1 }, p.2.2) := by
  simp only [appendFail, hpre, if_true]
  rcases process cfg (getWriter cfg s).1 (getWriter cfg s).2.len fault with ⟨res, rolled, s2⟩
  cases res <;> rfl

theorem appendFail_post (cfg : Cfg σ) (s : St σ) (r : Rec) (n : Nat) (fault : Nat → Bool) (hpre : cfg.trig.pre = false) :
    appendFail cfg s r n fault = ({ res := .errEncode, consult := none, rolled := none }, (getWriter cfg s).1) := by
  simp only [appendFail, hpre, Bool.false_eq_true, if_false]

/-- Pre-process mode, `append` and `appendFail` at once: the policy is consulted on the open file; if
it does not fail, `fin` runs (the reopening, with or without the write: the file then holds `ext` of
what it held) and `res0` is returned. -/
theorem pre_spec (cfg : Cfg σ) (s : St σ) (fault : Nat → Bool) (hwf : WF cfg s)
    (fin : St σ → St σ) (ext : Bytes → Bytes) (res0 : Res)
    (hfin : ∀ s3, WF cfg s3 → Opened cfg (fin s3) (ext (fileOf cfg s3.disk)) ∧ SameElse cfg s3.disk (fin s3).disk ∧
      (fin s3).tst = s3.tst ∧ (fin s3).now = s3.now ∧ (fin s3).opened = true) :
    ∀ a0 fa (out : Out) (s' : St σ), a0 = openView cfg s → fa = cfg.trig.fire s.tst a0.length s.now →
      (out, s') =
        (let g := getWriter cfg s
         let p := process cfg g.1 g.2.len fault
         let c := some (g.2.len, (fileOf cfg g.1.disk).length)
         if p.1 = .ok then ({ res := res0, consult := c, rolled := p.2.1 }, fin p.2.2)
         else ({ res := p.1, consult := c, rolled := p.2.1 }, p.2.2)) →
    out.consult = some (a0.length, a0.length) ∧ s'.tst = fa.2 ∧ s'.now = s.now ∧ s'.opened = true ∧
    (fa.1 = .no → out.res = res0 ∧ out.rolled = none ∧ Opened cfg s' (ext a0) ∧ SameElse cfg s.disk s'.disk) ∧
    (fa.1 = .err → out.res = .errTrigger ∧ out.rolled = none ∧ Opened cfg s' a0 ∧ SameElse cfg s.disk s'.disk) ∧
    (fa.1 = .yes → ∃ d1, d1.get? cfg.path = some a0 ∧ SameElse cfg s.disk d1 ∧
        ((∃ x, (cfg.roll cfg.path fault d1).1 = .ok x ∧ out.res = res0 ∧ out.rolled = some true ∧
            Opened cfg s' (ext (fileOf cfg (cfg.roll cfg.path fault d1).2)) ∧
            SameElse cfg (cfg.roll cfg.path fault d1).2 s'.disk) ∨
         (∃ e, (cfg.roll cfg.path fault d1).1 = .error e ∧ out.res = .errRoll ∧ out.rolled = some false ∧
            s'.writer = none ∧ s'.disk = (cfg.roll cfg.path fault d1).2))) := by
  intro a0 fa out s' ha0 hfa hout
  subst ha0 hfa
  obtain ⟨ho, hw1, hse1, ht1, hn1⟩ := getWriter_spec cfg s hwf.2
  have hlen := ho.len hw1
  obtain ⟨hpt, hpn, hpo, hno, herr, hyes⟩ := process_spec cfg _ _ (openView cfg s).length fault ho _ _ rfl rfl
  simp only [fileOf_opened ho, hlen] at hout
  rw [ht1, hn1] at hpt hno herr hyes
  rw [hn1] at hpn
  rw [getWriter_opened cfg s (Or.inl hwf.1)] at hpo
  cases hans : (cfg.trig.fire s.tst (openView cfg s).length s.now).1 with
  | no =>
    obtain ⟨hr, hro, ho3, hd3⟩ := hno hans
    rw [if_pos hr] at hout
    cases hout
    obtain ⟨ho5, hse5, ht5, hn5, hop5⟩ := hfin _ ⟨hpo, Or.inr ⟨_, ho3⟩⟩
    rw [fileOf_opened ho3] at ho5
    exact ⟨rfl, ht5.trans hpt, hn5.trans hpn, hop5, fun _ => ⟨rfl, hro, ho5, (hse1.trans (hd3 ▸ SameElse.refl cfg _)).trans hse5⟩,
      nofun, nofun⟩
  | err =>
    obtain ⟨hr, hro, ho3, hd3⟩ := herr hans
    rw [if_neg (by rw [hr]; exact nofun)] at hout
    cases hout
    exact ⟨rfl, hpt, hpn, hpo, nofun, fun _ => ⟨hr, hro, ho3, hd3 ▸ hse1⟩, nofun⟩
  | yes =>
    obtain ⟨d1, hg1, hsd1, hw3, hd3, hres⟩ := hyes hans
    rcases hres with ⟨x, hrx, hr, hro⟩ | ⟨e, hre, hr, hro⟩
    · rw [if_pos hr] at hout
      cases hout
      obtain ⟨ho5, hse5, ht5, hn5, hop5⟩ := hfin _ ⟨hpo, Or.inl hw3⟩
      rw [hd3] at ho5 hse5
      exact ⟨rfl, ht5.trans hpt, hn5.trans hpn, hop5, nofun, nofun,
        fun _ => ⟨d1, hg1, hse1.trans hsd1, Or.inl ⟨x, hrx, rfl, hro, ho5, hse5⟩⟩⟩
    · rw [if_neg (by rw [hr]; exact nofun)] at hout
      cases hout
      exact ⟨rfl, hpt, hpn, hpo, nofun, nofun,
        fun _ => ⟨d1, hg1, hse1.trans hsd1, Or.inr ⟨e, hre, hr, hro, hw3, hd3⟩⟩⟩

/-- What `append` does in pre-process mode. -/
theorem append_pre_spec (cfg : Cfg σ) (s : St σ) (r : Rec) (fault : Nat → Bool) (hwf : WF cfg s)
    (hpre : cfg.trig.pre = true) :
    let a0 := openView cfg s
    let fa := cfg.trig.fire s.tst a0.length s.now
    let out := (append cfg s r fault).1
    let s' := (append cfg s r fault).2
    out.consult = some (a0.length, a0.length) ∧ s'.tst = fa.2 ∧ s'.now = s.now ∧ s'.opened = true ∧
    (fa.1 = .no → out.res = .ok ∧ out.rolled = none ∧ Opened cfg s' (a0 ++ encBytes r) ∧ SameElse cfg s.disk s'.disk) ∧
    (fa.1 = .err → out.res = .errTrigger ∧ out.rolled = none ∧ Opened cfg s' a0 ∧ SameElse cfg s.disk s'.disk) ∧
    (fa.1 = .yes → ∃ d1, d1.get? cfg.path = some a0 ∧ SameElse cfg s.disk d1 ∧
        ((∃ x, (cfg.roll cfg.path fault d1).1 = .ok x ∧ out.res = .ok ∧ out.rolled = some true ∧
            Opened cfg s' (fileOf cfg (cfg.roll cfg.path fault d1).2 ++ encBytes r) ∧
            SameElse cfg (cfg.roll cfg.path fault d1).2 s'.disk) ∨
         (∃ e, (cfg.roll cfg.path fault d1).1 = .error e ∧ out.res = .errRoll ∧ out.rolled = some false ∧
            s'.writer = none ∧ s'.disk = (cfg.roll cfg.path fault d1).2))) := by
  intro a0 fa out s'
  exact pre_spec cfg s fault hwf _ (· ++ encBytes r) .ok (reopen_write_spec cfg · r) a0 fa out s' rfl rfl
    (append_pre cfg s r fault hpre ▸ rfl)

/-- What an append whose encoder fails does in pre-process mode (code after 9f38f0b): the policy
runs and the writer is (re)opened exactly as for a successful append, then nothing is written. -/
theorem appendFail_pre_spec (cfg : Cfg σ) (s : St σ) (r : Rec) (n : Nat) (fault : Nat → Bool) (hwf : WF cfg s)
    (hpre : cfg.trig.pre = true) :
    let a0 := openView cfg s
    let fa := cfg.trig.fire s.tst a0.length s.now
    let out := (appendFail cfg s r n fault).1
    let s' := (appendFail cfg s r n fault).2
    out.consult = some (a0.length, a0.length) ∧ s'.tst = fa.2 ∧ s'.now = s.now ∧ s'.opened = true ∧
    (fa.1 = .no → out.res = .errEncode ∧ out.rolled = none ∧ Opened cfg s' a0 ∧ SameElse cfg s.disk s'.disk) ∧
    (fa.1 = .err → out.res = .errTrigger ∧ out.rolled = none ∧ Opened cfg s' a0 ∧ SameElse cfg s.disk s'.disk) ∧
    (fa.1 = .yes → ∃ d1, d1.get? cfg.path = some a0 ∧ SameElse cfg s.disk d1 ∧
        ((∃ x, (cfg.roll cfg.path fault d1).1 = .ok x ∧ out.res = .errEncode ∧ out.rolled = some true ∧
            Opened cfg s' (fileOf cfg (cfg.roll cfg.path fault d1).2) ∧
            SameElse cfg (cfg.roll cfg.path fault d1).2 s'.disk) ∨
         (∃ e, (cfg.roll cfg.path fault d1).1 = .error e ∧ out.res = .errRoll ∧ out.rolled = some false ∧
            s'.writer = none ∧ s'.disk = (cfg.roll cfg.path fault d1).2))) := by
  intro a0 fa out s'
  exact pre_spec cfg s fault hwf _ id .errEncode (reopen_spec cfg) a0 fa out s' rfl rfl
    (appendFail_pre cfg s r n fault hpre ▸ rfl)

/-- … and in post-process mode: only `get_writer` has happened -/
theorem appendFail_post_spec (cfg : Cfg σ) (s : St σ) (r : Rec) (n : Nat) (fault : Nat → Bool) (hwf : WF cfg s)
    (hpre : cfg.trig.pre = false) :
    (appendFail cfg s r n fault).1 = { res := .errEncode, consult := none, rolled := none } ∧
    Opened cfg (appendFail cfg s r n fault).2 (openView cfg s) ∧
    SameElse cfg s.disk (appendFail cfg s r n fault).2.disk ∧
    (appendFail cfg s r n fault).2.tst = s.tst ∧ (appendFail cfg s r n fault).2.now = s.now ∧
    (appendFail cfg s r n fault).2.opened = true := by
  obtain ⟨ho, _, hse1, ht1, hn1⟩ := getWriter_spec cfg s hwf.2
  have hop1 : (getWriter cfg s).1.opened = true := getWriter_opened cfg s (Or.inl hwf.1)
  rw [appendFail_post cfg s r n fault hpre]
  exact ⟨rfl, ho, hse1, ht1, hn1, hop1⟩

/-- What `append` does in post-process mode. -/
theorem append_post_spec (cfg : Cfg σ) (s : St σ) (r : Rec) (fault : Nat → Bool) (hwf : WF cfg s)
    (hpre : cfg.trig.pre = false) :
    let a1 := openView cfg s ++ encBytes r
    let fa := cfg.trig.fire s.tst a1.length s.now
    let out := (append cfg s r fault).1
    let s' := (append cfg s r fault).2
    out.consult = some (a1.length, a1.length) ∧ s'.tst = fa.2 ∧ s'.now = s.now ∧ s'.opened = true ∧
    (fa.1 = .no → out.res = .ok ∧ out.rolled = none ∧ Opened cfg s' a1 ∧ SameElse cfg s.disk s'.disk) ∧
    (fa.1 = .err → out.res = .errTrigger ∧ out.rolled = none ∧ Opened cfg s' a1 ∧ SameElse cfg s.disk s'.disk) ∧
    (fa.1 = .yes → ∃ d1, d1.get? cfg.path = some a1 ∧ SameElse cfg s.disk d1 ∧
        s'.writer = none ∧ s'.disk = (cfg.roll cfg.path fault d1).2 ∧
        ((∃ x, (cfg.roll cfg.path fault d1).1 = .ok x ∧ out.res = .ok ∧ out.rolled = some true) ∨
         (∃ e, (cfg.roll cfg.path fault d1).1 = .error e ∧ out.res = .errRoll ∧ out.rolled = some false))) := by
  intro a1 fa out s'
  obtain ⟨ho2, hse2, ht2, hn2, hop2⟩ := reopen_write_spec cfg s r hwf
  rw [← openView_of_opened cfg s hwf.1] at ho2
  have hlen : (writeAndFlush cfg (getWriter cfg s).1 (getWriter cfg s).2 r).2.len =
      (openView cfg s ++ encBytes r).length := ho2.len rfl
  obtain ⟨hpt, hpn, hpo, hno, herr, hyes⟩ :=
    process_spec cfg _ _ (openView cfg s ++ encBytes r).length fault ho2 _ _ rfl rfl
  have hout : (out, s') = append cfg s r fault := rfl
  rw [append_post cfg s r fault hpre] at hout
  simp only [fileOf_opened ho2, hlen] at hout
  obtain ⟨hout, hs'⟩ := Prod.mk.inj hout
  rw [hout, hs']
  rw [ht2, hn2] at hpt hno herr hyes
  refine ⟨rfl, hpt, hpn.trans hn2, hpo.trans hop2, ?_, ?_, ?_⟩
  · intro h
    obtain ⟨hr, hro, ho3, hd3⟩ := hno h
    exact ⟨hr, hro, ho3, hd3 ▸ hse2⟩
  · intro h
    obtain ⟨hr, hro, ho3, hd3⟩ := herr h
    exact ⟨hr, hro, ho3, hd3 ▸ hse2⟩
  · intro h
    obtain ⟨d1, hg1, hsd1, hw3, hd3, hres⟩ := hyes h
    exact ⟨d1, hg1, hse2.trans hsd1, hw3, hd3, hres⟩

theorem trace_forall (cfg : Cfg σ) {P : St σ → Prop} {Q : Option Out × St σ → Prop}
    (hstep : ∀ s op, P s → P (applyOp cfg s op).2 ∧ Q (applyOp cfg s op))
    (ops : List Op) (s : St σ) (hs : P s) : ∀ e ∈ trace cfg s ops, Q e := by
  induction ops generalizing s with
  | nil => intro e he; simp [trace] at he
  | cons op ops ih =>
    intro e he
    simp only [trace, List.mem_cons] at he
    rcases he with rfl | he
    · exact (hstep s op hs).2
    · exact ih _ (hstep s op hs).1 e he

theorem traceX_forall (cfg : Cfg σ) {P : St σ → Prop} {Q : Option Out × St σ → Prop}
    (hstep : ∀ s op, P s → P (applyX cfg s op).2 ∧ Q (applyX cfg s op))
    (ops : List XOp) (s : St σ) (hs : P s) : ∀ e ∈ traceX cfg s ops, Q e := by
  induction ops generalizing s with
  | nil => intro e he; cases he
  | cons op ops ih =>
    intro e he
    rcases List.mem_cons.mp he with rfl | he
    · exact (hstep s op hs).2
    · exact ih _ (hstep s op hs).1 e he

theorem traceX_length (cfg : Cfg σ) (s : St σ) (ops : List XOp) : (traceX cfg s ops).length = ops.length := by
  induction ops generalizing s with
  | nil => rfl
  | cons op ops ih => simp [traceX, ih]

theorem WF_build (cfg : Cfg σ) (s : St σ) : WF cfg (build cfg s) := by
  have h := (getWriter_spec cfg { s with writer := none, tst := cfg.trig.reinit s.tst s.now, opened := false } (Or.inl rfl)).1
  exact ⟨getWriter_opened cfg _ (Or.inr rfl), Or.inr ⟨_, h⟩⟩

theorem WF_init (cfg : Cfg σ) (d : Disk) (t0 : σ) (now : Nat) : WF cfg (init cfg d t0 now) := WF_build cfg _

theorem WF_restart (cfg : Cfg σ) (s : St σ) : WF cfg (restart cfg s) := WF_build cfg _

/-- every append leaves a well-formed state and shows the policy the true size -/
theorem append_wf (cfg : Cfg σ) (s : St σ) (r : Rec) (fault : Nat → Bool) (hwf : WF cfg s) :
    WF cfg (append cfg s r fault).2 ∧ ∃ L, (append cfg s r fault).1.consult = some (L, L) := by
  cases hpre : cfg.trig.pre with
  | true =>
    obtain ⟨hc, _, _, hop, hno, herr, hyes⟩ := append_pre_spec cfg s r fault hwf hpre
    refine ⟨⟨hop, ?_⟩, _, hc⟩
    cases hans : (cfg.trig.fire s.tst (openView cfg s).length s.now).1 with
    | no => exact Or.inr ⟨_, (hno hans).2.2.1⟩
    | err => exact Or.inr ⟨_, (herr hans).2.2.1⟩
    | yes =>
      obtain ⟨d1, _, _, h⟩ := hyes hans
      rcases h with ⟨_, _, _, _, ho, _⟩ | ⟨_, _, _, _, hw, _⟩
      · exact Or.inr ⟨_, ho⟩
      · exact Or.inl hw
  | false =>
    obtain ⟨hc, _, _, hop, hno, herr, hyes⟩ := append_post_spec cfg s r fault hwf hpre
    refine ⟨⟨hop, ?_⟩, _, hc⟩
    cases hans : (cfg.trig.fire s.tst (openView cfg s ++ encBytes r).length s.now).1 with
    | no => exact Or.inr ⟨_, (hno hans).2.2.1⟩
    | err => exact Or.inr ⟨_, (herr hans).2.2.1⟩
    | yes =>
      obtain ⟨d1, _, _, hw, _⟩ := hyes hans
      exact Or.inl hw

theorem WF_applyOp (cfg : Cfg σ) (s : St σ) (op : Op) (hwf : WF cfg s) : WF cfg (applyOp cfg s op).2 := by
  cases op with
  | append r f => exact (append_wf cfg s r (faultFn f) hwf).1
  | restart => exact WF_restart cfg s
  | tick dt => exact hwf

theorem appendFail_wf (cfg : Cfg σ) (s : St σ) (r : Rec) (n : Nat) (fault : Nat → Bool) (hwf : WF cfg s) :
    WF cfg (appendFail cfg s r n fault).2 := by
  cases hpre : cfg.trig.pre with
  | true =>
    obtain ⟨_, _, _, hop, hno, herr, hyes⟩ := appendFail_pre_spec cfg s r n fault hwf hpre
    refine ⟨hop, ?_⟩
    cases hans : (cfg.trig.fire s.tst (openView cfg s).length s.now).1 with
    | no => exact Or.inr ⟨_, (hno hans).2.2.1⟩
    | err => exact Or.inr ⟨_, (herr hans).2.2.1⟩
    | yes =>
      obtain ⟨d1, _, _, h⟩ := hyes hans
      rcases h with ⟨_, _, _, _, ho, _⟩ | ⟨_, _, _, _, hw, _⟩
      · exact Or.inr ⟨_, ho⟩
      · exact Or.inl hw
  | false =>
    obtain ⟨_, ho, _, _, _, hop⟩ := appendFail_post_spec cfg s r n fault hwf hpre
    exact ⟨hop, Or.inr ⟨_, ho⟩⟩

theorem WF_applyX (cfg : Cfg σ) (s : St σ) (op : XOp) (hwf : WF cfg s) : WF cfg (applyX cfg s op).2 := by
  cases op with
  | op o => exact WF_applyOp cfg s o hwf
  | appendFail r n f => exact appendFail_wf cfg s r n (faultFn f) hwf

theorem WF_foldl_applyX (cfg : Cfg σ) (ops : List XOp) (s : St σ) (hwf : WF cfg s) :
    WF cfg (ops.foldl (fun s op => (applyX cfg s op).2) s) := by
  induction ops generalizing s with
  | nil => exact hwf
  | cons op ops ih => exact ih _ (WF_applyX cfg s op hwf)

/-- The wrapper runs the roller once, with some fault oracle `g`, and reports that run's result — or
`Err` in place of its `Ok`. -/
theorem lateRoll_run (roll : RollFn) (late : Nat) (p : Path) (f : Nat → Bool) (d : Disk) :
    ∃ g res d', roll p g d = (res, d') ∧
      (lateRoll roll late p f d = (res, d') ∨
       (∃ x, res = .ok x) ∧ lateRoll roll late p f d = (.error (.injected late), d')) := by
  unfold lateRoll
  by_cases hf : f late
  · rw [if_pos hf]
    rcases hr : roll p (fun _ => false) d with ⟨_ | x, d'⟩
    · exact ⟨_, _, _, hr, Or.inl rfl⟩
    · exact ⟨_, _, _, hr, Or.inr ⟨⟨x, rfl⟩, rfl⟩⟩
  · rw [if_neg hf]
    exact ⟨f, _, _, rfl, Or.inl rfl⟩

end Log4rs.Rolling
