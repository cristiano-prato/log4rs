import Log4rsModel.Rolling.LemmasWindow
import Log4rsModel.Rolling.ExtOpen
/-
The appender with an on-start-up trigger and any roller (C17): what the arrival of one record does
(`Arrives`), the one-shot flag along a history, counting of rotation requests, and the file after
the first record and after the records that follow it.
-/
namespace Log4rs.Rolling
open Log4rs.Roller

def startupCfg (path : Path) (appendMode : Bool) (minSize : Nat) (roll : RollFn) : Cfg Bool :=
  { path, appendMode, trig := onStartupTrigger minSize, roll }

def isRoll : Option Out → Bool
  | some out => out.rolled.isSome
  | none => false

/-- number of operations of a history in which the roller was invoked -/
def rolls (outs : List (Option Out)) : Nat := (outs.filter isRoll).length

def isRestart : Op → Bool
  | .restart => true
  | _ => false

def restarts (ops : List Op) : Nat := (ops.filter isRestart).length

/-- no append since the appender was built (scanning the history from the start) -/
def fresh (ops : List Op) : Bool :=
  ops.foldl (fun b op => match op with | .append _ _ => false | .restart => true | .tick _ => b) true

/-- a record arrives at the appender (its encoder may or may not succeed) -/
def arrival : XOp → Bool
  | .op (.append _ _) => true
  | .appendFail _ _ _ => true
  | _ => false

/-- no record has arrived since the appender was built -/
def freshX (ops : List XOp) : Bool :=
  ops.foldl (fun b op => match op with
    | .op (.append _ _) => false | .appendFail _ _ _ => false | .op .restart => true | .op (.tick _) => b) true

/-- the state after a history -/
def finalX (cfg : Cfg Bool) (s : St Bool) (ops : List XOp) : St Bool := ops.foldl (fun s op => (applyX cfg s op).2) s

def isRollX : Option Out × St Bool → Bool := fun e => isRoll e.1

def xIsRestart : XOp → Bool
  | .op .restart => true
  | _ => false

def restartsX (ops : List XOp) : Nat := (ops.filter xIsRestart).length

/-- what a record contributes to the file when nothing is rotated: its bytes, or nothing when its
encoder fails -/
def okBytes : XOp → Bytes
  | .op (.append r _) => encBytes r
  | _ => []

/-- What the arrival of a record does under the on-start-up trigger, for `append` and `appendFail`
alike: `a0` is the file it finds, `tail` what it writes, `okRes` its result unless the roller fails,
`rolls` whether the trigger fires. Either way the one-shot is spent afterwards. -/
structure Arrives (cfg : Cfg Bool) (s : St Bool) (a0 tail : Bytes) (okRes : Res) (fault : Nat → Bool) (rolls : Bool)
    (out : Out) (s' : St Bool) : Prop where
  tst : s'.tst = true
  opened : s'.opened = true
  quiet : rolls = false → out.res = okRes ∧ out.rolled = none ∧ Opened cfg s' (a0 ++ tail) ∧ SameElse cfg s.disk s'.disk
  rolled : rolls = true → ∃ d1, d1.get? cfg.path = some a0 ∧ SameElse cfg s.disk d1 ∧
    ((∃ y, (cfg.roll cfg.path fault d1).1 = .ok y ∧ out.res = okRes ∧ out.rolled = some true ∧
        Opened cfg s' (fileOf cfg (cfg.roll cfg.path fault d1).2 ++ tail) ∧
        SameElse cfg (cfg.roll cfg.path fault d1).2 s'.disk) ∨
     (∃ e, (cfg.roll cfg.path fault d1).1 = .error e ∧ out.res = .errRoll ∧ out.rolled = some false ∧
        s'.writer = none ∧ s'.disk = (cfg.roll cfg.path fault d1).2))

theorem startup_fire (m : Nat) (tst : Bool) (len now : Nat) :
    (onStartupTrigger m).fire tst len now = (if !tst && decide (len ≥ m) then .yes else .no, true) := by
  cases tst
  · by_cases h : len ≥ m <;> simp [onStartupTrigger, h]
  · rfl

/-- the trigger fires: the one-shot is armed and the file is big enough -/
theorem armed_big {t : Bool} {p : Prop} [Decidable p] (ht : t = false) (hp : p) : (!t && decide p) = true := by
  rw [ht, decide_eq_true hp]
  rfl

theorem arrives_append (path : Path) (am : Bool) (m : Nat) (roll : RollFn) (s : St Bool) (rec : Rec) (fault : Nat → Bool)
    (hwf : WF (startupCfg path am m roll) s) :
    let cfg := startupCfg path am m roll
    Arrives cfg s (fileOf cfg s.disk) (encBytes rec) .ok fault (!s.tst && decide ((fileOf cfg s.disk).length ≥ m))
      (append cfg s rec fault).1 (append cfg s rec fault).2 := by
  intro cfg
  obtain ⟨_, ht, _, hop, hno, _, hyes⟩ := append_pre_spec cfg s rec fault hwf rfl
  rw [openView_of_opened cfg s hwf.1,
    show cfg.trig.fire s.tst _ s.now = _ from startup_fire m s.tst (fileOf cfg s.disk).length s.now] at ht hno hyes
  exact ⟨ht, hop, fun hr => hno (by rw [hr]; rfl), fun hr => hyes (by rw [hr]; rfl)⟩

theorem arrives_appendFail (path : Path) (am : Bool) (m : Nat) (roll : RollFn) (s : St Bool) (rec : Rec) (n : Nat)
    (fault : Nat → Bool) (hwf : WF (startupCfg path am m roll) s) :
    let cfg := startupCfg path am m roll
    Arrives cfg s (fileOf cfg s.disk) [] .errEncode fault (!s.tst && decide ((fileOf cfg s.disk).length ≥ m))
      (appendFail cfg s rec n fault).1 (appendFail cfg s rec n fault).2 := by
  intro cfg
  obtain ⟨_, ht, _, hop, hno, _, hyes⟩ := appendFail_pre_spec cfg s rec n fault hwf rfl
  rw [openView_of_opened cfg s hwf.1,
    show cfg.trig.fire s.tst _ s.now = _ from startup_fire m s.tst (fileOf cfg s.disk).length s.now] at ht hno hyes
  refine ⟨ht, hop, fun hr => ?_, fun hr => ?_⟩ <;> simp only [List.append_nil]
  · exact hno (by rw [hr]; rfl)
  · exact hyes (by rw [hr]; rfl)

theorem arrives_applyX (path : Path) (am : Bool) (m : Nat) (roll : RollFn) (s : St Bool) (op : XOp)
    (hwf : WF (startupCfg path am m roll) s) (harr : arrival op = true) :
    let cfg := startupCfg path am m roll
    ∃ out okRes f, (applyX cfg s op).1 = some out ∧
      Arrives cfg s (fileOf cfg s.disk) (okBytes op) okRes (faultFn f)
        (!s.tst && decide ((fileOf cfg s.disk).length ≥ m)) out (applyX cfg s op).2 := by
  rcases op with (⟨r, f⟩ | _ | dt) | ⟨r, n, f⟩
  · exact ⟨_, .ok, f, rfl, arrives_append path am m roll s r (faultFn f) hwf⟩
  · cases harr
  · cases harr
  · exact ⟨_, .errEncode, f, rfl, arrives_appendFail path am m roll s r n (faultFn f) hwf⟩

section
variable {cfg : Cfg Bool} {s s' : St Bool} {a0 tail : Bytes} {okRes : Res} {fault : Nat → Bool} {rolls : Bool} {out : Out}

/-- `rolled`, read by the result of the roller -/
theorem Arrives.byResult (h : Arrives cfg s a0 tail okRes fault rolls out s') (hr : rolls = true) :
    ∃ d1, d1.get? cfg.path = some a0 ∧ SameElse cfg s.disk d1 ∧
      (∀ y, (cfg.roll cfg.path fault d1).1 = .ok y → out.res = okRes ∧ out.rolled = some true ∧
        Opened cfg s' (fileOf cfg (cfg.roll cfg.path fault d1).2 ++ tail) ∧
        SameElse cfg (cfg.roll cfg.path fault d1).2 s'.disk) ∧
      (∀ e, (cfg.roll cfg.path fault d1).1 = .error e → out.res = .errRoll ∧ out.rolled = some false ∧
        s'.writer = none ∧ s'.disk = (cfg.roll cfg.path fault d1).2) := by
  obtain ⟨d1, hg, hse, hd⟩ := h.rolled hr
  refine ⟨d1, hg, hse, fun y hy => ?_, fun e he => ?_⟩
  · rcases hd with ⟨_, _, h'⟩ | ⟨_, he, _⟩
    · exact h'
    · rw [hy] at he; cases he
  · rcases hd with ⟨_, hy, _⟩ | ⟨_, _, h'⟩
    · rw [he] at hy; cases hy
    · exact h'

theorem Arrives.isSome (h : Arrives cfg s a0 tail okRes fault rolls out s') : out.rolled.isSome = rolls := by
  cases hr : rolls with
  | false => rw [(h.quiet hr).2.1]; rfl
  | true =>
    obtain ⟨d1, _, _, hd⟩ := h.rolled hr
    rcases hd with ⟨_, _, _, hro, _⟩ | ⟨_, _, _, hro, _⟩ <;> rw [hro] <;> rfl

theorem Arrives.file_quiet (h : Arrives cfg s a0 tail okRes fault rolls out s') (hn : out.rolled = none) :
    fileOf cfg s'.disk = a0 ++ tail := by
  have hr : rolls = false := by rw [← h.isSome, hn]; rfl
  exact fileOf_opened (h.quiet hr).2.2.1

theorem Arrives.file_rolled (h : Arrives cfg s a0 tail okRes fault rolls out s') (hs : out.rolled = some true)
    (hgone : RollGone cfg.roll cfg.path) : fileOf cfg s'.disk = tail := by
  have hr : rolls = true := by rw [← h.isSome, hs]; rfl
  obtain ⟨d1, _, _, hd⟩ := h.rolled hr
  rcases hd with ⟨y, hy, _, _, ho, _⟩ | ⟨_, _, _, hro, _⟩
  · rw [fileOf_opened ho, fileOf_of_none (hgone fault d1 y _ (by rw [← hy]))]
    rfl
  · rw [hs] at hro
    cases hro

end

/-- A record arrives: it requests a rotation iff the one-shot is still armed and the file is big
enough; without a rotation it is appended to what was there (nothing is, when its encoder fails);
after a successful rotation the file holds exactly this record. -/
theorem arrive_file (path : Path) (am : Bool) (m : Nat) (roll : RollFn) (s : St Bool) (op : XOp)
    (hwf : WF (startupCfg path am m roll) s) (harr : arrival op = true) :
    let cfg := startupCfg path am m roll
    ∃ out, (applyX cfg s op).1 = some out ∧
      out.rolled.isSome = (!s.tst && decide ((fileOf cfg s.disk).length ≥ m)) ∧
      (applyX cfg s op).2.tst = true ∧
      (out.rolled = none → fileOf cfg (applyX cfg s op).2.disk = fileOf cfg s.disk ++ okBytes op) ∧
      (out.rolled = some true → RollGone roll path → fileOf cfg (applyX cfg s op).2.disk = okBytes op) := by
  obtain ⟨out, _, _, ho, h⟩ := arrives_applyX path am m roll s op hwf harr
  exact ⟨out, ho, h.isSome, h.tst, h.file_quiet, h.file_rolled⟩

theorem applyX_tst (path : Path) (am : Bool) (m : Nat) (roll : RollFn) (s : St Bool) (op : XOp)
    (hwf : WF (startupCfg path am m roll) s) :
    (applyX (startupCfg path am m roll) s op).2.tst =
      match op with
      | .op (.append _ _) => true | .appendFail _ _ _ => true | .op .restart => false | .op (.tick _) => s.tst := by
  rcases op with (⟨r, f⟩ | _ | dt) | ⟨r, n, f⟩
  · exact (arrives_append path am m roll s r (faultFn f) hwf).tst
  · exact (build_spec (startupCfg path am m roll) _).2.2
  · rfl
  · exact (arrives_appendFail path am m roll s r n (faultFn f) hwf).tst

theorem finalX_tst (path : Path) (am : Bool) (m : Nat) (roll : RollFn) (ops : List XOp) (s : St Bool)
    (hwf : WF (startupCfg path am m roll) s) (b : Bool) (hb : s.tst = !b) :
    (finalX (startupCfg path am m roll) s ops).tst =
      !(ops.foldl (fun b op => match op with
        | .op (.append _ _) => false | .appendFail _ _ _ => false | .op .restart => true | .op (.tick _) => b) b) := by
  induction ops generalizing s b with
  | nil => exact hb
  | cons op ops ih =>
    refine ih _ (WF_applyX _ s op hwf) _ ?_
    rw [applyX_tst path am m roll s op hwf]
    rcases op with (⟨r, f⟩ | _ | dt) | ⟨r, n, f⟩
    · rfl
    · rfl
    · exact hb
    · rfl

theorem init_tst (path : Path) (am : Bool) (m : Nat) (roll : RollFn) (d : Disk) (now : Nat) :
    (init (startupCfg path am m roll) d false now).tst = false :=
  (init_spec (startupCfg path am m roll) d false now).2.2

theorem init_finalX_tst (path : Path) (am : Bool) (m : Nat) (roll : RollFn) (d : Disk) (now : Nat) (pre : List XOp) :
    (finalX (startupCfg path am m roll) (init (startupCfg path am m roll) d false now) pre).tst = !freshX pre :=
  finalX_tst path am m roll pre _ (WF_init _ d false now) true (init_tst path am m roll d now)

/-- The bookkeeping behind "at most one request per appender": a request uses up the armed one-shot,
only a restart arms it again. -/
theorem credit_step (path : Path) (am : Bool) (m : Nat) (roll : RollFn) (s : St Bool) (op : XOp)
    (hwf : WF (startupCfg path am m roll) s) :
    (if isRollX (applyX (startupCfg path am m roll) s op) then 1 else 0) +
        (if (applyX (startupCfg path am m roll) s op).2.tst then 0 else 1) ≤
      (if s.tst then 0 else 1) + (if xIsRestart op then 1 else 0) := by
  -- a record: afterwards the one-shot is spent, and it requests a rotation only if it was armed
  have harrive : ∀ t b : Bool, (if (!t && b) = true then 1 else 0) + (if true = true then 0 else 1) ≤
      (if t = true then 0 else 1) + (if false = true then 1 else 0) := by decide
  rcases op with (⟨r, f⟩ | _ | dt) | ⟨r, n, f⟩
  · rw [show (applyX (startupCfg path am m roll) s (.op (.append r f))).2.tst = true from applyX_tst path am m roll s _ hwf,
      show isRollX (applyX (startupCfg path am m roll) s (.op (.append r f))) = _ from
        (arrives_append path am m roll s r (faultFn f) hwf).isSome]
    exact harrive _ _
  · rw [show (applyX (startupCfg path am m roll) s (.op .restart)).2.tst = false from applyX_tst path am m roll s _ hwf]
    show (if false = true then 1 else 0) + 1 ≤ _ + 1
    exact Nat.add_le_add_right (Nat.zero_le _) 1
  · show 0 + (if s.tst = true then 0 else 1) ≤ (if s.tst = true then 0 else 1) + 0
    omega
  · rw [show (applyX (startupCfg path am m roll) s (.appendFail r n f)).2.tst = true from applyX_tst path am m roll s _ hwf,
      show isRollX (applyX (startupCfg path am m roll) s (.appendFail r n f)) = _ from
        (arrives_appendFail path am m roll s r n (faultFn f) hwf).isSome]
    exact harrive _ _

theorem init_fileOf (path : Path) (am : Bool) (m : Nat) (roll : RollFn) (d : Disk) (now : Nat) :
    fileOf (startupCfg path am m roll) (init (startupCfg path am m roll) d false now).disk =
      if am then fileOf (startupCfg path am m roll) d else [] :=
  fileOf_opened (init_spec (startupCfg path am m roll) d false now).1

theorem finalX_append (cfg : Cfg Bool) (s : St Bool) (pre : List XOp) (op : XOp) :
    finalX cfg s (pre ++ [op]) = (applyX cfg (finalX cfg s pre) op).2 := by
  simp [finalX, List.foldl_append]

theorem finalX_cons (cfg : Cfg Bool) (s : St Bool) (op : XOp) (ops : List XOp) :
    finalX cfg s (op :: ops) = finalX cfg (applyX cfg s op).2 ops := rfl

theorem traceX_getElem? (cfg : Cfg Bool) (ops : List XOp) (s : St Bool) (k : Nat) :
    (traceX cfg s ops)[k]? = (ops[k]?).map (fun op => applyX cfg (finalX cfg s (ops.take k)) op) := by
  induction ops generalizing s k with
  | nil => simp [traceX]
  | cons op ops ih =>
    cases k with
    | zero => simp [traceX, finalX]
    | succ k =>
      simp only [traceX, List.getElem?_cons_succ, List.take_succ_cons]
      rw [ih, finalX_cons]

theorem traceX_length17 (cfg : Cfg Bool) (ops : List XOp) (s : St Bool) : (traceX cfg s ops).length = ops.length :=
  traceX_length cfg s ops

theorem run_eq_traceX (cfg : Cfg Bool) (ops : List Op) (s : St Bool) :
    run cfg s ops = ((traceX cfg s (ops.map .op)).map (·.1), finalX cfg s (ops.map .op)) := by
  induction ops generalizing s with
  | nil => rfl
  | cons op ops ih =>
    show (_ :: (run cfg _ ops).1, (run cfg _ ops).2) = _
    rw [ih]
    rfl

theorem fresh_eq_freshX (ops : List Op) : fresh ops = freshX (ops.map .op) := by
  unfold fresh freshX
  rw [List.foldl_map]
  congr 1
  funext b op
  cases op <;> rfl

theorem restarts_eq_restartsX (ops : List Op) : restarts ops = restartsX (ops.map .op) := by
  unfold restarts restartsX
  rw [List.filter_map, List.length_map]
  congr 2
  funext op
  cases op <;> rfl

theorem arrivals_after_fired (path : Path) (am : Bool) (m : Nat) (roll : RollFn) (ops : List XOp) (s : St Bool)
    (hwf : WF (startupCfg path am m roll) s) (hst : s.tst = true) (harr : ∀ op ∈ ops, arrival op = true) :
    let cfg := startupCfg path am m roll
    (∀ e ∈ traceX cfg s ops, ∃ out, e.1 = some out ∧ out.rolled = none) ∧
    fileOf cfg (finalX cfg s ops).disk = fileOf cfg s.disk ++ (ops.map okBytes).flatten := by
  intro cfg
  induction ops generalizing s with
  | nil => exact ⟨fun e he => (nomatch he), (List.append_nil _).symm⟩
  | cons op ops ih =>
    obtain ⟨out, ho, hr, h2, h3, _⟩ := arrive_file path am m roll s op hwf (harr op (by simp))
    have hnone : out.rolled = none := by
      rw [hst] at hr
      exact Option.isSome_eq_false_iff.mp hr |> Option.isNone_iff_eq_none.mp
    obtain ⟨ih1, ih2⟩ := ih _ (WF_applyX cfg s op hwf) h2 (fun o ho => harr o (by simp [ho]))
    refine ⟨fun e he => ?_, ?_⟩
    · rcases List.mem_cons.mp he with rfl | he
      · exact ⟨out, ho, hnone⟩
      · exact ih1 e he
    · rw [finalX_cons, ih2, h3 hnone, List.map_cons, List.flatten_cons, List.append_assoc]

/-- A history of arriving records: only the first can request a rotation; it does iff the one-shot is
armed and the file big enough; the file after the whole history, when it did not and when its
rotation succeeded. -/
theorem arrivals_first (path : Path) (am : Bool) (m : Nat) (roll : RollFn) (ops : List XOp) (s : St Bool)
    (hwf : WF (startupCfg path am m roll) s) (harr : ∀ op ∈ ops, arrival op = true) :
    let cfg := startupCfg path am m roll
    (∀ k out, ((traceX cfg s ops).map (·.1))[k]? = some (some out) → out.rolled.isSome → k = 0) ∧
    ∀ out, ((traceX cfg s ops).map (·.1))[0]? = some (some out) →
      out.rolled.isSome = (!s.tst && decide ((fileOf cfg s.disk).length ≥ m)) ∧
      (out.rolled = none → fileOf cfg (finalX cfg s ops).disk = fileOf cfg s.disk ++ (ops.map okBytes).flatten) ∧
      (out.rolled = some true → RollGone roll path → fileOf cfg (finalX cfg s ops).disk = (ops.map okBytes).flatten) := by
  intro cfg
  cases ops with
  | nil => exact ⟨fun k out h => (nomatch h), fun out h => (nomatch h)⟩
  | cons op rest =>
    obtain ⟨out0, ho, hr, htst, hquiet, hrolled⟩ := arrive_file path am m roll s op hwf (harr op (by simp))
    obtain ⟨hnone, hfile⟩ := arrivals_after_fired path am m roll rest _ (WF_applyX cfg s op hwf) htst
      (fun o ho => harr o (by simp [ho]))
    rw [finalX_cons, hfile, List.map_cons, List.flatten_cons]
    refine ⟨fun k out hk hroll => ?_, fun out hk => ?_⟩
    · cases k with
      | zero => rfl
      | succ k =>
        obtain ⟨e, he, he1⟩ := List.getElem?_map .. ▸ hk |> Option.map_eq_some_iff.mp
        obtain ⟨o, ho', hn⟩ := hnone e (List.mem_of_getElem? he)
        obtain rfl : o = out := Option.some.inj (ho'.symm.trans he1)
        rw [hn] at hroll
        cases hroll
    · obtain rfl : out0 = out := Option.some.inj (ho.symm.trans (Option.some.inj hk))
      exact ⟨hr, fun hn => by rw [hquiet hn, List.append_assoc], fun hs hg => by rw [hrolled hs hg]⟩

end Log4rs.Rolling
