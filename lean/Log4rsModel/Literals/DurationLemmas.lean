import Log4rsModel.Literals.DurationSpec
import Log4rsModel.Literals.Lemmas
/-
Lemmas about the model of `humantime::parse_duration` (Literals/Duration.lean): the state machine on
texts that are sequences of `<digits><white space><unit word><white space>` spans, and on texts
with a character of no token.
-/
namespace Log4rs.Literals.Dur
open Log4rs.Str Log4rs Log4rs.Literals

def obind {α β} (r : R α) (f : α → R β) : R β :=
  match r with
  | .ok a => f a
  | .err e => .err e
  | .panic w => .panic w

/-- nanoseconds of a duration -/
def Dur.total (d : Dur) : Nat := d.secs * NPS + d.nanos

theorem run_cons (c : Char) (cs : List Char) (st : St) (out : Dur) :
    run (c :: cs) st out = obind (step st out c) (fun p => run cs p.1 p.2) := by
  simp only [run, obind]
  cases step st out c <;> rfl

def accDigits (n : Nat) (ds : List Char) : Nat := ds.foldl (fun a c => a * 10 + digitVal c) n

theorem accDigits_cons (n : Nat) (c : Char) (cs : List Char) :
    accDigits n (c :: cs) = accDigits (n * 10 + digitVal c) cs := by
  simp only [accDigits, List.foldl_cons]

theorem accDigits_ge (n : Nat) (ds : List Char) : n ≤ accDigits n ds := by
  induction ds generalizing n with
  | nil => exact Nat.le_refl _
  | cons c cs ih =>
    have h1 : n ≤ n * 10 + digitVal c := by omega
    rw [accDigits_cons]
    exact Nat.le_trans h1 (ih (n * 10 + digitVal c))

theorem ckMul_add (n d : Nat) :
    (ckMul n 10).bind (fun x => ckAdd x d) = if n * 10 + d ≤ U64_MAX then some (n * 10 + d) else none := by
  unfold ckMul ckAdd
  by_cases h10 : n * 10 ≤ U64_MAX
  · rw [if_pos h10]; rfl
  · rw [if_neg h10, if_neg (by omega)]; rfl

/-- one more digit of a number: `checked_mul(10)` then `checked_add` -/
theorem step_num_digit (n : Nat) (out : Dur) (c : Char) (hc : isAsciiDigit c = true) :
    step (.num n) out c =
      if n * 10 + digitVal c ≤ U64_MAX then .ok (.num (n * 10 + digitVal c), out) else .err .overflow := by
  simp only [step, hc, if_true, ckMul_add]
  by_cases h : n * 10 + digitVal c ≤ U64_MAX
  · rw [if_pos h, if_pos h]
  · rw [if_neg h, if_neg h]

/-- the number loop on digits: checked accumulation; an intermediate overflow is a final overflow -/
theorem run_digits (ds r : List Char) (n : Nat) (out : Dur) (hn : n ≤ U64_MAX)
    (hds : ∀ c ∈ ds, isAsciiDigit c = true) :
    run (ds ++ r) (.num n) out =
      if accDigits n ds ≤ U64_MAX then run r (.num (accDigits n ds)) out else .err .overflow := by
  induction ds generalizing n with
  | nil => exact (if_pos hn).symm
  | cons c cs ih =>
    rw [List.cons_append, run_cons, accDigits_cons, step_num_digit n out c (hds c (by simp))]
    by_cases hfit : n * 10 + digitVal c ≤ U64_MAX
    · rw [if_pos hfit]
      exact ih _ hfit (fun x hx => hds x (by simp [hx]))
    · rw [if_neg hfit, if_neg (fun h => hfit (Nat.le_trans (accDigits_ge _ cs) h))]
      rfl

/-- the number of a span, from `parse_first_char` on: its value when that fits `u64` -/
theorem run_number (ds r : List Char) (b : Bool) (out : Dur) (hds : Digits ds) :
    run (ds ++ r) (.first b) out =
      if digitsVal ds ≤ U64_MAX then run r (.num (digitsVal ds)) out else .err .overflow := by
  obtain ⟨hne, hd⟩ := hds
  cases ds with
  | nil => exact absurd rfl hne
  | cons a t =>
    have ha := hd a (by simp)
    rw [List.cons_append, run_cons]
    simp only [step, ha, if_true, obind]
    rw [run_digits t r (digitVal a) out (Nat.le_trans (digitVal_le a ha) (by decide))
      (fun c hc => hd c (by simp [hc]))]
    have : accDigits (digitVal a) t = digitsVal (a :: t) := by
      simp only [digitsVal, accDigits, List.foldl_cons, Nat.zero_mul, Nat.zero_add]
    rw [this]

theorem run_ws (ws r : List Char) (st : St) (out : Dur) (hws : AllWs ws)
    (hst : (∃ b, st = .first b) ∨ ∃ n, st = .num n) : run (ws ++ r) st out = run r st out := by
  induction ws with
  | nil => rfl
  | cons c cs ih =>
    have hc := hws c (by simp)
    have hstep : step st out c = .ok (st, out) := by
      rcases hst with ⟨b, rfl⟩ | ⟨n, rfl⟩ <;>
        simp only [step, ws_not_digit c hc, hc, Bool.false_eq_true, if_false, if_true]
    rw [List.cons_append, run_cons, hstep]
    exact ih (fun x hx => hws x (by simp [hx]))

/-- a unit word: letters (or µ) only -/
def WordChars (w : List Char) : Prop :=
  ∀ c ∈ w, isUnitChar c = true ∧ isAsciiDigit c = false ∧ isWhitespace c = false

theorem unitChar_props (c : Char) (h : isUnitChar c = true) :
    isAsciiDigit c = false ∧ isWhitespace c = false := by
  simp only [isUnitChar, Bool.or_eq_true, Bool.and_eq_true, decide_eq_true_eq] at h
  constructor
  · refine Bool.eq_false_iff.mpr fun hd => ?_
    have := (isAsciiDigit_iff c).mp hd
    omega
  · exact isWhitespace_low c (by omega) (by omega) (by omega) (by omega)

theorem run_word_unit (w r : List Char) (n : Nat) (fr : Option (Nat × Nat)) (acc : List Char) (out : Dur)
    (hw : ∀ c ∈ w, isUnitChar c = true) :
    run (w ++ r) (.unit n fr acc) out = run r (.unit n fr (acc ++ w)) out := by
  induction w generalizing acc with
  | nil => simp
  | cons c cs ih =>
    have hc := hw c (by simp)
    obtain ⟨hd, hs⟩ := unitChar_props c hc
    rw [List.cons_append, run_cons]
    simp only [step, hd, hs, hc, Bool.false_eq_true, if_false, if_true, obind]
    rw [ih _ (fun x hx => hw x (by simp [hx]))]
    simp

theorem run_word_num (c : Char) (w r : List Char) (n : Nat) (out : Dur)
    (hw : ∀ x ∈ c :: w, isUnitChar x = true) :
    run (c :: w ++ r) (.num n) out = run r (.unit n none (c :: w)) out := by
  have hc := hw c (by simp)
  obtain ⟨hd, hs⟩ := unitChar_props c hc
  rw [List.cons_append, run_cons]
  simp only [step, hd, hs, hc, Bool.false_eq_true, if_false, if_true, obind]
  rw [run_word_unit w r n none [c] out (fun x hx => hw x (by simp [hx]))]
  simp

/-- `parse_first_char` on a digit or a blank -/
theorem step_first (b : Bool) (out : Dur) (c : Char) (hc : isAsciiDigit c = true ∨ isWhitespace c = true) :
    step (.first b) out c = .ok (if isAsciiDigit c then .num (digitVal c) else .first b, out) := by
  by_cases hd : isAsciiDigit c = true
  · simp only [step, hd, if_true]
  · simp only [step, hd, hc.resolve_left hd, Bool.false_eq_true, if_false, if_true]

/-- a digit or a blank after the unit word: the span is added, and the character is read as by
`parse_first_char` -/
theorem step_unit_end (n : Nat) (fr : Option (Nat × Nat)) (w : List Char) (out : Dur) (c : Char)
    (hc : isAsciiDigit c = true ∨ isWhitespace c = true) :
    step (.unit n fr w) out c =
      obind (parseUnit n fr w out) (fun o => .ok (if isAsciiDigit c then .num (digitVal c) else .first true, o)) := by
  by_cases hd : isAsciiDigit c = true
  · simp only [step, hd, if_true]
    cases parseUnit n fr w out <;> rfl
  · simp only [step, hd, hc.resolve_left hd, Bool.false_eq_true, if_false, if_true]
    cases parseUnit n fr w out <;> rfl

/-- the end of a span: when the text is over, or goes on with white space or a digit, the span is
added (`parse_unit`) and parsing resumes as after `parse_first_char` -/
theorem run_unit_end (r : List Char) (n : Nat) (fr : Option (Nat × Nat)) (w : List Char) (out : Dur)
    (hr : r = [] ∨ ∃ c t, r = c :: t ∧ (isAsciiDigit c = true ∨ isWhitespace c = true)) :
    run r (.unit n fr w) out = obind (parseUnit n fr w out) (fun out' => run r (.first true) out') := by
  rcases hr with rfl | ⟨c, t, rfl, hc⟩
  · simp only [run, finish, obind]
    cases parseUnit n fr w out <;> rfl
  · rw [run_cons, step_unit_end n fr w out c hc]
    cases parseUnit n fr w out with
    | ok o => simp only [obind]; rw [run_cons, step_first true o c hc]; rfl
    | err e => rfl
    | panic p => rfl

/-- a number at the end of the text has the empty word for its unit: "time unit needed" -/
theorem finish_num (n : Nat) (out : Dur) : finish (.num n) out = .err .unknownUnit := rfl

/-- one span as the generator writes it: digits, white space, a word of letters, white space -/
structure SpanLit where
  ds : List Char
  ws : List Char
  word : List Char
  sep : List Char

def SpanLit.text (p : SpanLit) : List Char := p.ds ++ (p.ws ++ (p.word ++ p.sep))

def SpanLit.wf (p : SpanLit) : Prop :=
  Digits p.ds ∧ AllWs p.ws ∧ AllWs p.sep ∧ p.word ≠ [] ∧ ∀ c ∈ p.word, isUnitChar c = true

def texts : List SpanLit → List Char
  | [] => []
  | p :: l => p.text ++ texts l

/-- what one span does to the running duration: the number must fit `u64`, then `parse_unit` -/
def spanStep (p : SpanLit) (out : Dur) : R Dur :=
  if digitsVal p.ds ≤ U64_MAX then parseUnit (digitsVal p.ds) none p.word out else .err .overflow

def foldSpans : List SpanLit → Dur → R Dur
  | [], out => .ok out
  | p :: l, out => obind (spanStep p out) (foldSpans l)

theorem texts_head (l : List SpanLit) (hl : ∀ p ∈ l, p.wf) :
    texts l = [] ∨ ∃ c t, texts l = c :: t ∧ (isAsciiDigit c = true ∨ isWhitespace c = true) := by
  cases l with
  | nil => exact .inl rfl
  | cons p l' =>
    obtain ⟨⟨hne, hd⟩, _⟩ := hl p List.mem_cons_self
    have := head_of_all (P := fun c => isAsciiDigit c = true ∨ isWhitespace c = true) p.ds
      ((p.ws ++ (p.word ++ p.sep)) ++ texts l') hne fun c hc => Or.inl (hd c hc)
    rw [← List.append_assoc] at this
    exact .inr this

/-- so the special case `"0"` of `parse_duration` does not apply to span texts -/
theorem texts_ne_zero (l : List SpanLit) (hl : ∀ p ∈ l, p.wf) (hne : l ≠ []) : texts l ≠ ['0'] := by
  cases l with
  | nil => exact absurd rfl hne
  | cons p l' =>
    obtain ⟨⟨hd, _⟩, _, _, hw, _⟩ := hl p (by simp)
    intro h
    have hlen := congrArg List.length h
    simp only [texts, SpanLit.text, List.length_append, List.length_cons, List.length_nil] at hlen
    have h1 := List.length_pos_iff.mpr hd
    have h2 := List.length_pos_iff.mpr hw
    omega

/-- The parser on a sequence of well-formed spans is the fold of `spanStep`. -/
theorem run_spans (l : List SpanLit) (hl : ∀ p ∈ l, p.wf) (b : Bool) (out : Dur) (hne : l ≠ [] ∨ b = true) :
    run (texts l) (.first b) out = foldSpans l out := by
  induction l generalizing b out with
  | nil =>
    rcases hne with h | h
    · exact absurd rfl h
    · subst h; rfl
  | cons p l' ih =>
    obtain ⟨hds, hws, hsep, hwne, hw⟩ := hl p (by simp)
    have hl' : ∀ q ∈ l', q.wf := fun q hq => hl q (by simp [hq])
    cases hwd : p.word with
    | nil => exact absurd hwd hwne
    | cons wc wt =>
      have htext : texts (p :: l') = p.ds ++ (p.ws ++ ((wc :: wt) ++ (p.sep ++ texts l'))) := by
        simp [texts, SpanLit.text, hwd]
      rw [htext, run_number _ _ _ _ hds]
      simp only [foldSpans, spanStep]
      by_cases hfit : digitsVal p.ds ≤ U64_MAX
      · rw [if_pos hfit, if_pos hfit, run_ws _ _ _ _ hws (.inr ⟨_, rfl⟩),
          run_word_num wc wt (p.sep ++ texts l') (digitsVal p.ds) out (by rw [← hwd]; exact hw)]
        have hend : p.sep ++ texts l' = [] ∨
            ∃ c t, p.sep ++ texts l' = c :: t ∧ (isAsciiDigit c = true ∨ isWhitespace c = true) := by
          cases hs : p.sep with
          | nil => exact texts_head l' hl'
          | cons s1 st => exact Or.inr ⟨s1, st ++ texts l', rfl, Or.inr (hsep s1 (by simp [hs]))⟩
        rw [run_unit_end _ _ _ _ _ hend, hwd]
        congr 1
        funext out'
        rw [run_ws _ _ _ _ hsep (.inl ⟨_, rfl⟩)]
        exact ih hl' true out' (Or.inr rfl)
      · rw [if_neg hfit, if_neg hfit]; rfl

/-- a character that belongs to no token of the grammar -/
def BadChar (c : Char) : Prop :=
  isAsciiDigit c = false ∧ isWhitespace c = false ∧ isUnitChar c = false ∧ c ≠ '.'

theorem step_bad (st : St) (out : Dur) (c : Char) (hc : BadChar c) : ∃ e, step st out c = .err e := by
  obtain ⟨hd, hw, hu, hdot⟩ := hc
  have h0 : c ≠ '0' := by intro h; subst h; simp [isAsciiDigit] at hd
  cases st with
  | first b => exact ⟨.numberExpected, by simp [step, hd, hw]⟩
  | num n => exact ⟨.invalidChar, by simp [step, hd, hw, hu, hdot]⟩
  | frac n a b z => exact ⟨.invalidChar, by simp [step, hd, hw, hu, h0]⟩
  | unit n fr w => exact ⟨.invalidChar, by simp [step, hd, hw, hu]⟩

theorem run_bad (s : List Char) (st : St) (out : Dur) (h : ∃ c ∈ s, BadChar c) (d : Dur) :
    run s st out ≠ .ok d := by
  induction s generalizing st out with
  | nil => simp at h
  | cons c cs ih =>
    rw [run_cons]
    by_cases hc : BadChar c
    · obtain ⟨e, he⟩ := step_bad st out c hc
      rw [he]; simp [obind]
    · have h' : ∃ x ∈ cs, BadChar x := by
        obtain ⟨x, hx, hb⟩ := h
        rcases List.mem_cons.mp hx with rfl | hx
        · exact absurd hb hc
        · exact ⟨x, hx, hb⟩
      cases hs : step st out c with
      | ok p => simp only [obind]; exact ih p.1 p.2 h'
      | err e => simp [obind]
      | panic w => simp [obind]

end Log4rs.Literals.Dur
