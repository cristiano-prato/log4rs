import Log4rsModel.Literals.DurationLemmas
/-
Arithmetic of one span and of a list of spans (`parse_unit`, `add_current`, `Duration::new`).
-/
namespace Log4rs.Literals.Dur
open Log4rs.Str Log4rs Log4rs.Literals

theorem ckAdd_some (a b c : Nat) : ckAdd a b = some c ↔ a + b ≤ U64_MAX ∧ c = a + b :=
  fit_eq_some U64_MAX (a + b) c

theorem ckMul_some (a b c : Nat) : ckMul a b = some c ↔ a * b ≤ U64_MAX ∧ c = a * b :=
  fit_eq_some U64_MAX (a * b) c

theorem NPS_pos : 0 < NPS := by decide

/-- `add_current` in closed form. With `ns` the nanoseconds of the sum and `S` its whole seconds:
an error when either does not fit `u64`, except that `ns = 10^9` exactly is handed to `Duration::new`
un-normalised (`>` for `≥` in the source), which panics when the seconds are already `u64::MAX`. -/
theorem addCurrent_eq (sec nsec : Nat) (out : Dur) :
    addCurrent sec nsec out =
      if U64_MAX < out.nanos + nsec then .err .overflow
      else if out.secs + sec + (out.nanos + nsec) / NPS ≤ U64_MAX then
        .ok ⟨out.secs + sec + (out.nanos + nsec) / NPS, (out.nanos + nsec) % NPS⟩
      else if out.nanos + nsec = NPS ∧ out.secs + sec = U64_MAX then .panic "overflow in Duration::new"
      else .err .overflow := by
  unfold addCurrent
  simp only [ckAdd]
  generalize out.nanos + nsec = ns
  by_cases h1 : ns ≤ U64_MAX
  · rw [if_pos h1, if_neg (Nat.not_lt.mpr h1)]
    simp only []
    by_cases h2 : ns > NPS
    · -- more than a second of nanoseconds: carried here, `Duration::new` gets a normalised value
      have hml : ns % NPS < NPS := Nat.mod_lt _ NPS_pos
      have hne : ¬ ns = NPS := Nat.ne_of_gt h2
      rw [if_pos h2]
      by_cases h3 : sec + ns / NPS ≤ U64_MAX
      · rw [if_pos h3]
        simp only [Option.map_some, ← Nat.add_assoc]
        by_cases h4 : out.secs + sec + ns / NPS ≤ U64_MAX
        · rw [if_pos h4, if_pos h4]
          simp only [durationNew, hml, if_true]
        · rw [if_neg h4, if_neg h4, if_neg (fun h => hne h.1)]
      · have h4 : ¬ out.secs + sec + ns / NPS ≤ U64_MAX := by omega
        rw [if_neg h3, if_neg h4, if_neg (fun h => hne h.1)]
        rfl
    · rw [if_neg h2]
      simp only []
      by_cases h5 : ns < NPS
      · -- less than a second: nothing to carry
        have hne : ¬ ns = NPS := Nat.ne_of_lt h5
        rw [Nat.div_eq_of_lt h5, Nat.mod_eq_of_lt h5, Nat.add_zero]
        by_cases h4 : out.secs + sec ≤ U64_MAX
        · rw [if_pos h4, if_pos h4]
          simp only [durationNew, h5, if_true]
        · rw [if_neg h4, if_neg h4, if_neg (fun h => hne h.1)]
      · -- exactly a second: not carried here, `Duration::new` carries it or panics
        have h6 : ns = NPS := by omega
        subst h6
        rw [Nat.div_self NPS_pos, Nat.mod_self]
        by_cases h4 : out.secs + sec ≤ U64_MAX
        · rw [if_pos h4]
          simp only [durationNew, Nat.lt_irrefl, if_false, Nat.div_self NPS_pos, Nat.mod_self, true_and]
          by_cases h7 : out.secs + sec + 1 ≤ U64_MAX
          · rw [if_pos h7, if_pos h7]
          · rw [if_neg h7, if_neg h7, if_pos (by omega)]
        · have h7 : ¬ out.secs + sec + 1 ≤ U64_MAX := by omega
          rw [if_neg h4, if_neg h7, if_neg (fun h => h4 (Nat.le_of_eq h.2))]
  · rw [if_neg h1, if_pos (Nat.lt_of_not_le h1)]

theorem addCurrent_cases (sec nsec : Nat) (out : Dur) :
    (∃ d, addCurrent sec nsec out = .ok d ∧ d.total = out.total + sec * NPS + nsec ∧ d.nanos < NPS ∧
        d.secs ≤ U64_MAX) ∨
    (addCurrent sec nsec out = .err .overflow ∧
        (U64_MAX < out.nanos + nsec ∨ (U64_MAX + 1) * NPS ≤ out.total + sec * NPS + nsec)) ∨
    (addCurrent sec nsec out = .panic "overflow in Duration::new" ∧
        out.total + sec * NPS + nsec = (U64_MAX + 1) * NPS) := by
  rw [addCurrent_eq]
  by_cases h1 : U64_MAX < out.nanos + nsec
  · rw [if_pos h1]; exact Or.inr (Or.inl ⟨rfl, Or.inl h1⟩)
  rw [if_neg h1]
  -- with the two constants written out the rest is linear arithmetic with `/` and `%`
  by_cases h2 : out.secs + sec + (out.nanos + nsec) / NPS ≤ U64_MAX
  · rw [if_pos h2]
    refine Or.inl ⟨_, rfl, ?_, Nat.mod_lt _ NPS_pos, h2⟩
    simp only [Dur.total, NPS]; omega
  rw [if_neg h2]
  by_cases h3 : out.nanos + nsec = NPS ∧ out.secs + sec = U64_MAX
  · rw [if_pos h3]
    refine Or.inr (Or.inr ⟨rfl, ?_⟩)
    simp only [Dur.total, NPS, U64_MAX] at h3 ⊢; omega
  · rw [if_neg h3]
    refine Or.inr (Or.inl ⟨rfl, Or.inr ?_⟩)
    simp only [Dur.total, NPS, U64_MAX] at h1 h2 h3 ⊢; omega

theorem DUnit.mult_pos (u : DUnit) : 1 ≤ u.mult := by cases u <;> decide

theorem DUnit.nanos_eq (u : DUnit) : u.nanos = if u.subSecond then u.mult else u.mult * NPS := by
  cases u <;> decide

/-- the integer part of a span, in the unit's own resolution -/
theorem unitParts_eq (u : DUnit) (n : Nat) (hn : n ≤ U64_MAX) :
    unitParts u n =
      if n * u.mult ≤ U64_MAX then some (if u.subSecond then (0, n * u.mult) else (n * u.mult, 0))
      else none := by
  cases u <;>
    simp [unitParts, ckMul, DUnit.mult, DUnit.subSecond, DUnit.nanos, NPS, hn] <;>
    split <;> simp_all

/-- value in nanoseconds of a span, then of a list of spans (a word that is no unit counts 0; such a
list is rejected) -/
def spanValue (p : SpanLit) : Nat :=
  match unitOfWord p.word with
  | some u => digitsVal p.ds * u.nanos
  | none => 0

def valueOf : List SpanLit → Nat
  | [] => 0
  | p :: l => spanValue p + valueOf l

theorem valueOf_append (a b : List SpanLit) : valueOf (a ++ b) = valueOf a + valueOf b := by
  induction a with
  | nil => simp [valueOf]
  | cons p l ih => simp [valueOf, ih, Nat.add_assoc]

/-- without a fraction `parse_unit` is the range check of the multiplication and `add_current` -/
theorem parseUnit_none (n : Nat) (w : List Char) (out : Dur) (u : DUnit) (hu : unitOfWord w = some u)
    (hn : n ≤ U64_MAX) :
    parseUnit n none w out =
      if n * u.mult ≤ U64_MAX then
        addCurrent (if u.subSecond then 0 else n * u.mult) (if u.subSecond then n * u.mult else 0) out
      else .err .overflow := by
  unfold parseUnit
  rw [hu]
  simp only []
  rw [unitParts_eq u n hn]
  by_cases hm : n * u.mult ≤ U64_MAX
  · rw [if_pos hm, if_pos hm]
    by_cases hs : u.subSecond = true
    · simp only [hs, if_true]
      cases addCurrent 0 (n * u.mult) out <;> rfl
    · simp only [hs, if_false, Bool.false_eq_true]
      cases addCurrent (n * u.mult) 0 out <;> rfl
  · rw [if_neg hm, if_neg hm]

/-- seconds and nanoseconds handed to `add_current` for `n` units `u` -/
theorem spanParts_total (u : DUnit) (n : Nat) :
    (if u.subSecond then 0 else n * u.mult) * NPS + (if u.subSecond then n * u.mult else 0) = n * u.nanos := by
  rw [DUnit.nanos_eq]
  by_cases hs : u.subSecond = true
  · rw [if_pos hs, if_pos hs, if_pos hs, Nat.zero_mul, Nat.zero_add]
  · rw [if_neg hs, if_neg hs, if_neg hs, Nat.add_zero, Nat.mul_assoc]

/-- what makes a span fit: number x multiplier fits `u64` in the unit's own resolution, and a
sub-second span stays 10^9 below 2^64 nanoseconds (that the whole sum is below 2^64 seconds is asked
separately) -/
def Fits (p : SpanLit) : Prop :=
  ∃ u, unitOfWord p.word = some u ∧ digitsVal p.ds * u.mult ≤ U64_MAX ∧
    (u.subSecond = true → digitsVal p.ds * u.mult + NPS ≤ U64_MAX + 1)

/-- one span: accepted exactly; or an error, and then the span does not fit or the sum reaches 2^64 s;
or the `Duration::new` panic at exactly 2^64 s -/
theorem spanStep_cases (p : SpanLit) (out : Dur) (hout : out.nanos < NPS) :
    (∃ d, spanStep p out = .ok d ∧ d.total = out.total + spanValue p ∧ d.nanos < NPS ∧ d.secs ≤ U64_MAX ∧
        (unitOfWord p.word).isSome) ∨
    (∃ e, spanStep p out = .err e ∧ (¬ Fits p ∨ (U64_MAX + 1) * NPS ≤ out.total + spanValue p)) ∨
    (spanStep p out = .panic "overflow in Duration::new" ∧ out.total + spanValue p = (U64_MAX + 1) * NPS) := by
  unfold spanStep
  cases hu : unitOfWord p.word with
  | none =>
    have hnf : ¬ Fits p := fun ⟨u, hu', _⟩ => by rw [hu] at hu'; nomatch hu'
    refine Or.inr (Or.inl ?_)
    split
    · exact ⟨.unknownUnit, by unfold parseUnit; rw [hu], Or.inl hnf⟩
    · exact ⟨_, rfl, Or.inl hnf⟩
  | some u =>
    have hinv : Fits p → digitsVal p.ds * u.mult ≤ U64_MAX ∧
        (u.subSecond = true → digitsVal p.ds * u.mult + NPS ≤ U64_MAX + 1) :=
      fun ⟨u', hu', h⟩ => by rw [hu] at hu'; cases hu'; exact h
    have hval : spanValue p = digitsVal p.ds * u.nanos := by unfold spanValue; rw [hu]
    rw [hval]
    by_cases hm : digitsVal p.ds * u.mult ≤ U64_MAX
    · have hfit : digitsVal p.ds ≤ U64_MAX := Nat.le_trans (Nat.le_mul_of_pos_right _ u.mult_pos) hm
      rw [if_pos hfit, parseUnit_none _ _ out u hu hfit, if_pos hm]
      have hc := addCurrent_cases (if u.subSecond then 0 else digitsVal p.ds * u.mult)
        (if u.subSecond then digitsVal p.ds * u.mult else 0) out
      simp only [Nat.add_assoc out.total, spanParts_total u] at hc
      rcases hc with ⟨d, hd, ht, hn, hs⟩ | ⟨he, hwhy⟩ | ⟨hp, ht⟩
      · exact Or.inl ⟨d, hd, ht, hn, hs, rfl⟩
      · refine Or.inr (Or.inl ⟨_, he, hwhy.imp_left fun h hf => ?_⟩)
        -- the nanoseconds overflow only with a sub-second unit within 10^9 of 2^64
        have : NPS ≤ U64_MAX := by decide
        cases hs : u.subSecond
        · rw [hs] at h
          simp only [Bool.false_eq_true, if_false] at h
          omega
        · rw [hs] at h
          have := (hinv hf).2 hs
          simp only [if_true] at h
          omega
      · exact Or.inr (Or.inr ⟨hp, ht⟩)
    · refine Or.inr (Or.inl ⟨.overflow, ?_, Or.inl fun hf => hm (hinv hf).1⟩)
      split
      · rename_i hfit; rw [parseUnit_none _ _ out u hu hfit, if_neg hm]
      · rfl

/-- A list of spans: accepted with the exact sum, normalised, every word a unit; or an error, and
then a span does not fit or the sum reaches 2^64 s; or a panic, and then the spans read so far add
up to exactly 2^64 s. -/
theorem foldSpans_cases (l : List SpanLit) (out : Dur) (hout : out.nanos < NPS) (hsec : out.secs ≤ U64_MAX) :
    (∃ d, foldSpans l out = .ok d ∧ d.total = out.total + valueOf l ∧ d.nanos < NPS ∧ d.secs ≤ U64_MAX ∧
        ∀ p ∈ l, (unitOfWord p.word).isSome = true) ∨
    (∃ e, foldSpans l out = .err e ∧
        ((∃ p ∈ l, ¬ Fits p) ∨ (U64_MAX + 1) * NPS ≤ out.total + valueOf l)) ∨
    (∃ w l1 p l2, foldSpans l out = .panic w ∧ l = l1 ++ p :: l2 ∧
        out.total + valueOf (l1 ++ [p]) = (U64_MAX + 1) * NPS) := by
  induction l generalizing out with
  | nil => exact Or.inl ⟨out, rfl, (Nat.add_zero _).symm, hout, hsec, nofun⟩
  | cons p l ih =>
    show (∃ d, obind (spanStep p out) (foldSpans l) = _ ∧ _ = out.total + (spanValue p + valueOf l) ∧ _) ∨
      (∃ e, obind (spanStep p out) (foldSpans l) = _ ∧ (_ ∨ _ ≤ out.total + (spanValue p + valueOf l))) ∨
      (∃ w l1 q l2, obind (spanStep p out) (foldSpans l) = _ ∧ _)
    rw [← Nat.add_assoc]
    rcases spanStep_cases p out hout with ⟨d', hd', ht, hn, hs, hu⟩ | ⟨e, he, hwhy⟩ | ⟨hp, ht⟩
    · rw [hd', ← ht]
      rcases ih d' hn hs with ⟨d, hd, htd, hnd, hsd, hud⟩ | ⟨e, he, hwhy⟩ | ⟨w, l1, q, l2, hw, hl, hv⟩
      · exact Or.inl ⟨d, hd, htd, hnd, hsd, List.forall_mem_cons.mpr ⟨hu, hud⟩⟩
      · exact Or.inr (Or.inl ⟨e, he, hwhy.imp_left fun ⟨q, hq, hf⟩ => ⟨q, List.mem_cons_of_mem _ hq, hf⟩⟩)
      · refine Or.inr (Or.inr ⟨w, p :: l1, q, l2, hw, by rw [hl]; rfl, ?_⟩)
        show out.total + (spanValue p + valueOf (l1 ++ [q])) = _
        rw [← Nat.add_assoc, ← ht, hv]
    · rw [he]
      exact Or.inr (Or.inl ⟨e, rfl, hwhy.imp (fun hf => ⟨p, List.mem_cons_self, hf⟩)
        (fun h => Nat.le_trans h (Nat.le_add_right _ _))⟩)
    · rw [hp]
      refine Or.inr (Or.inr ⟨_, [], p, l, rfl, rfl, ?_⟩)
      show out.total + (spanValue p + 0) = _
      rw [Nat.add_zero, ht]

/-- from the start of a text: sums are those of the list alone -/
theorem foldSpans_start (l : List SpanLit) :
    (∃ d, foldSpans l ⟨0, 0⟩ = .ok d ∧ d.secs * NPS + d.nanos = valueOf l ∧ d.nanos < NPS ∧ d.secs < 2 ^ 64 ∧
        ∀ p ∈ l, (unitOfWord p.word).isSome = true) ∨
    (∃ e, foldSpans l ⟨0, 0⟩ = .err e ∧ ((∃ p ∈ l, ¬ Fits p) ∨ 2 ^ 64 * NPS ≤ valueOf l)) ∨
    (∃ w l1 p l2, foldSpans l ⟨0, 0⟩ = .panic w ∧ l = l1 ++ p :: l2 ∧ valueOf (l1 ++ [p]) = 2 ^ 64 * NPS) := by
  have h64 : U64_MAX + 1 = 2 ^ 64 := by decide
  simpa only [Dur.total, Nat.zero_mul, Nat.zero_add, h64, le_U64_MAX] using
    foldSpans_cases l ⟨0, 0⟩ (by decide) (by decide)

end Log4rs.Literals.Dur
