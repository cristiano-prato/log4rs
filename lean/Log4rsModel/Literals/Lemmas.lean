import Log4rsModel.Literals.Spec
/-
Lemmas for C20 (size and interval literals): character classes, Rust string functions on
`List Char`, the byte slicing of the visitors, the two string visitors in closed form, the unit
tables against the statement's `unitExp` / `unitOf`, the executable reader `readLit` on the texts that
the relations `SizeLit` / `IntervalLit` describe.
-/
namespace Log4rs.Literals
open Log4rs.Str Log4rs

def isAsciiAlpha (c : Char) : Bool :=
  (65 ≤ c.toNat && c.toNat ≤ 90) || (97 ≤ c.toNat && c.toNat ≤ 122)

def isLowerAlpha (c : Char) : Bool := 97 ≤ c.toNat && c.toNat ≤ 122

theorem isAsciiDigit_iff (c : Char) : isAsciiDigit c = true ↔ 48 ≤ c.toNat ∧ c.toNat ≤ 57 := by
  simp only [isAsciiDigit, Bool.and_eq_true, decide_eq_true_eq]
  exact Iff.rfl

theorem isAsciiAlpha_iff (c : Char) :
    isAsciiAlpha c = true ↔ (65 ≤ c.toNat ∧ c.toNat ≤ 90) ∨ (97 ≤ c.toNat ∧ c.toNat ≤ 122) := by
  simp only [isAsciiAlpha, Bool.or_eq_true, Bool.and_eq_true, decide_eq_true_eq]

theorem digitVal_le (c : Char) (h : isAsciiDigit c = true) : digitVal c ≤ 9 := by
  have := (isAsciiDigit_iff c).mp h
  show c.toNat - 48 ≤ 9
  omega

/-- from `!` to U+167F the only white space is NEL and NBSP -/
theorem isWhitespace_low (c : Char) (h1 : 33 ≤ c.toNat) (h2 : c.toNat < 0x1680) (h3 : c.toNat ≠ 0x85)
    (h4 : c.toNat ≠ 0xA0) : isWhitespace c = false := by
  simp only [isWhitespace, Bool.or_eq_false_iff, Bool.and_eq_false_iff, decide_eq_false_iff_not]
  omega

theorem range_9_13 (n : Nat) : (9 ≤ n ∧ n ≤ 13) ↔ n = 9 ∨ n = 10 ∨ n = 11 ∨ n = 12 ∨ n = 13 := by omega

theorem range_2000_200A (n : Nat) : (0x2000 ≤ n ∧ n ≤ 0x200A) ↔
    n = 0x2000 ∨ n = 0x2001 ∨ n = 0x2002 ∨ n = 0x2003 ∨ n = 0x2004 ∨ n = 0x2005 ∨ n = 0x2006 ∨
      n = 0x2007 ∨ n = 0x2008 ∨ n = 0x2009 ∨ n = 0x200A := by omega

theorem digit_not_ws (c : Char) (h : isAsciiDigit c = true) : isWhitespace c = false := by
  have := (isAsciiDigit_iff c).mp h
  exact isWhitespace_low c (by omega) (by omega) (by omega) (by omega)

theorem ws_not_digit (c : Char) (h : isWhitespace c = true) : isAsciiDigit c = false :=
  Bool.eq_false_iff.mpr fun hd => by
    rw [digit_not_ws c hd] at h
    nomatch h

theorem alpha_not_digit (c : Char) (h : isAsciiAlpha c = true) : isAsciiDigit c = false := by
  have := (isAsciiAlpha_iff c).mp h
  refine Bool.eq_false_iff.mpr fun hd => ?_
  have := (isAsciiDigit_iff c).mp hd
  omega

theorem alpha_not_ws (c : Char) (h : isAsciiAlpha c = true) : isWhitespace c = false := by
  have := (isAsciiAlpha_iff c).mp h
  exact isWhitespace_low c (by omega) (by omega) (by omega) (by omega)

theorem lower_alpha (c : Char) (h : isLowerAlpha (toAsciiLower c) = true) : isAsciiAlpha c = true := by
  rw [isAsciiAlpha_iff]
  unfold toAsciiLower at h
  split at h
  · rename_i hc
    exact Or.inl hc
  · simp only [isLowerAlpha, Bool.and_eq_true, decide_eq_true_eq] at h
    exact Or.inr h

theorem lower_of_lower (c : Char) (h : isLowerAlpha c = true) : toAsciiLower c = c := by
  simp only [isLowerAlpha, Bool.and_eq_true, decide_eq_true_eq] at h
  unfold toAsciiLower
  split
  · rename_i hc
    have : c.toNat ≤ 90 := hc.2
    omega
  · rfl

theorem map_lower_of_lower (s : List Char) (h : ∀ c ∈ s, isLowerAlpha c = true) :
    s.map toAsciiLower = s := by
  induction s with
  | nil => rfl
  | cons a t ih =>
    rw [List.map_cons, lower_of_lower a (h a (by simp)), ih (fun c hc => h c (by simp [hc]))]

theorem alpha_of_lower_word (u w : List Char) (h : u.map toAsciiLower = w) (hne : w ≠ [])
    (hw : ∀ c ∈ w, isLowerAlpha c = true) : u ≠ [] ∧ ∀ c ∈ u, isAsciiAlpha c = true := by
  subst h
  exact ⟨fun hn => hne (by rw [hn]; rfl), fun c hc => lower_alpha c (hw _ (List.mem_map_of_mem hc))⟩

theorem takeWhile_all (p : Char → Bool) (s : List Char) : ∀ c ∈ s.takeWhile p, p c = true :=
  List.all_eq_true.mp List.all_takeWhile

theorem dropWhile_head (p : Char → Bool) (s : List Char) (c : Char) (t : List Char)
    (h : s.dropWhile p = c :: t) : p c = false := by
  have := List.head_dropWhile_not p (l := s) (by rw [h]; simp)
  simpa only [h, List.head_cons] using this

theorem head_of_all {P : Char → Prop} (l r : List Char) (hl : l ≠ []) (h : ∀ c ∈ l, P c) :
    ∃ c t, l ++ r = c :: t ∧ P c := by
  cases l with
  | nil => exact absurd rfl hl
  | cons a t => exact ⟨a, t ++ r, rfl, h a List.mem_cons_self⟩

theorem takeWhile_append (p : Char → Bool) (ds r : List Char) (hds : ∀ c ∈ ds, p c = true)
    (hr : r = [] ∨ ∃ c t, r = c :: t ∧ p c = false) :
    (ds ++ r).takeWhile p = ds ∧ (ds ++ r).dropWhile p = r := by
  rw [List.takeWhile_append_of_pos hds, List.dropWhile_append_of_pos hds]
  rcases hr with rfl | ⟨c, t, rfl, hc⟩
  · exact ⟨List.append_nil ds, rfl⟩
  · have hc' : ¬ p c = true := by rw [hc]; simp
    rw [List.takeWhile_cons_of_neg hc', List.dropWhile_cons_of_neg hc', List.append_nil]
    exact ⟨rfl, rfl⟩

theorem trimStart_append (ws u : List Char) (hws : ∀ c ∈ ws, isWhitespace c = true)
    (hu : u = [] ∨ ∃ c t, u = c :: t ∧ isWhitespace c = false) : trimStart (ws ++ u) = u :=
  (takeWhile_append isWhitespace ws u hws hu).2

theorem trimEnd_append (u ws : List Char) (hws : ∀ c ∈ ws, isWhitespace c = true)
    (hu : u = [] ∨ ∃ c t, u = t ++ [c] ∧ isWhitespace c = false) : trimEnd (u ++ ws) = u := by
  unfold trimEnd
  rw [List.reverse_append,
    (takeWhile_append isWhitespace ws.reverse u.reverse (fun c hc => hws c (List.mem_reverse.mp hc)) ?_).2,
    List.reverse_reverse]
  rcases hu with rfl | ⟨c, t, rfl, hc⟩
  · exact Or.inl rfl
  · exact Or.inr ⟨c, t.reverse, by simp, hc⟩

theorem trim_word (ws u ws' : List Char) (hws : ∀ c ∈ ws, isWhitespace c = true)
    (hws' : ∀ c ∈ ws', isWhitespace c = true) (hne : u ≠ [])
    (hu : ∀ c ∈ u, isWhitespace c = false) : trim (ws ++ (u ++ ws')) = u := by
  unfold trim
  have h1 : trimStart (ws ++ (u ++ ws')) = u ++ ws' :=
    trimStart_append _ _ hws (.inr (head_of_all u ws' hne hu))
  rw [h1]
  exact trimEnd_append _ _ hws'
    (Or.inr ⟨u.getLast hne, u.dropLast, (List.dropLast_concat_getLast hne).symm, hu _ (List.getLast_mem hne)⟩)

theorem trim_digits (s : List Char) (h : ∀ c ∈ s, isAsciiDigit c = true) : trim s = s := by
  cases s with
  | nil => rfl
  | cons a t =>
    have := trim_word [] (a :: t) [] nofun nofun (List.cons_ne_nil a t) (fun c hc => digit_not_ws c (h c hc))
    rwa [List.nil_append, List.append_nil] at this

theorem trim_decomp (r : List Char) :
    ∃ ws ws', r = ws ++ (trim r ++ ws') ∧ AllWs ws ∧ AllWs ws' := by
  refine ⟨r.takeWhile isWhitespace, ((r.dropWhile isWhitespace).reverse.takeWhile isWhitespace).reverse, ?_,
    takeWhile_all _ _, fun c hc => takeWhile_all isWhitespace _ c (List.mem_reverse.mp hc)⟩
  have h2 := List.takeWhile_append_dropWhile (p := isWhitespace) (l := (r.dropWhile isWhitespace).reverse)
  have h3 : trim r ++ ((r.dropWhile isWhitespace).reverse.takeWhile isWhitespace).reverse =
      r.dropWhile isWhitespace := by
    unfold trim trimEnd trimStart
    rw [← List.reverse_append, h2, List.reverse_reverse]
  rw [h3, List.takeWhile_append_dropWhile]

theorem mem_trim (s : List Char) (c : Char) (hc : c ∈ s) (hw : isWhitespace c = false) : c ∈ trim s := by
  obtain ⟨ws, ws', hdec, hws, hws'⟩ := trim_decomp s
  rw [hdec, List.mem_append, List.mem_append] at hc
  rcases hc with h | h | h
  · rw [hws c h] at hw; nomatch hw
  · exact h
  · rw [hws' c h] at hw; nomatch hw

theorem digitsVal_eq (ds : List Char) : digitsVal ds = Nat.ofDigitChars 10 ds 0 := by
  unfold digitsVal Nat.ofDigitChars digitVal
  congr 1
  funext acc c
  omega

theorem fit_eq_some (max n v : Nat) : fit max n = some v ↔ n ≤ max ∧ v = n := by
  unfold fit
  split
  · rename_i h; exact ⟨fun e => ⟨h, (Option.some.inj e).symm⟩, fun e => by rw [e.2]⟩
  · rename_i h; exact ⟨nofun, fun e => absurd e.1 h⟩

theorem le_U64_MAX (n : Nat) : n ≤ U64_MAX ↔ n < 2 ^ 64 := by unfold U64_MAX; omega

theorem le_I64_MAX (n : Nat) : n ≤ I64_MAX ↔ n < 2 ^ 63 := by unfold I64_MAX; omega

theorem fit_u64 (n : Nat) : fit U64_MAX n = if n < 2 ^ 64 then some n else none := by
  simp only [fit, le_U64_MAX]

theorem fit_i64 (n : Nat) : fit I64_MAX n = if n < 2 ^ 63 then some n else none := by
  simp only [fit, le_I64_MAX]

/-- `parse::<u64>` on the digit strings that reach it -/
theorem parseUnsigned_digits (max : Nat) (ds : List Char) (h : ∀ c ∈ ds, isAsciiDigit c = true) :
    parseUnsigned max ds = if ds = [] then none else fit max (digitsVal ds) := by
  cases ds with
  | nil => rfl
  | cons a t =>
    have hs : stripPlus (a :: t) = a :: t := by
      unfold stripPlus
      split
      · rename_i r heq
        rw [(List.cons.inj heq).1] at h
        exact absurd (h '+' (by simp)) (by decide)
      · rfl
    simp only [parseUnsigned, parseDigits, hs, List.all_eq_true.mpr h, List.isEmpty_cons, fit,
      Bool.false_eq_true, if_false, if_true, reduceCtorEq]

/-- `parse::<i64>` on them: no sign to read -/
theorem parseSigned_digits (ds : List Char) (h : ∀ c ∈ ds, isAsciiDigit c = true) :
    parseSigned ds = (parseUnsigned I64_MAX ds).map Int.ofNat := by
  unfold parseSigned
  split
  · exact absurd (h '-' (by simp)) (by decide)
  · rfl

def byteLen : List Char → Nat
  | [] => 0
  | c :: cs => (utf8Char c).length + byteLen cs

theorem byteLen_eq (l : List Char) : byteLen l = (utf8 l).length := by
  induction l with
  | nil => rfl
  | cons c cs ih => rw [byteLen, utf8_cons, List.length_append, ih]

/-- `find` returns the byte length of the longest prefix on which the predicate fails -/
theorem findByte_eq (q : Char → Bool) (v : List Char) (off : Nat) :
    findByte (fun c => !q c) v off =
      if v.dropWhile q = [] then none else some (off + byteLen (v.takeWhile q)) := by
  induction v generalizing off with
  | nil => rfl
  | cons c cs ih =>
    by_cases hc : q c = true
    · simp only [findByte, hc, Bool.not_true, Bool.false_eq_true, if_false, List.dropWhile_cons_of_pos,
        List.takeWhile_cons_of_pos, byteLen, ih, Nat.add_assoc]
    · have hc' : q c = false := by simpa using hc
      simp [findByte, hc', byteLen]

theorem splitAtByte_zero (v : List Char) : splitAtByte v 0 = some ([], v) := by
  cases v <;> rfl

theorem splitAtByte_append (a b : List Char) : splitAtByte (a ++ b) (byteLen a) = some (a, b) := by
  induction a with
  | nil => exact splitAtByte_zero b
  | cons c t ih =>
    obtain ⟨n, hn⟩ := Nat.exists_eq_succ_of_ne_zero
      (Nat.ne_of_gt (Nat.lt_of_lt_of_le (utf8Char_length c).1 (Nat.le_add_right _ (byteLen t))))
    show splitAtByte (c :: (t ++ b)) ((utf8Char c).length + byteLen t) = _
    have hle : (utf8Char c).length ≤ n + 1 := by omega
    have hsub : n + 1 - (utf8Char c).length = byteLen t := by omega
    rw [hn, splitAtByte, if_pos hle, hsub, ih]
    rfl

/-- the split of the visitors: never a panic, and it is the longest digit prefix and the rest -/
theorem splitNumberUnit_eq (v : List Char) :
    splitNumberUnit v =
      .ok (if v.dropWhile isAsciiDigit = [] then (trim v, none)
           else (trim (v.takeWhile isAsciiDigit), some (trim (v.dropWhile isAsciiDigit)))) := by
  unfold splitNumberUnit
  rw [findByte_eq isAsciiDigit v 0]
  by_cases h : v.dropWhile isAsciiDigit = []
  · simp only [h, if_true]
  · simp only [h, if_false, Nat.zero_add]
    have := splitAtByte_append (v.takeWhile isAsciiDigit) (v.dropWhile isAsciiDigit)
    rw [List.takeWhile_append_dropWhile] at this
    rw [this]

/-- the number half is the longest digit prefix itself: trimming removes nothing from it -/
theorem splitNumberUnit_digits (v : List Char) :
    splitNumberUnit v = .ok (v.takeWhile isAsciiDigit,
      if v.dropWhile isAsciiDigit = [] then none else some (trim (v.dropWhile isAsciiDigit))) := by
  have ht := trim_digits _ (takeWhile_all isAsciiDigit v)
  rw [splitNumberUnit_eq]
  by_cases h : v.dropWhile isAsciiDigit = []
  · have hv := List.takeWhile_append_dropWhile (p := isAsciiDigit) (l := v)
    rw [h, List.append_nil] at hv
    rw [hv] at ht ⊢
    rw [if_pos h, if_pos h, ht]
  · rw [if_neg h, if_neg h, ht]

theorem sizeUnit_pos : ∀ e ∈ sizeUnitTable, 1 ≤ e.2 := by decide +kernel

theorem lookupUnit_mem {α} (table : List (List Char × α)) (u : List Char) (a : α)
    (h : lookupUnit table u = some a) : ∃ e ∈ table, e.2 = a ∧ eqIgnoreAsciiCase u e.1 = true := by
  unfold lookupUnit at h
  split at h
  · rename_i e he
    exact ⟨e, List.mem_of_find?_eq_some he, Option.some.inj h, List.find?_some (p := fun e : List Char × α => eqIgnoreAsciiCase u e.1) he⟩
  · exact absurd h nofun

theorem lookupUnit_congr {α} (table : List (List Char × α)) (u u' : List Char)
    (h : u.map toAsciiLower = u'.map toAsciiLower) : lookupUnit table u = lookupUnit table u' := by
  unfold lookupUnit eqIgnoreAsciiCase
  rw [h]

theorem sizeUnit_self : ∀ e ∈ sizeUnitTable, lookupUnit sizeUnitTable e.1 = some e.2 := by decide +kernel
theorem timeUnit_self : ∀ e ∈ timeUnitTable, lookupUnit timeUnitTable e.1 = some e.2 := by decide +kernel
theorem sizeUnit_lower : ∀ e ∈ sizeUnitTable, e.1 ≠ [] ∧ ∀ c ∈ e.1, isLowerAlpha c = true := by decide +kernel
theorem timeUnit_lower : ∀ e ∈ timeUnitTable, e.1 ≠ [] ∧ ∀ c ∈ e.1, isLowerAlpha c = true := by decide +kernel

theorem unit_word {α} (table : List (List Char × α))
    (hself : ∀ e ∈ table, lookupUnit table e.1 = some e.2)
    (hlow : ∀ e ∈ table, e.1 ≠ [] ∧ ∀ c ∈ e.1, isLowerAlpha c = true)
    (e : List Char × α) (he : e ∈ table) (u : List Char) (hu : eqIgnoreAsciiCase u e.1 = true) :
    lookupUnit table u = some e.2 ∧ u ≠ [] ∧ ∀ c ∈ u, isAsciiAlpha c = true := by
  have heq : u.map toAsciiLower = e.1.map toAsciiLower := of_decide_eq_true hu
  refine ⟨by rw [lookupUnit_congr table u e.1 heq]; exact hself e he, ?_⟩
  rw [map_lower_of_lower e.1 (hlow e he).2] at heq
  exact alpha_of_lower_word u e.1 heq (hlow e he).1 (hlow e he).2

/-- A case-folding table whose keys are lower-case words agrees with a function `f` on lower-cased
words as soon as it does so on a list of words covering both. -/
theorem lookup_eq_of_words {α β} (table : List (List Char × α)) (words : List (List Char × β))
    (f : List Char → Option β) (g : β → α)
    (hf : ∀ w b, f w = some b → (w, b) ∈ words)
    (hwl : ∀ e ∈ words, e.1 ≠ [] ∧ ∀ c ∈ e.1, isLowerAlpha c = true)
    (hwt : ∀ e ∈ words, lookupUnit table e.1 = some (g e.2))
    (htl : ∀ e ∈ table, e.1 ≠ [] ∧ ∀ c ∈ e.1, isLowerAlpha c = true)
    (htf : ∀ e ∈ table, (f e.1).isSome = true)
    (u : List Char) : lookupUnit table u = (f (u.map toAsciiLower)).map g := by
  cases hfu : f (u.map toAsciiLower) with
  | some b =>
    have hm := hf _ _ hfu
    rw [lookupUnit_congr table u _ (map_lower_of_lower _ (hwl _ hm).2).symm]
    exact hwt _ hm
  | none =>
    cases hl : lookupUnit table u with
    | none => rfl
    | some a =>
      obtain ⟨e, he, _, heq⟩ := lookupUnit_mem _ _ _ hl
      have h1 : u.map toAsciiLower = e.1 := by
        rw [← map_lower_of_lower e.1 (htl e he).2]; exact of_decide_eq_true heq
      have hb := htf e he
      rw [← h1, hfu] at hb
      exact absurd hb nofun

def sizeWords : List (List Char × Nat) :=
  [(['b'],0),(['k','b'],1),(['k','i','b'],1),(['m','b'],2),(['m','i','b'],2),(['g','b'],3),
   (['g','i','b'],3),(['t','b'],4),(['t','i','b'],4)]

theorem prefixExp_some (p : Char) (k : Nat) (h : prefixExp p = some k) :
    (p, k) ∈ [('k', 1), ('m', 2), ('g', 3), ('t', 4)] := by
  unfold prefixExp at h
  by_cases hk : p = 'k'
  · rw [if_pos hk] at h; cases h; exact hk ▸ .head _
  by_cases hm : p = 'm'
  · rw [if_neg hk, if_pos hm] at h; cases h; exact hm ▸ .tail _ (.head _)
  by_cases hg : p = 'g'
  · rw [if_neg hk, if_neg hm, if_pos hg] at h; cases h; exact hg ▸ .tail _ (.tail _ (.head _))
  by_cases ht : p = 't'
  · rw [if_neg hk, if_neg hm, if_neg hg, if_pos ht] at h; cases h
    exact ht ▸ .tail _ (.tail _ (.tail _ (.head _)))
  rw [if_neg hk, if_neg hm, if_neg hg, if_neg ht] at h
  exact absurd h nofun

theorem prefix_words : ∀ e ∈ [('k', 1), ('m', 2), ('g', 3), ('t', 4)],
    ([e.1, 'b'], e.2) ∈ sizeWords ∧ ([e.1, 'i', 'b'], e.2) ∈ sizeWords := by decide +kernel

theorem unitExp_words (w : List Char) (k : Nat) (h : unitExp w = some k) : (w, k) ∈ sizeWords := by
  unfold unitExp at h
  split at h
  · split at h
    next hb => cases h; rw [hb]; decide
    · exact absurd h nofun
  · split at h
    next hb => rw [hb]; exact (prefix_words _ (prefixExp_some _ _ h)).1
    · exact absurd h nofun
  · split at h
    next hc => rw [hc.1, hc.2]; exact (prefix_words _ (prefixExp_some _ _ h)).2
    · exact absurd h nofun
  · exact absurd h nofun

theorem sizeWords_exp : ∀ e ∈ sizeWords, unitExp e.1 = some e.2 := by decide +kernel
theorem sizeWords_lower : ∀ e ∈ sizeWords, e.1 ≠ [] ∧ ∀ c ∈ e.1, isLowerAlpha c = true := by decide +kernel
theorem sizeWords_lookup : ∀ e ∈ sizeWords, lookupUnit sizeUnitTable e.1 = some (1024 ^ e.2) := by decide +kernel
theorem sizeTable_exp : ∀ e ∈ sizeUnitTable, (unitExp e.1).isSome = true := by decide +kernel

/-- the name of a unit and its plural are the two entries of the unit in the chain of `time.rs` -/
theorem TUnit.word_mem (t : TUnit) :
    (t.word, t) ∈ timeUnitTable ∧ (t.word ++ ['s'], t) ∈ timeUnitTable := by
  cases t <;> decide +kernel

theorem unitOf_some (w : List Char) (t : TUnit) (h : unitOf w = some t) :
    w = t.word ∨ w = t.word ++ ['s'] := by
  have := List.find?_some (show TUnit.all.find? _ = some t from h)
  exact of_decide_eq_true this

theorem unitOf_words (w : List Char) (t : TUnit) (h : unitOf w = some t) : (w, t) ∈ timeUnitTable := by
  rcases unitOf_some w t h with rfl | rfl
  · exact t.word_mem.1
  · exact t.word_mem.2

theorem timeUnit_unitOf : ∀ e ∈ timeUnitTable, unitOf e.1 = some e.2 := by decide +kernel

theorem size_units (u : List Char) :
    lookupUnit sizeUnitTable u = (unitExp (u.map toAsciiLower)).map (fun k => 1024 ^ k) :=
  lookup_eq_of_words sizeUnitTable sizeWords unitExp (fun k => 1024 ^ k) unitExp_words sizeWords_lower
    sizeWords_lookup sizeUnit_lower sizeTable_exp u

theorem interval_units (u : List Char) :
    lookupUnit timeUnitTable u = unitOf (u.map toAsciiLower) := by
  rw [lookup_eq_of_words timeUnitTable timeUnitTable unitOf id unitOf_words timeUnit_lower timeUnit_self
    timeUnit_lower (fun e he => by rw [timeUnit_unitOf e he]; rfl) u]
  exact congrFun Option.map_id _

/-- `deserialize_limit` on a string, with the longest digit prefix as the number and the trimmed
remainder as the unit: which error, or which value -/
theorem parseSizeStr_eq (s : List Char) :
    parseSizeStr s =
      if s.takeWhile isAsciiDigit = [] ∨ U64_MAX < digitsVal (s.takeWhile isAsciiDigit) then .err .notNumber
      else if s.dropWhile isAsciiDigit = [] then .ok (digitsVal (s.takeWhile isAsciiDigit))
      else match unitExp ((trim (s.dropWhile isAsciiDigit)).map toAsciiLower) with
        | none => .err .badUnit
        | some k =>
          if digitsVal (s.takeWhile isAsciiDigit) * 1024 ^ k ≤ U64_MAX then
            .ok (digitsVal (s.takeWhile isAsciiDigit) * 1024 ^ k)
          else .err .overflow := by
  simp only [parseSizeStr, splitNumberUnit_digits, parseUnsigned_digits _ _ (takeWhile_all _ s), size_units, fit]
  generalize s.takeWhile isAsciiDigit = ds
  generalize s.dropWhile isAsciiDigit = rest
  by_cases hd : ds = []
  · simp only [hd, if_true, true_or]
  · by_cases hm : digitsVal ds ≤ U64_MAX
    · simp only [hd, hm, if_true, if_false, false_or, Nat.not_lt.mpr hm]
      by_cases hr : rest = []
      · simp only [hr, if_true]
      · simp only [hr, if_false]
        cases unitExp ((trim rest).map toAsciiLower) <;> rfl
    · simp only [hd, hm, if_false, false_or, Nat.lt_of_not_le hm, if_true]

/-- the same for `TimeTriggerInterval`; the sign test of the code never fires on a digit string -/
theorem parseIntervalStr_eq (s : List Char) :
    parseIntervalStr s =
      if s.takeWhile isAsciiDigit = [] ∨ I64_MAX < digitsVal (s.takeWhile isAsciiDigit) then .err .notNumber
      else if s.dropWhile isAsciiDigit = [] then .ok (.second, (digitsVal (s.takeWhile isAsciiDigit) : Int))
      else match unitOf ((trim (s.dropWhile isAsciiDigit)).map toAsciiLower) with
        | none => .err .badUnit
        | some t => .ok (t, (digitsVal (s.takeWhile isAsciiDigit) : Int)) := by
  simp only [parseIntervalStr, splitNumberUnit_digits, parseSigned_digits _ (takeWhile_all _ s),
    parseUnsigned_digits _ _ (takeWhile_all _ s), interval_units, fit]
  generalize s.takeWhile isAsciiDigit = ds
  generalize s.dropWhile isAsciiDigit = rest
  by_cases hd : ds = []
  · simp only [hd, if_true, true_or, Option.map_none]
  · by_cases hm : digitsVal ds ≤ I64_MAX
    · have hn : ¬ (Int.ofNat (digitsVal ds) < 0) := Int.not_lt.mpr (Int.natCast_nonneg _)
      simp only [hd, hm, if_true, if_false, false_or, Nat.not_lt.mpr hm, Option.map_some, hn]
      by_cases hr : rest = []
      · simp only [hr, if_true]; rfl
      · simp only [hr, if_false]
        cases unitOf ((trim rest).map toAsciiLower) <;> rfl
    · simp only [hd, hm, if_false, false_or, Nat.lt_of_not_le hm, if_true, Option.map_none]

theorem leadDigits_eq (s : List Char) :
    leadDigits s = (s.takeWhile isAsciiDigit, s.dropWhile isAsciiDigit) := by
  induction s with
  | nil => rfl
  | cons c cs ih =>
    by_cases hc : isAsciiDigit c = true
    · simp [leadDigits, hc, ih]
    · have hc' : isAsciiDigit c = false := by simpa using hc
      simp [leadDigits, hc']

theorem readLit_eq {α} (f : List Char → Option α) (s : List Char) :
    readLit f s =
      if s.takeWhile isAsciiDigit = [] then none
      else if s.dropWhile isAsciiDigit = [] then some (digitsVal (s.takeWhile isAsciiDigit), none)
      else match f ((trim (s.dropWhile isAsciiDigit)).map toAsciiLower) with
        | some a => some (digitsVal (s.takeWhile isAsciiDigit), some a)
        | none => none := by
  unfold readLit
  rw [leadDigits_eq]
  cases h1 : s.takeWhile isAsciiDigit with
  | nil => simp
  | cons a t =>
    cases h2 : s.dropWhile isAsciiDigit with
    | nil => simp
    | cons b r => cases hf : f ((trim (b :: r)).map toAsciiLower) <;> simp [hf]

theorem readLit_bare {α} (f : List Char → Option α) (ds : List Char) (hds : Digits ds) :
    readLit f ds = some (digitsVal ds, none) := by
  obtain ⟨ht, hd⟩ := takeWhile_append isAsciiDigit ds [] hds.2 (Or.inl rfl)
  rw [List.append_nil] at ht hd
  rw [readLit_eq, ht, hd, if_neg hds.1, if_pos rfl]

theorem readLit_rest {α} (f : List Char → Option α) (ds rest : List Char) (hds : Digits ds)
    (hr : ∃ c t, rest = c :: t ∧ isAsciiDigit c = false) :
    readLit f (ds ++ rest) = (f ((trim rest).map toAsciiLower)).map (fun a => (digitsVal ds, some a)) := by
  obtain ⟨ht, hd⟩ := takeWhile_append isAsciiDigit ds rest hds.2 (Or.inr hr)
  obtain ⟨c, t, rfl, _⟩ := hr
  rw [readLit_eq, ht, hd, if_neg hds.1, if_neg (List.cons_ne_nil _ _)]
  cases f ((trim (c :: t)).map toAsciiLower) <;> rfl

theorem readLit_unknown {α} (f : List Char → Option α) (ds rest : List Char) (hds : Digits ds)
    (hr : ∃ c t, rest = c :: t ∧ isAsciiDigit c = false)
    (hf : f ((trim rest).map toAsciiLower) = none) : readLit f (ds ++ rest) = none := by
  rw [readLit_rest f ds rest hds hr, hf]; rfl

theorem readLit_leading_nondigit {α} (f : List Char → Option α) (s : List Char)
    (h : s = [] ∨ ∃ c t, s = c :: t ∧ isAsciiDigit c = false) : readLit f s = none := by
  rw [readLit_eq, if_pos]
  rcases h with rfl | ⟨c, t, rfl, hc⟩
  · rfl
  · exact List.takeWhile_cons_of_neg (by rw [hc]; simp)

/-- `f` (one of `unitExp`, `unitOf`) knows only words of ASCII letters -/
def Letters {β} (f : List Char → Option β) : Prop :=
  ∀ u b, f (u.map toAsciiLower) = some b → u ≠ [] ∧ ∀ c ∈ u, isAsciiAlpha c = true

theorem letters_of_words {β} (words : List (List Char × β)) (f : List Char → Option β)
    (hf : ∀ w b, f w = some b → (w, b) ∈ words)
    (hwl : ∀ e ∈ words, e.1 ≠ [] ∧ ∀ c ∈ e.1, isLowerAlpha c = true) : Letters f :=
  fun u _ h => alpha_of_lower_word u _ rfl (hwl _ (hf _ _ h)).1 (hwl _ (hf _ _ h)).2

theorem unitExp_letters : Letters unitExp := letters_of_words sizeWords unitExp unitExp_words sizeWords_lower
theorem unitOf_letters : Letters unitOf := letters_of_words timeUnitTable unitOf unitOf_words timeUnit_lower

theorem readLit_unit {β} (f : List Char → Option β) (hf : Letters f) (ds ws u ws' : List Char) (b : β)
    (hds : Digits ds) (hws : AllWs ws) (hws' : AllWs ws') (hu : f (u.map toAsciiLower) = some b) :
    readLit f (ds ++ (ws ++ (u ++ ws'))) = some (digitsVal ds, some b) := by
  obtain ⟨hune, hualpha⟩ := hf u b hu
  have hrest := head_of_all (ws ++ u) ws' (fun h => hune (List.append_eq_nil_iff.mp h).2) fun c hc =>
    (List.mem_append.mp hc).elim (fun h => ws_not_digit c (hws c h)) (fun h => alpha_not_digit c (hualpha c h))
  rw [List.append_assoc] at hrest
  rw [readLit_rest f ds _ hds hrest,
    trim_word ws u ws' hws hws' hune (fun c hc => alpha_not_ws c (hualpha c hc)), hu]
  rfl

/-- a remainder whose first non-blank character is not an ASCII letter is no unit word: fractions
(`.5kb`), signs, digits of other scripts, look-alike blanks -/
theorem readLit_nonletter {β} (f : List Char → Option β) (hf : Letters f)
    (ds r : List Char) (c : Char) (hds : Digits ds)
    (hcd : isAsciiDigit c = false) (hcw : isWhitespace c = false) (hca : isAsciiAlpha c = false) :
    readLit f (ds ++ c :: r) = none := by
  apply readLit_unknown f ds (c :: r) hds ⟨c, r, rfl, hcd⟩
  cases hfu : f ((trim (c :: r)).map toAsciiLower) with
  | none => rfl
  | some b =>
    have := (hf (trim (c :: r)) b hfu).2 c (mem_trim _ c List.mem_cons_self hcw)
    rw [hca] at this
    nomatch this

theorem visit_int_u64 (n : Int) (h0 : 0 ≤ n) (h1 : n.toNat < 2 ^ 64) :
    (Scalar.int n).visit = .u64 n.toNat h1 := by
  simp only [Scalar.visit]; rw [dif_pos ⟨h0, h1⟩]

theorem visit_int_i64 (n : Int) (h0 : n < 0) (h2 : -(2 ^ 63 : Int) ≤ n ∧ n < 2 ^ 63) :
    (Scalar.int n).visit = .i64 n h2 := by
  simp only [Scalar.visit]; rw [dif_neg (by omega), dif_pos h2]

theorem visit_int_other (n : Int) (h1 : ¬ (0 ≤ n ∧ n.toNat < 2 ^ 64))
    (h2 : ¬ (-(2 ^ 63 : Int) ≤ n ∧ n < 2 ^ 63)) : (Scalar.int n).visit = .other := by
  simp only [Scalar.visit]; rw [dif_neg h1, dif_neg h2]

theorem visitToml_int (n : Int) (h2 : -(2 ^ 63 : Int) ≤ n ∧ n < 2 ^ 63) :
    (Scalar.int n).visitToml = some (.i64 n h2) := by
  simp only [Scalar.visitToml]; rw [dif_pos h2]

theorem visitToml_int_none (n : Int) (h2 : ¬ (-(2 ^ 63 : Int) ≤ n ∧ n < 2 ^ 63)) :
    (Scalar.int n).visitToml = none := by
  simp only [Scalar.visitToml]; rw [dif_neg h2]

/-- an integer of a JSON / YAML document at the size visitor, by range -/
theorem visitSize_int (n : Int) :
    visitSize (Scalar.int n).visit =
      if 0 ≤ n ∧ n.toNat < 2 ^ 64 then .ok n.toNat
      else if -(2 ^ 63 : Int) ≤ n ∧ n < 2 ^ 63 then .err .negative else .err .invalidType := by
  by_cases h1 : 0 ≤ n ∧ n.toNat < 2 ^ 64
  · rw [visit_int_u64 n h1.1 h1.2, if_pos h1]; rfl
  · rw [if_neg h1]
    by_cases h2 : -(2 ^ 63 : Int) ≤ n ∧ n < 2 ^ 63
    · rw [visit_int_i64 n (by omega) h2, if_pos h2]; exact if_pos (by omega)
    · rw [visit_int_other n h1 h2, if_neg h2]; rfl

theorem visitInterval_int (n : Int) :
    visitInterval (Scalar.int n).visit =
      if 0 ≤ n ∧ n.toNat < 2 ^ 63 then .ok (.second, n)
      else if 0 ≤ n ∧ n.toNat < 2 ^ 64 then .err .overflow
      else if -(2 ^ 63 : Int) ≤ n ∧ n < 2 ^ 63 then .err .negative else .err .invalidType := by
  by_cases h1 : 0 ≤ n ∧ n.toNat < 2 ^ 64
  · rw [visit_int_u64 n h1.1 h1.2, if_pos h1]
    show (if n.toNat ≤ I64_MAX then _ else _) = _
    simp only [le_I64_MAX]
    by_cases h3 : n.toNat < 2 ^ 63
    · rw [if_pos h3, if_pos ⟨h1.1, h3⟩, Int.toNat_of_nonneg h1.1]
    · rw [if_neg h3, if_neg (fun h => h3 h.2)]
  · rw [if_neg (fun h => h1 ⟨h.1, by omega⟩), if_neg h1]
    by_cases h2 : -(2 ^ 63 : Int) ≤ n ∧ n < 2 ^ 63
    · rw [visit_int_i64 n (by omega) h2, if_pos h2]; exact if_pos (by omega)
    · rw [visit_int_other n h1 h2, if_neg h2]; rfl

/-- A visitor that treats an integer alike whether it comes as `i64` or by the JSON / YAML route gives
TOML documents (every integer an `i64`) the same answers. -/
theorem routes_agree_of {β} (V : Visit → β) (hV : ∀ n h2, V (.i64 n h2) = V (Scalar.int n).visit)
    (sc : Scalar) (t : Visit) (h : sc.visitToml = some t) : V t = V sc.visit := by
  cases sc with
  | str s => cases h; rfl
  | other => cases h; rfl
  | int n =>
    by_cases h2 : -(2 ^ 63 : Int) ≤ n ∧ n < 2 ^ 63
    · rw [visitToml_int n h2] at h
      cases h
      exact hV n h2
    · rw [visitToml_int_none n h2] at h
      nomatch h

theorem toOpt_eq_some {ε α} (r : Outcome ε α) (a : α) : toOpt r = some a ↔ r = .ok a := by
  cases r <;> simp [toOpt]

end Log4rs.Literals
