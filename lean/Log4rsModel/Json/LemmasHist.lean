import Log4rsModel.Json.LemmasLine
/-
Histories of encodes on one thread with one encoder: the encoder carries nothing from one encode to the
next, a completed encode delivers the whole line, an unfinished one a prefix of it.
-/
namespace Log4rs.Json

theorem encodeStep_state (st : EncoderState) (s : Step) : (encodeStep st s).1 = st := rfl

theorem encodeStep_any_state (st st' : EncoderState) (s : Step) : (encodeStep st s).2 = (encodeStep st' s).2 := rfl

theorem runHistory_eq_map (st : EncoderState) (steps : List Step) :
    runHistory st steps = steps.map fun s => (encodeStep {} s).2 := by
  induction steps generalizing st with
  | nil => rfl
  | cons s rest ih =>
    simp only [runHistory, List.map_cons]
    rw [ih]

theorem runHistory_append (st : EncoderState) (a b : List Step) :
    runHistory st (a ++ b) = runHistory st a ++ runHistory st b := by
  simp [runHistory_eq_map]

theorem received_of_succeeds (s : Step) (h : succeeds s = true) :
    received s = utf8 (jsonLine s.env s.record) := by
  simp only [succeeds, Bool.and_eq_true, Option.isNone_iff_eq_none] at h
  obtain ⟨hd, hw⟩ := h
  have hi : intended s = utf8 (jsonLine s.env s.record) := by simp [intended, hd]
  unfold received
  unfold writerHolds at hw
  split
  · exact hi
  · rename_i k hk
    rw [hk] at hw
    simp only [decide_eq_true_eq] at hw
    rw [List.take_of_length_le hw, hi]

theorem kind_of_succeeds (s : Step) (h : succeeds s = true) : (encodeStep {} s).2.kind = .ok := by
  simp only [succeeds, Bool.and_eq_true, Option.isNone_iff_eq_none] at h
  simp [encodeStep, h.1, h.2]

theorem escape_take_prefix (s : List Char) (n : Nat) : escape (s.take n) <+: escape s := by
  have h := escape_append (s.take n) (s.drop n)
  rw [List.take_append_drop] at h
  exact ⟨escape (s.drop n), h.symm⟩

theorem joinMembers_three_prefix (m1 m2 pre full : List Char) (rest : List (List Char)) (h : pre <+: full) :
    (m1 ++ ',' :: (m2 ++ ',' :: pre)) <+: joinMembers (m1 :: m2 :: full :: rest) := by
  have hfull : full <+: joinMembers (full :: rest) := by
    cases rest with
    | nil => exact List.prefix_refl _
    | cons x xs => rw [joinMembers_cons_cons]; exact List.prefix_append _ _
  rw [joinMembers_cons_cons, joinMembers_cons_cons]
  refine (List.prefix_append_right_inj m1).mpr ?_
  refine List.cons_prefix_cons.mpr ⟨rfl, ?_⟩
  refine (List.prefix_append_right_inj m2).mpr ?_
  exact List.cons_prefix_cons.mpr ⟨rfl, h.trans hfull⟩

theorem displayCut_prefix (env : Env) (r : Record) (n : Nat) : displayCut env r n <+: jsonLine env r := by
  obtain ⟨rest, hrest⟩ : ∃ rest, messageMembers env r
      = member kTime (jstr env.time) :: member kLevel (jstr r.level.name) :: member kMessage (jstr r.message) :: rest := by
    rw [messageMembers, jstrPieces_eq]
    exact ⟨_, rfl⟩
  have hpre : (jstr kMessage ++ ':' :: '"' :: escape (r.message.take n)) <+: member kMessage (jstr r.message) := by
    unfold member
    refine (List.prefix_append_right_inj _).mpr (List.cons_prefix_cons.mpr ⟨rfl, ?_⟩)
    unfold jstr
    exact List.cons_prefix_cons.mpr ⟨rfl, (escape_take_prefix r.message n).trans (List.prefix_append _ _)⟩
  have h3 := joinMembers_three_prefix (member kTime (jstr env.time)) (member kLevel (jstr r.level.name)) _ _ rest hpre
  unfold displayCut jsonLine object
  rw [hrest]
  simp only [List.cons_append]
  exact List.cons_prefix_cons.mpr ⟨rfl, h3.trans ((List.prefix_append _ _).trans (List.prefix_append _ _))⟩

theorem utf8_prefix {a b : List Char} (h : a <+: b) : utf8 a <+: utf8 b := by
  obtain ⟨t, rfl⟩ := h
  exact ⟨utf8 t, (utf8_append _ _).symm⟩

theorem intended_prefix (s : Step) : intended s <+: utf8 (jsonLine s.env s.record) := by
  unfold intended
  split
  · exact List.prefix_refl _
  · exact utf8_prefix (displayCut_prefix _ _ _)

theorem received_prefix (s : Step) : received s <+: utf8 (jsonLine s.env s.record) := by
  unfold received
  split
  · exact intended_prefix s
  · exact (List.take_prefix _ _).trans (intended_prefix s)

theorem received_length_le {s : Step} {k : Nat} (h : s.writer = .failAfter k) : (received s).length ≤ k := by
  simp only [received, h, List.length_take]
  exact Nat.min_le_left _ _

theorem specCutStep_received (s : Step) : specCutStep s (received s) = true := by
  rw [specCutStep, List.isPrefixOf_iff_prefix.mpr (received_prefix s), Bool.true_and]
  split
  · rfl
  · rename_i k hk
    exact decide_eq_true (received_length_le hk)

end Log4rs.Json
