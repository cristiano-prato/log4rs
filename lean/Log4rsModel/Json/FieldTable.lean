import Log4rsModel.Json.Model
/-
Table view of `struct Message` (src/encode/json.rs) for the TRANSLATION OBLIGATION `C12_gen_message_fields`
that tools/translate.py regenerates from the source on every check run: the serialized key of every
field in declaration order, whether it carries `skip_serializing_if = "Option::is_none"`, and whether
its type is an `Option`.

Nothing here changes the model: `messageMembers_eq_table` proves that the members the model writes
(`messageMembers`, Json/Model.lean) are exactly this table applied to the rendered field values —
an absent `Option` is left out when the field skips `None`, and is `null` otherwise (derive(Serialize)).
Core imports only.
-/
namespace Log4rs.Json

/-- (key, skip_serializing_if = "Option::is_none", the type is an Option) in declaration order -/
def messageFieldTable : List (List Char × Bool × Bool) :=
  [ (kTime, false, false), (kLevel, false, false), (kMessage, false, false),
    (kModulePath, true, true), (kFile, true, true), (kLine, true, true),
    (kTarget, false, false), (kThread, false, true), (kThreadId, false, false), (kMdc, false, false) ]

/-- the rendered value of every field in declaration order; `none` = the `Option` is `None` -/
def fieldValues (env : Env) (r : Record) : List (Option (List Char)) :=
  [ some (jstr env.time), some (jstr r.level.name), some (jstrPieces r.pieces),
    r.modulePath.map jstr, r.file.map jstr, r.line.map natDigits,
    some (jstr r.target), env.thread.map jstr, some (natDigits env.threadId), some (mdcObject env.mdc) ]

/-- derive(Serialize) over a field table -/
def membersOfTable : List (List Char × Bool × Bool) → List (Option (List Char)) → List (List Char)
  | (k, skip, _) :: t, v :: vs =>
    (match v with
     | some x => [member k x]
     | none => if skip then [] else [member k jnull]) ++ membersOfTable t vs
  | _, _ => []

theorem messageMembers_eq_table (env : Env) (r : Record) :
    messageMembers env r = membersOfTable messageFieldTable (fieldValues env r) := by
  simp only [messageMembers, fieldValues, messageFieldTable, membersOfTable, List.append_assoc,
    List.cons_append, List.nil_append, List.append_nil]
  -- after the three leading members: one block per optional field, then the rest
  congr 3
  congr 1
  · cases r.modulePath <;> rfl
  congr 1
  · cases r.file <;> rfl
  congr 1
  · cases r.line <;> rfl
  cases env.thread <;> rfl

/-- only `Option` fields are absent, so the table's third column is what makes `none` possible -/
theorem fieldValues_some_of_not_option (env : Env) (r : Record) :
    ∀ p ∈ messageFieldTable.zip (fieldValues env r), p.1.2.2 = false → p.2.isSome = true := by
  intro p hp
  simp only [messageFieldTable, fieldValues, List.zip_cons_cons, List.zip_nil_right, List.mem_cons,
    List.not_mem_nil, or_false] at hp
  rcases hp with h | h | h | h | h | h | h | h | h | h <;> subst h <;>
    first | exact fun _ => rfl | exact fun h => Bool.noConfusion h

end Log4rs.Json
