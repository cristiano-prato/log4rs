import Log4rsModel.Json.Grammar
/-
Strings, one character at a time.  The writer's side: what `escapeChar` does on each kind of character
(`escapeChar_cases`), that nothing it writes is below 0x20, that escaping distributes over pieces.
The reader's side: the tables `hexVal`, `hex4`, `simpleEsc` against the character-level relations of
Json/Grammar.lean, and the two passes of the string reader: the equations of `scan` and `combine` per
form of input, and what `scan` must have read given the first token it returns (`scan_inv`).
-/
namespace Log4rs.Json

def Printable (l : List Char) : Prop := ∀ c ∈ l, 0x20 ≤ c.toNat

theorem printable_nil : Printable [] := List.forall_mem_nil _

theorem printable_cons {c : Char} {l : List Char} : Printable (c :: l) ↔ 0x20 ≤ c.toNat ∧ Printable l :=
  List.forall_mem_cons

theorem printable_append {a b : List Char} : Printable (a ++ b) ↔ Printable a ∧ Printable b :=
  List.forall_mem_append

theorem hexDigit_printable (d : Nat) : 0x20 ≤ (hexDigit d).toNat := by
  unfold hexDigit
  split <;> decide

theorem hexVal_sound (c : Char) (v : Nat) : hexVal c = some v → HexDigit c v := by
  fun_cases hexVal c <;> intro h
  case case1 hc => cases h; exact .dec c hc.1 hc.2
  case case2 hc => cases h; exact .lower c hc.1 hc.2
  case case3 hc => cases h; exact .upper c hc.1 hc.2
  case case4 => cases h

/-- the three ranges `0-9`, `A-F`, `a-f` lie in this order and do not touch -/
theorem hexVal_complete (c : Char) (v : Nat) (h : HexDigit c v) : hexVal c = some v := by
  unfold hexVal
  cases h with
  | dec h1 h2 => rw [if_pos ⟨h1, h2⟩]
  | lower h1 h2 =>
    rw [if_neg fun h => absurd (Char.le_trans h1 h.2) (by decide), if_pos ⟨h1, h2⟩]
  | upper h1 h2 =>
    rw [if_neg fun h => absurd (Char.le_trans h1 h.2) (by decide),
      if_neg fun h => absurd (Char.le_trans h.1 h2) (by decide), if_pos ⟨h1, h2⟩]

theorem hex4_sound (a b c d : Char) (n : Nat) : hex4 a b c d = some n → Hex4 a b c d n := by
  fun_cases hex4 a b c d <;> intro h
  case case1 x y z w hd hc hb ha =>
    cases h
    exact .mk (hexVal_sound _ _ ha) (hexVal_sound _ _ hb) (hexVal_sound _ _ hc) (hexVal_sound _ _ hd)
  case case2 => cases h

theorem hex4_complete (a b c d : Char) (n : Nat) (h : Hex4 a b c d n) : hex4 a b c d = some n := by
  cases h with
  | mk ha hb hc hd =>
    simp only [hex4, hexVal_complete _ _ ha, hexVal_complete _ _ hb, hexVal_complete _ _ hc,
      hexVal_complete _ _ hd]

theorem simpleEsc_sound (e x : Char) : simpleEsc e = some x → SimpleEscape e x := by
  fun_cases simpleEsc e <;> intro h <;> cases h
  all_goals (subst_vars; constructor)

theorem simpleEsc_complete (e x : Char) (h : SimpleEscape e x) : simpleEsc e = some x ∧ e ≠ 'u' := by
  cases h <;> decide +kernel

theorem SimpleEscape.printable {e x : Char} (h : SimpleEscape e x) : 0x20 ≤ e.toNat := by
  cases h <;> decide

/-- The `ESCAPE` table by kind of character: a two-character escape, `\u00XY`, or the character itself.
    The first two kinds are the characters below 0x20, `"` and `\`; the third is everything else. -/
theorem escapeChar_cases (c : Char) :
    (∃ e, SimpleEscape e c ∧ (c.toNat < 0x20 ∨ c = '"' ∨ c = '\\') ∧ escapeChar c = ['\\', e]) ∨
    (c.toNat < 0x20 ∧
      escapeChar c = ['\\', 'u', '0', '0', hexDigit (c.toNat / 16), hexDigit (c.toNat % 16)]) ∨
    (0x20 ≤ c.toNat ∧ c ≠ '"' ∧ c ≠ '\\' ∧ escapeChar c = [c]) := by
  fun_cases escapeChar c
  case case8 hlt => exact .inr (.inl ⟨hlt, rfl⟩)
  case case9 hq hb _ _ _ _ _ hlt => exact .inr (.inr ⟨Nat.le_of_not_lt hlt, hq, hb, rfl⟩)
  -- the seven named characters: the short escape is the one `SimpleEscape` lists for them
  all_goals (subst_vars; exact .inl ⟨_, by constructor, by decide, rfl⟩)

theorem escapeChar_printable (c : Char) : Printable (escapeChar c) := by
  rcases escapeChar_cases c with ⟨e, he, _, h⟩ | ⟨_, h⟩ | ⟨hc, _, _, h⟩ <;> rw [h] <;>
    simp only [Printable, List.mem_cons, List.not_mem_nil, or_false, forall_eq_or_imp, forall_eq]
  · exact ⟨by decide, he.printable⟩
  · exact ⟨by decide, by decide, by decide, by decide, hexDigit_printable _, hexDigit_printable _⟩
  · exact hc

theorem escape_printable (s : List Char) : Printable (escape s) := by
  induction s with
  | nil => exact printable_nil
  | cons c cs ih => exact printable_append.mpr ⟨escapeChar_printable c, ih⟩

theorem jstr_printable (s : List Char) : Printable (jstr s) :=
  printable_cons.mpr ⟨by decide, printable_append.mpr ⟨escape_printable s,
    printable_cons.mpr ⟨by decide, printable_nil⟩⟩⟩

/-- (finite table) the reader's digit values invert `HEX_DIGITS` -/
theorem hexVal_hexDigit : ∀ d, d < 16 → hexVal (hexDigit d) = some d := by decide +kernel

/-- the four hex digits the escaper writes for a control character denote its code -/
theorem hex4_control (n : Nat) (h : n < 0x20) :
    hex4 '0' '0' (hexDigit (n / 16)) (hexDigit (n % 16)) = some n := by
  have h1 := hexVal_hexDigit (n / 16)
    (Nat.lt_of_lt_of_le (Nat.div_lt_of_lt_mul (show n < 16 * 2 from h)) (by decide))
  have h2 := hexVal_hexDigit (n % 16) (Nat.mod_lt n (by decide))
  have h0 : hexVal '0' = some 0 := by decide
  simp only [hex4, h0, h1, h2]
  rw [show (0 * 4096 + 0 * 256 : Nat) = 0 from rfl, Nat.zero_add, Nat.div_add_mod']

theorem escape_append (a b : List Char) : escape (a ++ b) = escape a ++ escape b := by
  induction a with
  | nil => rfl
  | cons c cs ih => simp only [List.cons_append, escape, ih, List.append_assoc]

/-- escaping piece by piece is escaping the whole text -/
theorem escape_flatten (ps : List (List Char)) : ps.flatMap escape = escape ps.flatten := by
  induction ps with
  | nil => rfl
  | cons p ps ih => rw [List.flatMap_cons, List.flatten_cons, escape_append, ih]

theorem jstrPieces_eq (ps : List (List Char)) : jstrPieces ps = jstr ps.flatten := by
  rw [jstrPieces, jstr, escape_flatten]

theorem scan_quote (tail : List Char) : scan ('"' :: tail) = some ([], tail) := by
  rw [scan.eq_def]; simp

theorem scan_cons_plain (c : Char) (tail : List Char) (h1 : c ≠ '"') (h2 : c ≠ '\\') (h3 : ¬ c.toNat < 0x20) :
    scan (c :: tail) = (scan tail).map (consTok (.ch c)) := by
  rw [scan.eq_def]; simp [h1, h2, h3]

theorem scan_simple (e x : Char) (tail : List Char) (hu : e ≠ 'u') (hx : simpleEsc e = some x) :
    scan ('\\' :: e :: tail) = (scan tail).map (consTok (.ch x)) := by
  rw [scan.eq_def]; simp [hu, hx]

theorem scan_u (a b c d : Char) (n : Nat) (tail : List Char) (h : hex4 a b c d = some n) :
    scan ('\\' :: 'u' :: a :: b :: c :: d :: tail) = (scan tail).map (consTok (.unit n)) := by
  rw [scan.eq_def]; simp [h]

/-- what `scan` has read, by the first token it returns -/
theorem scan_inv {cs : List Char} {toks : List Tok} {rest : List Char} :
    scan cs = some (toks, rest) → match toks with
    | [] => cs = '"' :: rest
    | .ch x :: toks' =>
      (∃ cs', cs = x :: cs' ∧ 0x20 ≤ x.toNat ∧ x ≠ '"' ∧ x ≠ '\\' ∧ scan cs' = some (toks', rest)) ∨
      (∃ e cs', cs = '\\' :: e :: cs' ∧ SimpleEscape e x ∧ scan cs' = some (toks', rest))
    | .unit n :: toks' =>
      ∃ a b c d cs', cs = '\\' :: 'u' :: a :: b :: c :: d :: cs' ∧ Hex4 a b c d n ∧
        scan cs' = some (toks', rest) := by
  fun_cases scan cs <;> intro h
  case case2 => cases h; rfl
  case case4 a b c d cs' n hx _ =>
    obtain ⟨⟨toks', _⟩, hs, he⟩ := Option.map_eq_some_iff.mp h
    cases he
    exact ⟨a, b, c, d, cs', rfl, hex4_sound _ _ _ _ _ hx, hs⟩
  case case7 e cs' _ x hx _ =>
    obtain ⟨⟨toks', _⟩, hs, he⟩ := Option.map_eq_some_iff.mp h
    cases he
    exact .inr ⟨e, cs', rfl, simpleEsc_sound _ _ hx, hs⟩
  case case10 c cs' hq hb hl =>
    obtain ⟨⟨toks', _⟩, hs, he⟩ := Option.map_eq_some_iff.mp h
    cases he
    exact .inl ⟨cs', rfl, Nat.le_of_not_lt hl, hq, hb, hs⟩
  all_goals cases h

theorem combine_ch (c : Char) (r : List Tok) : combine (.ch c :: r) = (combine r).map (c :: ·) := by
  rw [combine.eq_def]

theorem combine_unit_bmp (n : Nat) (r : List Tok) (h : n < 0xD800 ∨ 0xDFFF < n) :
    combine (.unit n :: r) = (combine r).map (Char.ofNat n :: ·) := by
  rw [combine.eq_def]; simp [h]

theorem combine_unit_pair (hi lo : Nat) (r : List Tok) (h1 : 0xD800 ≤ hi) (h2 : hi ≤ 0xDBFF)
    (h3 : 0xDC00 ≤ lo) (h4 : lo ≤ 0xDFFF) :
    combine (.unit hi :: .unit lo :: r)
      = (combine r).map (Char.ofNat (0x10000 + (hi - 0xD800) * 0x400 + (lo - 0xDC00)) :: ·) := by
  rw [combine.eq_def]
  have n1 : ¬ (hi < 0xD800 ∨ 0xDFFF < hi) :=
    fun h => h.elim (Nat.not_lt.mpr h1) (Nat.not_lt.mpr (Nat.le_trans h2 (by decide)))
  simp [n1, h2, h3, h4]

end Log4rs.Json
