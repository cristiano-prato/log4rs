import Log4rsModel.Json.Spec
/-
A small grammar of JSON text (RFC 8259), written as inductive relations — no reader, no writer.
`JStr body s` says that `body`, the text between the two quotation marks of a JSON string, denotes
the character sequence `s`; `JNum`, `JValue`, `JMembers`, `JLine` do the same for unsigned integers,
the values and members this encoder emits, and one compact object on one line.  The reader of
`Json/Spec.lean` and the writer of `Json/Model.lean` are both proved against these relations
(`Json/LemmasGrammar.lean`; the whole line in `Json/LemmasLine.lean`), so that "parses back" is a statement about JSON text and not about a
particular reader.

RFC 8259 §7:   string = quotation-mark *char quotation-mark
               char = unescaped / escape ( %x22 / %x5C / %x2F / %x62 / %x66 / %x6E / %x72 / %x74 / %x75 4HEXDIG )
               unescaped = %x20-21 / %x23-5B / %x5D-10FFFF
A `\uXXXX` escape denotes a UTF-16 code unit; a high surrogate must be followed by a low one and the
pair denotes one scalar value (§7, "to escape an extended character … a 12-character sequence").
A lone surrogate denotes no Unicode scalar value and is not in this relation.
-/
namespace Log4rs.Json

/-- HEXDIG with its value, either letter case -/
inductive HexDigit : Char → Nat → Prop
  | dec (c : Char) : '0' ≤ c → c ≤ '9' → HexDigit c (c.toNat - 48)
  | lower (c : Char) : 'a' ≤ c → c ≤ 'f' → HexDigit c (c.toNat - 87)
  | upper (c : Char) : 'A' ≤ c → c ≤ 'F' → HexDigit c (c.toNat - 55)

/-- 4HEXDIG with its value -/
inductive Hex4 : Char → Char → Char → Char → Nat → Prop
  | mk {a b c d : Char} {x y z w : Nat} :
    HexDigit a x → HexDigit b y → HexDigit c z → HexDigit d w → Hex4 a b c d (x * 4096 + y * 256 + z * 16 + w)

/-- the two-character escapes: the character after the backslash, and the character denoted -/
inductive SimpleEscape : Char → Char → Prop
  | quote : SimpleEscape '"' '"'
  | backslash : SimpleEscape '\\' '\\'
  | slash : SimpleEscape '/' '/'
  | b : SimpleEscape 'b' '\x08'
  | f : SimpleEscape 'f' '\x0c'
  | n : SimpleEscape 'n' '\n'
  | r : SimpleEscape 'r' '\r'
  | t : SimpleEscape 't' '\t'

/-- `JStr body s`: the string body `body` (without the quotation marks) denotes `s` -/
inductive JStr : List Char → List Char → Prop
  | nil : JStr [] []
  | plain {c : Char} {body s : List Char} :
    0x20 ≤ c.toNat → c ≠ '"' → c ≠ '\\' → JStr body s → JStr (c :: body) (c :: s)
  | esc {e x : Char} {body s : List Char} :
    SimpleEscape e x → JStr body s → JStr ('\\' :: e :: body) (x :: s)
  | u {a b c d : Char} {n : Nat} {body s : List Char} :
    Hex4 a b c d n → (n < 0xD800 ∨ 0xDFFF < n) → JStr body s →
    JStr ('\\' :: 'u' :: a :: b :: c :: d :: body) (Char.ofNat n :: s)
  | pair {a b c d a' b' c' d' : Char} {hi lo : Nat} {body s : List Char} :
    Hex4 a b c d hi → Hex4 a' b' c' d' lo → 0xD800 ≤ hi → hi ≤ 0xDBFF → 0xDC00 ≤ lo → lo ≤ 0xDFFF →
    JStr body s →
    JStr ('\\' :: 'u' :: a :: b :: c :: d :: '\\' :: 'u' :: a' :: b' :: c' :: d' :: body)
      (Char.ofNat (0x10000 + (hi - 0xD800) * 0x400 + (lo - 0xDC00)) :: s)

/-- decimal value of a digit string (most significant first) -/
def decimalValue (ds : List Char) : Nat := ds.foldl (fun acc c => acc * 10 + (c.toNat - 48)) 0

/-- RFC 8259 §6 restricted to unsigned integers: `int = zero / ( digit1-9 *DIGIT )` -/
structure JNum (text : List Char) (n : Nat) : Prop where
  nonempty : text ≠ []
  digits : ∀ c ∈ text, '0' ≤ c ∧ c ≤ '9'
  noLeadingZero : text.head? = some '0' → text = ['0']
  value : n = decimalValue text

/-- `members text ms`: comma-separated `"key":value` members (at least one) -/
inductive JMembersOf {β : Type} (V : List Char → β → Prop) : List Char → List (List Char × β) → Prop
  | one {kb k vt : List Char} {v : β} :
    JStr kb k → V vt v → JMembersOf V ('"' :: kb ++ '"' :: ':' :: vt) [(k, v)]
  | cons {kb k vt rest : List Char} {v : β} {ms : List (List Char × β)} :
    JStr kb k → V vt v → JMembersOf V rest ms →
    JMembersOf V ('"' :: kb ++ '"' :: ':' :: vt ++ ',' :: rest) ((k, v) :: ms)

/-- an object: `{}` or `{` members `}` (compact: no insignificant white space) -/
inductive JObjectOf {β : Type} (V : List Char → β → Prop) : List Char → List (List Char × β) → Prop
  | empty : JObjectOf V ['{', '}'] []
  | members {text : List Char} {ms : List (List Char × β)} :
    JMembersOf V text ms → JObjectOf V ('{' :: text ++ ['}']) ms

/-- a JSON string as a value: quotation mark, body, quotation mark -/
inductive JStringValue : List Char → List Char → Prop
  | mk {body s : List Char} : JStr body s → JStringValue ('"' :: body ++ ['"']) s

/-- the values this encoder emits: strings, unsigned integers, `null`, one object of strings -/
inductive JValue : List Char → JVal → Prop
  | str {text s : List Char} : JStringValue text s → JValue text (.str s)
  | num {text : List Char} {n : Nat} : JNum text n → JValue text (.num n)
  | null : JValue ['n', 'u', 'l', 'l'] .null
  | map {text : List Char} {es : List (List Char × List Char)} :
    JObjectOf JStringValue text es → JValue text (.map es)

/-- one object followed by one line feed -/
inductive JLine : List Char → List (List Char × JVal) → Prop
  | mk {text : List Char} {ms : List (List Char × JVal)} :
    JObjectOf JValue text ms → JLine (text ++ ['\n']) ms

end Log4rs.Json
