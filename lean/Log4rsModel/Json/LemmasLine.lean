import Log4rsModel.Json.LemmasGrammar
/-
The line of one record: the members it carries as data (`membersOf`), that the line is derived by the
grammar with exactly these members, which keys they have, and what the Spec's interpretation of the
members (`toFields`) makes of them.
-/
namespace Log4rs.Json

/-- the members of the emitted object as data: keys in declaration order, absent options omitted -/
def membersOf (env : Env) (r : Record) : List (List Char × JVal) :=
  [(kTime, .str env.time), (kLevel, .str r.level.name), (kMessage, .str r.message)]
  ++ (match r.modulePath with | some m => [(kModulePath, .str m)] | none => [])
  ++ (match r.file with | some f => [(kFile, .str f)] | none => [])
  ++ (match r.line with | some n => [(kLine, .num n)] | none => [])
  ++ [(kTarget, .str r.target),
      (kThread, match env.thread with | some t => .str t | none => .null),
      (kThreadId, .num env.threadId),
      (kMdc, .map env.mdc)]

theorem messageMembers_eq (env : Env) (r : Record) :
    messageMembers env r = (membersOf env r).map fun p => member p.1 (renderVal p.2) := by
  unfold messageMembers membersOf
  rw [jstrPieces_eq]
  simp only [List.map_append]
  -- both sides are five blocks joined by `++`: compare block by block
  congr 1; congr 1; congr 1; congr 1
  · cases r.modulePath <;> rfl
  · cases r.file <;> rfl
  · cases r.line <;> rfl
  · cases env.thread <;> rfl

theorem jsonLine_in_grammar (env : Env) (r : Record) : JLine (jsonLine env r) (membersOf env r) := by
  unfold jsonLine NEWLINE
  rw [messageMembers_eq]
  exact JLine.mk (JObjectOf_object renderVal _ (fun p _ => JValue_renderVal p.2))

theorem body_printable (env : Env) (r : Record) : Printable (object (messageMembers env r)) := by
  refine object_printable _ fun m hm => ?_
  rw [messageMembers_eq] at hm
  obtain ⟨p, _, rfl⟩ := List.mem_map.mp hm
  exact member_printable _ _ (renderVal_printable _)

theorem utf8Char_ge (c : Char) (h : 0x20 ≤ c.toNat) : ∀ b ∈ utf8Char c, 0x20 ≤ b := fun b hb =>
  (utf8Char_byte c b hb).elim (fun e => e ▸ h) (Nat.le_trans (by decide))

theorem utf8_printable {s : List Char} (h : Printable s) : ∀ b ∈ utf8 s, 0x20 ≤ b := by
  intro b hb
  obtain ⟨c, hc, hbc⟩ := List.mem_flatMap.mp hb
  exact utf8Char_ge c (h c hc) b hbc

/-- the keys the emitted object must have, by presence of module path, file, line -/
def expectedKeysB (m f l : Bool) : List (List Char) :=
  [kTime, kLevel, kMessage]
  ++ (if m then [kModulePath] else [])
  ++ (if f then [kFile] else [])
  ++ (if l then [kLine] else [])
  ++ [kTarget, kThread, kThreadId, kMdc]

def expectedKeys (r : Record) : List (List Char) :=
  expectedKeysB r.modulePath.isSome r.file.isSome r.line.isSome

/-- (finite whole domain) an optional key is among the expected keys iff its field is present -/
theorem expectedKeysB_mem : ∀ m f l : Bool,
    (kModulePath ∈ expectedKeysB m f l ↔ m = true) ∧ (kFile ∈ expectedKeysB m f l ↔ f = true) ∧
    (kLine ∈ expectedKeysB m f l ↔ l = true) := by decide +kernel

/-- (finite whole domain) whatever is present, the keys are known to the Spec and no key comes twice -/
theorem expectedKeysB_wf : ∀ m f l : Bool,
    ((expectedKeysB m f l).all knownKeys.contains && noDupKeys (expectedKeysB m f l)) = true := by
  decide +kernel

theorem membersOf_keys (env : Env) (r : Record) : (membersOf env r).map (·.1) = expectedKeys r := by
  unfold membersOf expectedKeys expectedKeysB
  simp only [List.map_append]
  -- block by block, as in `messageMembers_eq`
  congr 1; congr 1; congr 1; congr 1
  · cases r.modulePath <;> rfl
  · cases r.file <;> rfl
  · cases r.line <;> rfl

theorem lookup_of_mem_of_noDup {β : Type} (l : List (List Char × β)) (h : noDupKeys (l.map (·.1)) = true) :
    ∀ kv ∈ l, l.lookup kv.1 = some kv.2 := by
  induction l with
  | nil => intro kv hkv; cases hkv
  | cons e rest ih =>
    obtain ⟨k, v⟩ := e
    simp only [List.map_cons, noDupKeys, Bool.and_eq_true, Bool.not_eq_true', List.contains_eq_mem,
      decide_eq_false_iff_not] at h
    intro kv hkv
    rcases List.mem_cons.mp hkv with rfl | hin
    · simp [List.lookup]
    · have hne : kv.1 ≠ k := fun he => h.1 (he ▸ List.mem_map_of_mem hin)
      rw [List.lookup_cons, beq_false_of_ne hne]
      exact ih h.2 kv hin

theorem lookup_eq_none_of_not_mem_keys {β : Type} {l : List (List Char × β)} {k : List Char}
    (h : k ∉ l.map (·.1)) : l.lookup k = none :=
  List.lookup_eq_none_iff.mpr fun _ hp => bne_iff_ne.mpr fun e => h (e ▸ List.mem_map_of_mem hp)

theorem sameMap_self (l : List (List Char × List Char)) (h : noDupKeys (l.map (·.1)) = true) :
    sameMap l l = true := by
  simp only [sameMap, h, Bool.true_and, beq_self_eq_true, List.all_eq_true, beq_iff_eq]
  exact lookup_of_mem_of_noDup l h

section Getters
variable {ms : List (List Char × JVal)} {k : List Char}

theorem getOptStr_of_lookup {o : Option (List Char)} (h : ms.lookup k = o.map .str) :
    getOptStr ms k = some o := by
  cases o <;> rw [getOptStr, h] <;> rfl

theorem getOptNum_of_lookup {o : Option Nat} (h : ms.lookup k = o.map .num) : getOptNum ms k = some o := by
  cases o <;> rw [getOptNum, h] <;> rfl

theorem getNullableStr_of_lookup {o : Option (List Char)}
    (h : ms.lookup k = some (match o with | some t => .str t | none => .null)) :
    getNullableStr ms k = some o := by
  cases o <;> rw [getNullableStr, h]

theorem toFieldsCore_of_lookups {f : Fields}
    (hkeys : ((ms.map (·.1)).all knownKeys.contains && noDupKeys (ms.map (·.1))) = true)
    (h1 : ms.lookup kTime = some (.str f.time)) (h2 : ms.lookup kLevel = some (.str f.level))
    (h3 : ms.lookup kMessage = some (.str f.message)) (h4 : ms.lookup kModulePath = f.modulePath.map .str)
    (h5 : ms.lookup kFile = f.file.map .str) (h6 : ms.lookup kLine = f.line.map .num)
    (h7 : ms.lookup kTarget = some (.str f.target))
    (h8 : ms.lookup kThread = some (match f.thread with | some t => .str t | none => .null))
    (h9 : ms.lookup kThreadId = some (.num f.threadId)) (h10 : ms.lookup kMdc = some (.map f.mdc)) :
    toFieldsCore ms = some f := by
  simp only [toFieldsCore, hkeys, if_true, getStr, getNum, getMap, h1, h2, h3, h7, h9, h10,
    getOptStr_of_lookup h4, getOptStr_of_lookup h5, getOptNum_of_lookup h6, getNullableStr_of_lookup h8]

end Getters

/-- the keys are distinct, so looking a key up finds the member that carries it -/
theorem membersOf_lookup {env : Env} {r : Record} {k : List Char} {v : JVal} (h : (k, v) ∈ membersOf env r) :
    (membersOf env r).lookup k = some v := by
  refine lookup_of_mem_of_noDup _ ?_ (k, v) h
  rw [membersOf_keys]
  exact (Bool.and_eq_true_iff.mp (expectedKeysB_wf _ _ _)).2

/-- an optional member: found when present; when absent its key is not among the keys at all -/
theorem membersOf_lookup_opt {env : Env} {r : Record} {k : List Char} {α : Type} {o : Option α} {j : α → JVal}
    (hpres : ∀ a, o = some a → (k, j a) ∈ membersOf env r) (habs : k ∈ expectedKeys r → o.isSome = true) :
    (membersOf env r).lookup k = o.map j := by
  cases o with
  | some a => exact membersOf_lookup (hpres a rfl)
  | none =>
    exact lookup_eq_none_of_not_mem_keys fun hm => Bool.noConfusion (habs (membersOf_keys env r ▸ hm))

theorem toFieldsCore_membersOf (env : Env) (r : Record) :
    toFieldsCore (membersOf env r) = some (fieldsOf env r) := by
  have hk := expectedKeysB_mem r.modulePath.isSome r.file.isSome r.line.isSome
  refine toFieldsCore_of_lookups ?keys (membersOf_lookup ?_) (membersOf_lookup ?_) (membersOf_lookup ?_)
    (membersOf_lookup_opt (fun a (h : r.modulePath = some a) => ?_) hk.1.mp)
    (membersOf_lookup_opt (fun a (h : r.file = some a) => ?_) hk.2.1.mp)
    (membersOf_lookup_opt (fun a (h : r.line = some a) => ?_) hk.2.2.mp)
    (membersOf_lookup ?_) (membersOf_lookup ?_) (membersOf_lookup ?_) (membersOf_lookup ?_)
  case keys => rw [membersOf_keys]; exact expectedKeysB_wf _ _ _
  -- what remains are ten memberships, each seen by looking through the blocks of `membersOf`
  all_goals simp only [membersOf, fieldsOf, List.mem_append, List.mem_cons, true_or, or_true, *]

/-- the thread's MDC is a map: no key twice -/
def MdcIsMap (env : Env) : Prop := noDupKeys (env.mdc.map (·.1)) = true

instance (env : Env) : Decidable (MdcIsMap env) := by unfold MdcIsMap; infer_instance

theorem toFields_membersOf (env : Env) (r : Record) (h : MdcIsMap env) :
    toFields (membersOf env r) = some (fieldsOf env r) := by
  rw [toFields, toFieldsCore_membersOf]
  exact if_pos h

theorem toFields_membersOf_dup (env : Env) (r : Record) (h : ¬ MdcIsMap env) :
    toFields (membersOf env r) = none := by
  rw [toFields, toFieldsCore_membersOf]
  exact if_neg h

end Log4rs.Json
