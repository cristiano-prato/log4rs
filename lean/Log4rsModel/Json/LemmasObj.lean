import Log4rsModel.Json.LemmasStr
/-
The writer's numbers and framing: `natDigits` writes the decimal numeral of the grammar, and the
equations of `member`, `joinMembers`, `object` with the fact that framing adds nothing below 0x20.
-/
namespace Log4rs.Json

/-- (finite table) the first ten entries of `HEX_DIGITS` are the decimal digits, in order -/
theorem digit_facts : ∀ d, d < 10 →
    ('0' ≤ hexDigit d ∧ hexDigit d ≤ '9') ∧ (hexDigit d).toNat - 48 = d := by decide +kernel

theorem natDigits_lt (n : Nat) (h : n < 10) : natDigits n = [hexDigit n] := by
  rw [natDigits, if_pos h]

theorem natDigits_ge (n : Nat) (h : ¬ n < 10) : natDigits n = natDigits (n / 10) ++ [hexDigit (n % 10)] := by
  rw [natDigits, if_neg h]

theorem decimalValue_snoc (ds : List Char) (c : Char) :
    decimalValue (ds ++ [c]) = decimalValue ds * 10 + (c.toNat - 48) := by
  simp only [decimalValue, List.foldl_append, List.foldl_cons, List.foldl_nil]

/-- `itoa` writes the numeral the grammar assigns to `n`.  In the step, a leading `0` would be the
    whole numeral of `n / 10`, whose value is then 0 — but `n ≥ 10`. -/
theorem JNum_natDigits (n : Nat) : JNum (natDigits n) n := by
  induction n using Nat.strongRecOn with
  | _ n ih =>
    by_cases h : n < 10
    · obtain ⟨hd, hv⟩ := digit_facts n h
      rw [natDigits_lt n h]
      refine ⟨List.cons_ne_nil _ _, fun c hc => ?_, fun h0 => ?_, ?_⟩
      · rw [List.mem_singleton.mp hc]; exact hd
      · rw [Option.some.inj h0]
      · rw [← List.nil_append [hexDigit n], decimalValue_snoc, hv]
        exact (Nat.zero_add n).symm
    · obtain ⟨hd, hv⟩ := digit_facts (n % 10) (Nat.mod_lt n (by decide))
      have ih' := ih (n / 10) (Nat.div_lt_self (Nat.lt_of_lt_of_le (by decide) (Nat.le_of_not_lt h)) (by decide))
      rw [natDigits_ge n h]
      refine ⟨List.append_ne_nil_of_right_ne_nil _ (List.cons_ne_nil _ _), fun c hc => ?_, fun h0 => ?_, ?_⟩
      · rcases List.mem_append.mp hc with hc | hc
        · exact ih'.digits c hc
        · rw [List.mem_singleton.mp hc]; exact hd
      · have h1 : (natDigits (n / 10)).head? = some '0' := by
          obtain ⟨d, ds, hds⟩ := List.exists_cons_of_ne_nil ih'.nonempty
          rw [hds] at h0 ⊢; exact h0
        have hv0 := ih'.value
        rw [ih'.noLeadingZero h1] at hv0
        exact absurd (Nat.lt_of_div_eq_zero (by decide) hv0) h
      · rw [decimalValue_snoc, ← ih'.value, hv]
        exact (Nat.div_add_mod' n 10).symm

theorem natDigits_printable (n : Nat) : Printable (natDigits n) :=
  fun c hc => Nat.le_trans (by decide) (show 48 ≤ c.toNat from ((JNum_natDigits n).digits c hc).1)

theorem member_eq (k v : List Char) : member k v = '"' :: (escape k ++ '"' :: ':' :: v) := by
  simp [member, jstr]

theorem joinMembers_cons_cons (x y : List Char) (ys : List (List Char)) :
    joinMembers (x :: y :: ys) = x ++ ',' :: joinMembers (y :: ys) := rfl

theorem member_printable (k v : List Char) (hv : Printable v) : Printable (member k v) :=
  printable_append.mpr ⟨jstr_printable k, printable_cons.mpr ⟨by decide, hv⟩⟩

theorem joinMembers_printable (ms : List (List Char)) (h : ∀ m ∈ ms, Printable m) : Printable (joinMembers ms) := by
  induction ms with
  | nil => exact printable_nil
  | cons m ms ih =>
    cases ms with
    | nil => exact h m List.mem_cons_self
    | cons m' ms' =>
      rw [joinMembers_cons_cons]
      exact printable_append.mpr ⟨h m List.mem_cons_self, printable_cons.mpr ⟨by decide,
        ih (fun x hx => h x (List.mem_cons_of_mem _ hx))⟩⟩

theorem object_printable (ms : List (List Char)) (h : ∀ m ∈ ms, Printable m) : Printable (object ms) :=
  printable_cons.mpr ⟨by decide, printable_append.mpr ⟨joinMembers_printable ms h,
    printable_cons.mpr ⟨by decide, printable_nil⟩⟩⟩

end Log4rs.Json
