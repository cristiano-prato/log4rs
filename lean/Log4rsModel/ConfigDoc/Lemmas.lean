import Log4rsModel.ConfigDoc.Spec
/-
Lemmas for C14.  First the equations the rest is written with: `lookup`, `unknownKey`, `without` on
sections built by `++` from single entries and `optEntry`s (the shape of every rendered section), and
`interp` one input form at a time, a struct being the fold of `fieldOf` over its fields.  Then:
unknown keys, error propagation along the strict edges of a schema, defaults, one appender entry and
the compositionality of `appenders_lossy`, key order, panic freedom of the constructors.
-/
namespace Log4rs.ConfigDoc
open Log4rs Log4rs.Literals Log4rs.Routing

/-! ### sections written as `++` of single entries and `optEntry`s -/

@[simp] theorem lookup_nil (k : Key) : lookup k [] = none := rfl

@[simp] theorem lookup_cons (k k' : Key) (v : Value) (r : Entries) :
    lookup k ((k', v) :: r) = if k' = k then some v else lookup k r := rfl

@[simp] theorem lookup_append (k : Key) (xs ys : Entries) :
    lookup k (xs ++ ys) = (lookup k xs).or (lookup k ys) := by
  induction xs with
  | nil => rfl
  | cons x xs ih =>
    obtain ⟨k1, v1⟩ := x
    by_cases h : k1 = k <;> simp [h, ih]

@[simp] theorem lookup_optEntry (k k' : Key) (o : Option Value) :
    lookup k (optEntry k' o) = if k' = k then o else none := by
  cases o <;> simp [optEntry]

theorem lookup_append_ne (k k' : Key) (v : Value) (kvs : Entries) (h : k' ≠ k) :
    lookup k (kvs ++ [(k', v)]) = lookup k kvs := by
  simp [h]

theorem unknownKey_eq (names : List Key) (kvs : Entries) :
    unknownKey names kvs = (kvs.find? (fun kv => !names.contains kv.1)).map (·.1) := by
  unfold unknownKey
  cases kvs.find? (fun kv => !names.contains kv.1) <;> rfl

@[simp] theorem unknownKey_nil (names : List Key) : unknownKey names [] = none := rfl

@[simp] theorem unknownKey_cons (names : List Key) (k : Key) (v : Value) (r : Entries) :
    unknownKey names ((k, v) :: r) = if k ∈ names then unknownKey names r else some k := by
  by_cases h : k ∈ names <;> simp [unknownKey_eq, h]

@[simp] theorem unknownKey_append (names : List Key) (xs ys : Entries) :
    unknownKey names (xs ++ ys) = (unknownKey names xs).or (unknownKey names ys) := by
  simp only [unknownKey_eq, List.find?_append, Option.map_or]

@[simp] theorem unknownKey_optEntry (names : List Key) (k : Key) (o : Option Value) :
    unknownKey names (optEntry k o) = if k ∈ names then none else o.map fun _ => k := by
  cases o with
  | none => simp [optEntry]
  | some v => simp only [optEntry, unknownKey_cons, unknownKey_nil, Option.map_some]

@[simp] theorem without_nil (ks : List Key) : without ks [] = [] := rfl

@[simp] theorem without_cons (ks : List Key) (k : Key) (v : Value) (r : Entries) :
    without ks ((k, v) :: r) = if k ∈ ks then without ks r else (k, v) :: without ks r := by
  by_cases h : k ∈ ks <;> simp [without, h]

@[simp] theorem without_append (ks : List Key) (xs ys : Entries) :
    without ks (xs ++ ys) = without ks xs ++ without ks ys := List.filter_append ..

@[simp] theorem without_optEntry (ks : List Key) (k : Key) (o : Option Value) :
    without ks (optEntry k o) = if k ∈ ks then [] else optEntry k o := by
  cases o with
  | none => simp [optEntry]
  | some v => simp only [optEntry, without_cons, without_nil]

/-- only the consumed keys are taken out of the map handed on to the kind's config -/
theorem mem_keys_without (ks : List Key) (kvs : Entries) (k : Key)
    (hk : k ∈ keys kvs) (hn : k ∉ ks) : k ∈ keys (without ks kvs) := by
  simp only [keys, without, List.mem_map, List.mem_filter] at hk ⊢
  obtain ⟨kv, hkv, rfl⟩ := hk
  exact ⟨kv, ⟨hkv, by simpa using hn⟩, rfl⟩

/-! ### the interpreter, one input form at a time -/

@[simp] theorem interp_leaf (ss : Bool) (l : Leaf) (v : Value) : interp ss (.leaf l) v = interpLeaf l v :=
  rfl

theorem interp_opt_ne {ss : Bool} {s : Schema} {v : Value} (hv : v ≠ .null) :
    interp ss (.opt s) v =
      match interp ss s v with
      | .ok t => .ok (.just t)
      | .error e => .error e := by
  cases v <;> first | exact absurd rfl hv | rfl

theorem interp_opt {ss : Bool} {s : Schema} {v : Value} {t : Typed} (hv : v ≠ .null)
    (h : interp ss s v = .ok t) : interp ss (.opt s) v = .ok (.just t) := by
  rw [interp_opt_ne hv, h]

theorem interp_mapOf (ss : Bool) (s : Schema) (kvs : Entries) :
    interp ss (.mapOf s) (.map kvs) =
      match mapEntries (fun v => interp ss s v) kvs with
      | .ok ts => .ok (.dict ts)
      | .error e => .error e :=
  rfl

theorem interp_seqOf (ss : Bool) (s : Schema) (xs : List Value) :
    interp ss (.seqOf s) (.seq xs) =
      match mapVals (fun v => interp ss s v) xs with
      | .ok ts => .ok (.list ts)
      | .error e => .error e :=
  rfl

theorem interp_struct (ss deny : Bool) (fields : List Field) (kvs : Entries) :
    interp ss (.struct deny fields) (.map kvs) =
      match (if deny then unknownKey (fieldNames fields) kvs else none) with
      | some k => .error (.unknownField k)
      | none =>
        match interpFields ss fields kvs with
        | .ok ts => .ok (.record ts)
        | .error e => .error e :=
  rfl

theorem interp_tagged (ss : Bool) (dflt : Option Key) (deferred : Bool) (extras : List Field)
    (cases : List (Key × Schema)) (kvs : Entries) :
    interp ss (.tagged dflt deferred extras cases) (.map kvs) =
      match kindOf dflt kvs with
      | .error e => .error e
      | .ok kind =>
        match interpFields ss extras kvs with
        | .error e => .error e
        | .ok es =>
          match interpCases ss cases kind (without (c!"kind" :: fieldNames extras) kvs) with
          | .ok t => .ok (.tagged kind es t)
          | .error e => if deferred then .ok (.tagged kind es (.failed e)) else .error e :=
  rfl

theorem interp_lazy_error (ss : Bool) (s : Schema) (v : Value) (e : Err)
    (h : interp ss s v = .error e) : interp ss (.lazy s) v = .ok (.failed e) := by
  unfold interp; rw [h]

theorem interp_lazy_ok (ss : Bool) (s : Schema) (v : Value) (t : Typed)
    (h : interp ss s v = .ok t) : interp ss (.lazy s) v = .ok t := by
  unfold interp; rw [h]

theorem interp_lazy_total (ss : Bool) (s : Schema) (v : Value) :
    ∃ t, interp ss (.lazy s) v = .ok t := by
  cases h : interp ss s v with
  | ok t => exact ⟨t, interp_lazy_ok ss s v t h⟩
  | error e => exact ⟨_, interp_lazy_error ss s v e h⟩

theorem interp_struct_ok (ss deny : Bool) (fields : List Field) (kvs : Entries) (t : Typed)
    (h : interp ss (.struct deny fields) (.map kvs) = .ok t) :
    ∃ ts, t = .record ts ∧ interpFields ss fields kvs = .ok ts := by
  rw [interp_struct] at h
  split at h
  · cases h
  · cases hf : interpFields ss fields kvs with
    | error e => rw [hf] at h; cases h
    | ok ts => rw [hf] at h; cases h; exact ⟨ts, rfl, rfl⟩

/-- One field of a struct: the value found under its key is typed by the field's schema; an absent
key gives the default, or `missing field`. -/
def fieldOf (ss : Bool) (k : Key) (d : Option Typed) (s : Schema) : Option Value → Except Err Typed
  | some v => interp ss s v
  | none =>
    match d with
    | some t => .ok t
    | none => .error (.missingField k)

@[simp] theorem fieldOf_some (ss : Bool) (k : Key) (d : Option Typed) (s : Schema) (v : Value) :
    fieldOf ss k d s (some v) = interp ss s v := rfl

@[simp] theorem fieldOf_none (ss : Bool) (k : Key) (t : Typed) (s : Schema) :
    fieldOf ss k (some t) s none = .ok t := rfl

@[simp] theorem interpFields_nil (ss : Bool) (kvs : Entries) : interpFields ss [] kvs = .ok [] := by
  simp only [interpFields]

@[simp] theorem interpFields_cons (ss : Bool) (k : Key) (d : Option Typed) (s : Schema) (fs : List Field)
    (kvs : Entries) :
    interpFields ss ((k, d, s) :: fs) kvs =
      match fieldOf ss k d s (lookup k kvs) with
      | .error e => .error e
      | .ok t =>
        match interpFields ss fs kvs with
        | .error e => .error e
        | .ok ts => .ok ((k, t) :: ts) := by
  simp only [interpFields, fieldOf]
  cases lookup k kvs <;> rfl

@[simp] theorem kindOf_kind (dflt : Option Key) (kind : Key) (r : Entries) :
    kindOf dflt ((c!"kind", .str kind) :: r) = .ok kind := rfl

/-- a field rendered from an optional logical value, for a field with a default -/
theorem fieldOf_map {α} {ss : Bool} {s : Schema} {f : α → Value} {g : α → Typed} {x : Option α}
    (h : ∀ a ∈ x, interp ss s (f a) = .ok (g a)) (k : Key) (d : Typed) :
    fieldOf ss k (some d) s (x.map f) = .ok ((x.map g).getD d) := by
  cases x with
  | none => rfl
  | some a => exact h a rfl

/-- the typed `Option<T>` field -/
def typedOpt : Option Typed → Typed
  | some t => .just t
  | none => .nothing

/-- a field rendered from an optional logical value, for an `Option<T>` field -/
theorem fieldOf_opt {α} {ss : Bool} {s : Schema} {f : α → Value} {g : α → Typed} {x : Option α}
    (hn : ∀ a, f a ≠ .null) (h : ∀ a ∈ x, interp ss s (f a) = .ok (g a)) (k : Key) :
    fieldOf ss k (some .nothing) (.opt s) (x.map f) = .ok (typedOpt (x.map g)) := by
  cases x with
  | none => rfl
  | some a => exact interp_opt (hn a) (h a rfl)

theorem mapVals_map {α} {f : Value → Except Err Typed} {r : α → Value} {t : α → Typed} {as : List α}
    (h : ∀ a ∈ as, f (r a) = .ok (t a)) : mapVals f (as.map r) = .ok (as.map t) := by
  induction as with
  | nil => rfl
  | cons a as ih =>
    simp only [List.map_cons, mapVals, h a List.mem_cons_self,
      ih (fun x hx => h x (List.mem_cons_of_mem _ hx))]

/-- a table is typed value by value, the keys carried along -/
theorem mapEntries_eq (f : Value → Except Err Typed) (kvs : Entries) :
    mapEntries f kvs = (mapVals f (kvs.map (·.2))).map ((kvs.map (·.1)).zip ·) := by
  induction kvs with
  | nil => rfl
  | cons x xs ih =>
    obtain ⟨k, v⟩ := x
    simp only [mapEntries, List.map_cons, mapVals, ih]
    cases f v with
    | error e => rfl
    | ok t => cases mapVals f (xs.map (·.2)) <;> rfl

theorem mapEntries_map {α} {f : Value → Except Err Typed} {n : α → Key} {r : α → Value} {t : α → Typed}
    {as : List α} (h : ∀ a ∈ as, f (r a) = .ok (t a)) :
    mapEntries f (as.map fun a => (n a, r a)) = .ok (as.map fun a => (n a, t a)) := by
  rw [mapEntries_eq, List.map_map, List.map_map, show ((·.2) ∘ fun a => (n a, r a)) = r from rfl, mapVals_map h]
  simp [Except.map, List.zip_map']

/-! ### unknown keys -/

theorem unknownKey_none_iff (names : List Key) (kvs : Entries) :
    unknownKey names kvs = none ↔ ∀ k ∈ keys kvs, k ∈ names := by
  simp [unknownKey_eq, keys]

theorem unknownKey_isSome (names : List Key) (kvs : Entries) (k : Key)
    (hk : k ∈ keys kvs) (hn : k ∉ names) : ∃ k', unknownKey names kvs = some k' ∧ k' ∉ names := by
  cases h : unknownKey names kvs with
  | none => exact absurd ((unknownKey_none_iff names kvs).mp h k hk) hn
  | some k' =>
    refine ⟨k', rfl, ?_⟩
    rw [unknownKey_eq, Option.map_eq_some_iff] at h
    obtain ⟨kv, hf, rfl⟩ := h
    simpa using List.find?_some hf

/-- a struct with `deny_unknown_fields` rejects a map that has a key which is not a field -/
theorem interp_struct_unknown (ss : Bool) (fields : List Field) (kvs : Entries) (k : Key)
    (hk : k ∈ keys kvs) (hn : k ∉ fieldNames fields) :
    ∃ k', interp ss (.struct true fields) (.map kvs) = .error (.unknownField k') ∧
      k' ∉ fieldNames fields := by
  obtain ⟨k', h, hk'⟩ := unknownKey_isSome (fieldNames fields) kvs k hk hn
  refine ⟨k', ?_, hk'⟩
  rw [interp_struct, if_pos rfl, h]

/-! ### error propagation -/

theorem mapVals_error (f : Value → Except Err Typed) (xs : List Value) (x : Value) (e : Err)
    (hx : x ∈ xs) (he : f x = .error e) : ∃ e', mapVals f xs = .error e' := by
  induction xs with
  | nil => cases hx
  | cons y ys ih =>
    simp only [mapVals]
    rcases List.mem_cons.mp hx with rfl | h
    · rw [he]; exact ⟨e, rfl⟩
    · cases hy : f y with
      | error e1 => exact ⟨e1, rfl⟩
      | ok t =>
        obtain ⟨e', h'⟩ := ih h
        rw [h']; exact ⟨e', rfl⟩

theorem mapEntries_error (f : Value → Except Err Typed) (kvs : Entries) (k : Key) (x : Value)
    (e : Err) (hx : (k, x) ∈ kvs) (he : f x = .error e) : ∃ e', mapEntries f kvs = .error e' := by
  obtain ⟨e', h⟩ := mapVals_error f (kvs.map (·.2)) x e (List.mem_map.mpr ⟨(k, x), hx, rfl⟩) he
  exact ⟨e', by rw [mapEntries_eq, h]; rfl⟩

/-- a field that fails — a value its schema rejects, or a required key that is absent — fails the
section -/
theorem interpFields_error {ss : Bool} {fields : List Field} {kvs : Entries} {k : Key} {d : Option Typed}
    {s : Schema} {e : Err} (hf : (k, d, s) ∈ fields) (he : fieldOf ss k d s (lookup k kvs) = .error e) :
    ∃ e', interpFields ss fields kvs = .error e' := by
  induction fields with
  | nil => cases hf
  | cons f fs ih =>
    obtain ⟨k1, d1, s1⟩ := f
    rw [interpFields_cons]
    rcases List.mem_cons.mp hf with h | h
    · cases h; rw [he]; exact ⟨e, rfl⟩
    · obtain ⟨e', h'⟩ := ih h
      rw [h']
      split <;> exact ⟨_, rfl⟩

theorem interpFields_ok {ss : Bool} {fields : List Field} {kvs : Entries}
    (h : ∀ k d s, (k, d, s) ∈ fields → ∃ t, fieldOf ss k d s (lookup k kvs) = .ok t) :
    ∃ ts, interpFields ss fields kvs = .ok ts := by
  induction fields with
  | nil => exact ⟨[], interpFields_nil ..⟩
  | cons f fs ih =>
    obtain ⟨k, d, s⟩ := f
    obtain ⟨t, ht⟩ := h k d s List.mem_cons_self
    obtain ⟨ts, hts⟩ := ih fun k d s hm => h k d s (List.mem_cons_of_mem _ hm)
    exact ⟨(k, t) :: ts, by rw [interpFields_cons, ht, hts]⟩

/-- first schema registered for a kind -/
def caseOf : List (Key × Schema) → Key → Option Schema
  | [], _ => none
  | (k, s) :: cs, kind => if k = kind then some s else caseOf cs kind

/-- `Deserializers::deserialize`: the kind's registered schema, or `unknownKind` -/
theorem interpCases_caseOf (ss : Bool) (cases : List (Key × Schema)) (kind : Key) (kvs : Entries) :
    interpCases ss cases kind kvs =
      match caseOf cases kind with
      | some s => interp ss s (.map kvs)
      | none => .error (.unknownKind kind) := by
  induction cases with
  | nil => simp [caseOf, interpCases]
  | cons c cs ih =>
    obtain ⟨k, s⟩ := c
    by_cases hk : k = kind <;> simp [caseOf, interpCases, hk, ih]

/-- `(s', v')` is reached from `(s, v)` through edges along which an error is propagated (not
through the remaining keys of a `deferred` kind-tagged map) -/
inductive Sub (ss : Bool) : Schema → Value → Schema → Value → Prop
  | refl (s v) : Sub ss s v s v
  | opt {s v s' v'} : v ≠ .null → Sub ss s v s' v' → Sub ss (.opt s) v s' v'
  | seqElem {s xs x s' v'} : x ∈ xs → Sub ss s x s' v' → Sub ss (.seqOf s) (.seq xs) s' v'
  | mapElem {s kvs k x s' v'} : (k, x) ∈ kvs → Sub ss s x s' v' → Sub ss (.mapOf s) (.map kvs) s' v'
  | field {deny fields kvs k d s x s' v'} : (k, d, s) ∈ fields → lookup k kvs = some x →
      Sub ss s x s' v' → Sub ss (.struct deny fields) (.map kvs) s' v'
  | extra {dflt deferred extras cases kvs k d s x s' v'} : (k, d, s) ∈ extras →
      lookup k kvs = some x → Sub ss s x s' v' →
      Sub ss (.tagged dflt deferred extras cases) (.map kvs) s' v'
  | body {dflt extras cases kvs kind s s' v'} : kindOf dflt kvs = .ok kind →
      caseOf cases kind = some s →
      Sub ss s (.map (without (c!"kind" :: fieldNames extras) kvs)) s' v' →
      Sub ss (.tagged dflt false extras cases) (.map kvs) s' v'

theorem interp_sub_error (ss : Bool) {s v s' v'} (h : Sub ss s v s' v')
    (he : ∃ e', interp ss s' v' = .error e') : ∃ e, interp ss s v = .error e := by
  induction h with
  | refl s v => exact he
  | @opt s v s' v' hv _ ih =>
    obtain ⟨e, h⟩ := ih he
    rw [interp_opt_ne hv, h]
    exact ⟨e, rfl⟩
  | @seqElem s xs x s' v' hx _ ih =>
    obtain ⟨e, h⟩ := ih he
    obtain ⟨e1, h1⟩ := mapVals_error (fun v => interp ss s v) xs x e hx h
    rw [interp_seqOf, h1]
    exact ⟨e1, rfl⟩
  | @mapElem s kvs k x s' v' hx _ ih =>
    obtain ⟨e, h⟩ := ih he
    obtain ⟨e1, h1⟩ := mapEntries_error (fun v => interp ss s v) kvs k x e hx h
    rw [interp_mapOf, h1]
    exact ⟨e1, rfl⟩
  | @field deny fields kvs k d s x s' v' hf hl _ ih =>
    obtain ⟨e, h⟩ := ih he
    obtain ⟨e1, h1⟩ := interpFields_error (kvs := kvs) hf (by rw [hl]; exact h)
    rw [interp_struct, h1]
    split <;> exact ⟨_, rfl⟩
  | @extra dflt deferred extras cases kvs k d s x s' v' hf hl _ ih =>
    obtain ⟨e, h⟩ := ih he
    obtain ⟨e1, h1⟩ := interpFields_error (kvs := kvs) hf (by rw [hl]; exact h)
    rw [interp_tagged, h1]
    split <;> exact ⟨_, rfl⟩
  | @body dflt extras cases kvs kind s s' v' hk hc _ ih =>
    obtain ⟨e, h⟩ := ih he
    rw [interp_tagged, hk]
    cases hx : interpFields ss extras kvs with
    | error e1 => exact ⟨e1, rfl⟩
    | ok es =>
      simp only [interpCases_caseOf, hc, h]
      exact ⟨e, by simp⟩

/-! ### defaults -/

/-- where a section is typed, the record holds under each field's key what `fieldOf` makes of the
entry with that key -/
theorem interpFields_tlookup {ss : Bool} {fields : List Field} {kvs : Entries} {ts : List (Key × Typed)}
    (hnd : (fieldNames fields).Nodup) (h : interpFields ss fields kvs = .ok ts)
    {k : Key} {d : Option Typed} {s : Schema} (hf : (k, d, s) ∈ fields) :
    ∃ t, fieldOf ss k d s (lookup k kvs) = .ok t ∧ tlookup k ts = some t := by
  induction fields generalizing ts with
  | nil => cases hf
  | cons f fs ih =>
    obtain ⟨k1, d1, s1⟩ := f
    rw [interpFields_cons] at h
    rw [fieldNames, List.map_cons, List.nodup_cons] at hnd
    cases h1 : fieldOf ss k1 d1 s1 (lookup k1 kvs) with
    | error e => rw [h1] at h; cases h
    | ok t1 =>
      cases h2 : interpFields ss fs kvs with
      | error e => rw [h1, h2] at h; cases h
      | ok ts' =>
        rw [h1, h2] at h
        cases h
        rcases List.mem_cons.mp hf with hh | hh
        · cases hh; exact ⟨t1, h1, by simp [tlookup]⟩
        · obtain ⟨t, ht, hl⟩ := ih hnd.2 h2 hh
          have hne : k1 ≠ k := fun heq => hnd.1 (heq ▸ List.mem_map.mpr ⟨_, hh, rfl⟩)
          exact ⟨t, ht, by simp only [tlookup, hne, if_false, hl]⟩

theorem kindOf_default (dflt : Key) (kvs : Entries) (h : lookup (c!"kind") kvs = none) :
    kindOf (some dflt) kvs = .ok dflt := by
  simp only [kindOf, h]

theorem kindOf_required (kvs : Entries) (h : lookup (c!"kind") kvs = none) :
    kindOf none kvs = .error (.missingField (c!"kind")) := by
  simp only [kindOf, h]

/-! ### one appender entry -/

/-- What the config of an appender entry contributes, given the levels of its surviving filters: the
appender, or its report. -/
def bodyOutcome (env : Env) (name kind : Key) (levels : List Nat) (body : Typed) :
    List LoadErr × AppenderResult :=
  match body with
  | .failed _ => ([.appender name], .dropped)
  | _ =>
    match constructAppender env name levels kind body with
    | .ok d => ([], .kept d)
    | .err _ => ([.appender name], .dropped)
    | .panic w => ([], .panic w)

/-- the reports of an entry are those of its broken filters, then that of its config -/
theorem appenderOutcome_tagged (env : Env) (name kind : Key) (extras : List (Key × Typed)) (body : Typed) :
    appenderOutcome env name (.tagged kind extras body) =
      (((Typed.asList (tlookup (c!"filters") extras)).filter fun f => (filterOutcome f).isNone).map
          (fun _ => LoadErr.filter name)
        ++ (bodyOutcome env name kind
              ((Typed.asList (tlookup (c!"filters") extras)).filterMap filterOutcome) body).1,
       (bodyOutcome env name kind
              ((Typed.asList (tlookup (c!"filters") extras)).filterMap filterOutcome) body).2) := by
  simp only [appenderOutcome, bodyOutcome]
  split
  · rfl
  · cases constructAppender env name
      ((Typed.asList (tlookup (c!"filters") extras)).filterMap filterOutcome) kind body <;> simp

theorem bodyOutcome_err {env : Env} {name kind : Key} {levels : List Nat} {body : Typed} {e : Err}
    (h : constructAppender env name levels kind body = .err e) :
    bodyOutcome env name kind levels body = ([.appender name], .dropped) := by
  unfold bodyOutcome
  split
  · rfl
  · rw [h]

theorem const_map_shift {α β} (c : β) (l1 : List α) (l2 : List β) :
    l1.map (fun _ => c) ++ c :: l2 = c :: (l1.map (fun _ => c) ++ l2) := by
  induction l1 with
  | nil => rfl
  | cons a as ih => simp only [List.map_cons, List.cons_append, ih]

/-! ### `appenders_lossy` is compositional -/

def AppenderResult.kept? : AppenderResult → Option AppenderDesc
  | .kept d => some d
  | _ => none

def AppenderResult.panic? : AppenderResult → Option String
  | .panic w => some w
  | _ => none

/-- `appenders_lossy` in closed form: the first panic, or else the kept appenders and all reports,
in table order -/
theorem appendersLossy_eq (env : Env) (xs : List (Key × Typed)) :
    appendersLossy env xs =
      match xs.findSome? (fun p => (appenderOutcome env p.1 p.2).2.panic?) with
      | some w => .panic w
      | none => .ok (xs.filterMap (fun p => (appenderOutcome env p.1 p.2).2.kept?),
          xs.flatMap (fun p => (appenderOutcome env p.1 p.2).1)) := by
  induction xs with
  | nil => rfl
  | cons x xs ih =>
    obtain ⟨name, t⟩ := x
    simp only [appendersLossy, ih, List.findSome?_cons, List.filterMap_cons, List.flatMap_cons]
    rcases appenderOutcome env name t with ⟨errs, _ | _ | w⟩ <;>
      cases xs.findSome? (fun p => (appenderOutcome env p.1 p.2).2.panic?) <;> rfl

theorem appendersLossy_append (env : Env) (xs ys : List (Key × Typed)) :
    appendersLossy env (xs ++ ys) =
      match appendersLossy env xs with
      | .ok (d1, e1) =>
        (match appendersLossy env ys with
         | .ok (d2, e2) => .ok (d1 ++ d2, e1 ++ e2)
         | o => o)
      | o => o := by
  simp only [appendersLossy_eq, List.findSome?_append, List.filterMap_append, List.flatMap_append]
  cases xs.findSome? (fun p => (appenderOutcome env p.1 p.2).2.panic?) <;>
    cases ys.findSome? (fun p => (appenderOutcome env p.1 p.2).2.panic?) <;> rfl

theorem appendersLossy_no_err (env : Env) (xs : List (Key × Typed)) :
    ∀ e, appendersLossy env xs ≠ .err e := by
  intro e
  rw [appendersLossy_eq]
  split <;> simp

/-! ### key order -/

theorem lookup_eq_none_of_not_mem (k : Key) (kvs : Entries) (h : k ∉ keys kvs) : lookup k kvs = none := by
  induction kvs with
  | nil => rfl
  | cons x xs ih =>
    obtain ⟨k1, v1⟩ := x
    simp only [keys, List.map_cons, List.mem_cons, not_or] at h
    simp only [lookup, Ne.symm h.1, if_false]
    exact ih h.2

theorem lookup_eq_some_iff {k : Key} {v : Value} {kvs : Entries} (hnd : (keys kvs).Nodup) :
    lookup k kvs = some v ↔ (k, v) ∈ kvs := by
  induction kvs with
  | nil => simp
  | cons x xs ih =>
    obtain ⟨k1, v1⟩ := x
    simp only [keys, List.map_cons, List.nodup_cons] at hnd
    by_cases h : k1 = k
    · subst h
      have : ∀ v, (k1, v) ∉ xs := fun v hm => hnd.1 (List.mem_map.mpr ⟨_, hm, rfl⟩)
      simp [this]
      exact eq_comm
    · simp [h, ih hnd.2, Ne.symm h]

theorem lookup_perm (k : Key) {kvs kvs' : Entries} (hp : kvs.Perm kvs') (hnd : (keys kvs).Nodup) :
    lookup k kvs = lookup k kvs' := by
  have hnd' : (keys kvs').Nodup := (hp.map _).nodup_iff.mp hnd
  refine Option.ext fun v => ?_
  rw [lookup_eq_some_iff hnd, lookup_eq_some_iff hnd', hp.mem_iff]

theorem interpFields_congr (ss : Bool) (fields : List Field) (kvs kvs' : Entries)
    (h : ∀ k, lookup k kvs = lookup k kvs') :
    interpFields ss fields kvs = interpFields ss fields kvs' := by
  induction fields with
  | nil => simp only [interpFields]
  | cons f fs ih =>
    obtain ⟨k, d, s⟩ := f
    simp only [interpFields, h k, ih]

/-! ### the time trigger's constructor -/

def timeSafe (_u : TUnit) (n : Int) (modulate : Bool) (delay : Nat) : Bool :=
  !(modulate && n == 0) && decide (n.toNat ≤ TIME_SAFE) && decide (delay ≤ TIME_SAFE)

/-- holds for the historical and for the repaired constructor -/
theorem timeTriggerNewWith_safe (total : Bool) (u : TUnit) (n : Int) (m : Bool) (d : Nat)
    (h : timeSafe u n m d = true) : ∀ w, timeTriggerNewWith total u n m d ≠ .panic w := by
  intro w
  simp only [timeSafe, Bool.and_eq_true, Bool.not_eq_true', Bool.and_eq_false_iff, beq_eq_false_iff_ne,
    decide_eq_true_eq] at h
  obtain ⟨⟨h1, h2⟩, h3⟩ := h
  unfold timeTriggerNewWith
  have hz : ¬ (m = true ∧ n = 0) := by
    rintro ⟨hm, hn⟩
    rcases h1 with h1 | h1
    · rw [hm] at h1; cases h1
    · exact h1 hn
  have hs : ¬ (u = .second ∧ n.toNat > TIMEDELTA_MAX_SECS) := by
    rintro ⟨_, hgt⟩
    have : TIME_SAFE ≤ TIMEDELTA_MAX_SECS := by decide
    omega
  cases total with
  | true => simp
  | false => rw [if_neg (by simp), if_neg hz, if_neg hs, if_pos ⟨h2, h3⟩]; simp

/-- the repaired constructor is total: no configuration makes it panic -/
theorem timeTriggerNewWith_total (u : TUnit) (n : Int) (m : Bool) (d : Nat) :
    timeTriggerNewWith true u n m d = .ok () := by
  simp [timeTriggerNewWith]

/-! ### panics of loading come from the environment only -/

theorem andThen_no_panic {ε α β} (o : Outcome ε α) (f : α → Outcome ε β)
    (ho : ∀ w, o ≠ .panic w) (hf : ∀ a w, f a ≠ .panic w) : ∀ w, Outcome.andThen o f ≠ .panic w := by
  intro w
  cases o with
  | ok a => exact hf a w
  | err e => simp [Outcome.andThen]
  | panic w' => exact absurd rfl (ho w')

theorem constructRoller_np (t : Typed) : ∀ w, constructRoller t ≠ .panic w := by
  intro w
  unfold constructRoller
  split
  · split
    · simp only
      split
      · simp
      · split <;> simp
    · simp
  · simp

section
variable (env : Env) (henv : env.NoPanic)
include henv

theorem constructEncoder_np (enc : Option Typed) :
    ∀ w, constructEncoder env enc ≠ .panic w := by
  intro w
  unfold constructEncoder
  split
  · split
    · simp
    · exact andThen_no_panic _ _ (henv.2.1 _) (fun _ w => by simp) w
  · exact andThen_no_panic _ _ (henv.2.1 _) (fun _ w => by simp) w

theorem constructTrigger_np (t : Typed) :
    ∀ w, constructTrigger env t ≠ .panic w := by
  intro w
  unfold constructTrigger
  split
  · split
    · split
      · exact andThen_no_panic _ _ (henv.2.2 _ _ _ _) (fun _ w => by simp) w
      · simp
    · split <;> simp
  · simp

theorem constructPolicy_np (p : Option Typed) :
    ∀ w, constructPolicy env p ≠ .panic w := by
  intro w
  unfold constructPolicy
  split
  · refine andThen_no_panic _ _ ?_ (fun td w => andThen_no_panic _ _ ?_ (fun _ w => by simp) w) w
    · intro w; split
      · exact constructTrigger_np env henv _ w
      · simp
    · intro w; split
      · exact constructRoller_np _ w
      · simp
  · simp

theorem constructAppender_np (name : Key) (levels : List Nat)
    (kind : Key) (body : Typed) : ∀ w, constructAppender env name levels kind body ≠ .panic w := by
  intro w
  unfold constructAppender
  refine andThen_no_panic _ _ (constructEncoder_np env henv _) ?_ w
  intro enc w
  split
  · simp
  · simp only
    split
    · exact andThen_no_panic _ _ (henv.1 _) (fun _ w => by simp) w
    · exact andThen_no_panic _ _ (constructPolicy_np env henv _)
        (fun _ w => andThen_no_panic _ _ (henv.1 _) (fun _ w => by simp) w) w

theorem appenderOutcome_np (name : Key) (t : Typed) :
    ∀ w, (appenderOutcome env name t).2 ≠ .panic w := by
  intro w
  cases t with
  | tagged kind extras body =>
    rw [appenderOutcome_tagged]
    unfold bodyOutcome
    split
    · simp
    · cases hc : constructAppender env name
          ((Typed.asList (tlookup (c!"filters") extras)).filterMap filterOutcome) kind body with
      | panic w' => exact absurd hc (constructAppender_np env henv name _ kind body w')
      | err e => simp
      | ok d => simp
  | _ => simp [appenderOutcome]

theorem appendersLossy_np (xs : List (Key × Typed)) : ∀ w, appendersLossy env xs ≠ .panic w := by
  intro w
  have : xs.findSome? (fun p => (appenderOutcome env p.1 p.2).2.panic?) = none :=
    List.findSome?_eq_none_iff.mpr fun p _ => by
      cases h : (appenderOutcome env p.1 p.2).2 with
      | panic w' => exact absurd h (appenderOutcome_np env henv _ _ w')
      | _ => rfl
  rw [appendersLossy_eq, this]
  simp

end

theorem realEnv_noPanic : realEnv.NoPanic := by
  refine ⟨?_, ?_, ?_⟩
  · intro p w; simp only [realEnv]; split <;> simp
  · intro s w; simp [realEnv]
  · intro u n m d w
    show timeTriggerNewWith timeTriggerTotal u n m d ≠ .panic w
    rw [show timeTriggerTotal = true from rfl, timeTriggerNewWith_total]
    simp

/-! ### tables whose entries cannot fail -/

theorem mapVals_total (f : Value → Except Err Typed) (hf : ∀ v, ∃ t, f v = .ok t) (xs : List Value) :
    ∃ ts, mapVals f xs = .ok ts := by
  induction xs with
  | nil => exact ⟨[], rfl⟩
  | cons v vs ih =>
    obtain ⟨t, ht⟩ := hf v
    obtain ⟨ts, hts⟩ := ih
    exact ⟨t :: ts, by simp only [mapVals, ht, hts]⟩

theorem mapEntries_total (f : Value → Except Err Typed) (hf : ∀ v, ∃ t, f v = .ok t) (kvs : Entries) :
    ∃ ts, mapEntries f kvs = .ok ts := by
  obtain ⟨ts, h⟩ := mapVals_total f hf (kvs.map (·.2))
  exact ⟨_, by rw [mapEntries_eq, h]; rfl⟩

theorem mapEntries_append (f : Value → Except Err Typed) (xs ys : Entries)
    (txs tys : List (Key × Typed)) (hx : mapEntries f xs = .ok txs) (hy : mapEntries f ys = .ok tys) :
    mapEntries f (xs ++ ys) = .ok (txs ++ tys) := by
  induction xs generalizing txs with
  | nil => simp only [mapEntries] at hx; cases hx; simpa using hy
  | cons x xs ih =>
    obtain ⟨k, v⟩ := x
    simp only [mapEntries, List.cons_append] at hx ⊢
    cases hv : f v with
    | error e => rw [hv] at hx; cases hx
    | ok t =>
      rw [hv] at hx
      cases hr : mapEntries f xs with
      | error e => rw [hr] at hx; cases hx
      | ok ts =>
        rw [hr] at hx
        cases hx
        simp only [ih ts hr, List.cons_append]

/-- a table typed entry by entry: inserting or removing one entry leaves the typing of every other
entry unchanged (any entry schema) -/
theorem interp_mapOf_insert (ss : Bool) (s : Schema) (xs ys : Entries) (name : Key) (v : Value)
    (txs tys : List (Key × Typed)) (t : Typed)
    (hx : interp ss (.mapOf s) (.map xs) = .ok (.dict txs))
    (hy : interp ss (.mapOf s) (.map ys) = .ok (.dict tys))
    (hv : interp ss s v = .ok t) :
    interp ss (.mapOf s) (.map (xs ++ (name, v) :: ys)) = .ok (.dict (txs ++ (name, t) :: tys))
    ∧ interp ss (.mapOf s) (.map (xs ++ ys)) = .ok (.dict (txs ++ tys)) := by
  have ok : ∀ {zs tzs}, interp ss (.mapOf s) (.map zs) = .ok (.dict tzs) →
      mapEntries (fun v => interp ss s v) zs = .ok tzs := by
    intro zs tzs hz
    rw [interp_mapOf] at hz
    cases h : mapEntries (fun v => interp ss s v) zs with
    | error e => rw [h] at hz; cases hz
    | ok ts => rw [h] at hz; cases hz; rfl
  have ev : mapEntries (fun v => interp ss s v) ((name, v) :: ys) = .ok ((name, t) :: tys) := by
    simp only [mapEntries, hv, ok hy]
  constructor
  · rw [interp_mapOf, mapEntries_append _ xs _ txs _ (ok hx) ev]
  · rw [interp_mapOf, mapEntries_append _ xs _ txs _ (ok hx) (ok hy)]

end Log4rs.ConfigDoc
