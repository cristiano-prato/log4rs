import Log4rsModel.ConfigDoc.Lemmas
/-
The document rendered from a logical configuration (canonical key order, every subset of optional
keys) is typed section by section as written down here (`typed…`), and the constructors turn the
typed sections into exactly the components `meaning` prescribes.

No proof splits on which optional keys are present: an optional key is an `optEntry k (o.map f)`,
the equations of `lookup` / `unknownKey` / `without` find it there, and one `fieldOf_…` lemma per
kind of field says what it is typed as for every `o`.
-/
namespace Log4rs.ConfigDoc
open Log4rs Log4rs.Literals Log4rs.Routing

attribute [local simp] interp interpCases fieldNames req dfl optF
  Typed.field tlookup Typed.optField Typed.asBool Typed.asNat Typed.asStr Typed.asLevel Typed.asList
  Outcome.andThen Except.toOption

/-! ### leaves -/

theorem interpLeaf_str (s : List Char) : interpLeaf .str (.str s) = .ok (.str s) := rfl

theorem interpLeaf_bool (b : Bool) : interpLeaf .bool (.bool b) = .ok (.bool b) := rfl

theorem interpLeaf_level {s : List Char} {n : Nat} (h : parseLevel s = some n) :
    interpLeaf .level (.str s) = .ok (.level n) := by
  simp only [interpLeaf, h]

theorem interpLeaf_u64 {n : Nat} (h : n ≤ U64_MAX) : interpLeaf .u64 (.int n) = .ok (.nat n) := by
  simp [interpLeaf, h]

theorem interpLeaf_u32 {n : Nat} (h : n ≤ U32_MAX) : interpLeaf .u32 (.int n) = .ok (.nat n) := by
  simp [interpLeaf, h]

theorem interpLeaf_target (b : Bool) : interpLeaf .target (renderTarget b) = .ok (.target b) := by
  cases b <;> simp [interpLeaf, renderTarget]

theorem toScalar_scalarValue (l : Scalar) (h : l ≠ .other) : (scalarValue l).toScalar = l := by
  cases l <;> first | rfl | exact absurd rfl h

theorem interpLeaf_size {l : Scalar} {n : Nat} (h : parseSize l = .ok n) :
    interpLeaf .size (scalarValue l) = .ok (.nat n) := by
  have hl : l ≠ .other := by intro e; subst e; simp [parseSize, Scalar.visit, visitSize, toExcept] at h
  simp only [interpLeaf, toScalar_scalarValue l hl, h]

theorem interpLeaf_interval {l : Scalar} {u : TUnit} {n : Int} (h : parseInterval l = .ok (u, n)) :
    interpLeaf .interval (scalarValue l) = .ok (.interval u n) := by
  have hl : l ≠ .other := by intro e; subst e; simp [parseInterval, Scalar.visit, visitInterval, toExcept] at h
  simp only [interpLeaf, toScalar_scalarValue l hl, h]

theorem interpLeaf_duration {t : List Char} {n : Nat} (h : parseDuration t = some n) :
    interpLeaf .duration (.str t) = .ok (.duration n) := by
  simp only [parseDuration] at h
  simp only [interpLeaf]
  cases hp : parseDurationFull t with
  | ok a b => rw [hp] at h; simp only [Option.some.injEq] at h; simp [h]
  | err => rw [hp] at h; cases h
  | panic => rw [hp] at h; cases h

/-! ### fields of the leaf types, rendered from an optional logical value -/

theorem fieldOf_dflBool (ss : Bool) (k : Key) (d : Bool) (x : Option Bool) :
    fieldOf ss k (some (.bool d)) (.leaf .bool) (x.map .bool) = .ok (.bool (x.getD d)) := by
  cases x <;> rfl

/-- `renderTrig` / `renderRoll` write an optional natural number through the coercion
`Option Nat → Option Int`; this is the same list of entries without it -/
@[simp ↓] theorem map_int_natOpt (x : Option Nat) :
    (x.map fun n => Value.int n) = Option.map (fun n : Nat => Value.int (n : Int)) x := by
  cases x <;> rfl

theorem fieldOf_dflU64 (ss : Bool) (k : Key) (d : Nat) {x : Option Nat} (h : x.getD d ≤ U64_MAX) :
    fieldOf ss k (some (.nat d)) (.leaf .u64) (Option.map (fun n : Nat => Value.int (n : Int)) x)
      = .ok (.nat (x.getD d)) := by
  cases x with
  | none => rfl
  | some n => exact (interp_leaf ss _ _).trans (interpLeaf_u64 h)

theorem fieldOf_optU32 (ss : Bool) (k : Key) {x : Option Nat} (h : x.getD 0 ≤ U32_MAX) :
    fieldOf ss k (some .nothing) (.opt (.leaf .u32)) (Option.map (fun n : Nat => Value.int (n : Int)) x)
      = .ok (typedOpt (x.map .nat)) := by
  cases x with
  | none => rfl
  | some n => exact interp_opt nofun ((interp_leaf ss _ _).trans (interpLeaf_u32 h))

theorem fieldOf_optBool (ss : Bool) (k : Key) (x : Option Bool) :
    fieldOf ss k (some .nothing) (.opt (.leaf .bool)) (x.map .bool) = .ok (typedOpt (x.map .bool)) :=
  fieldOf_opt (f := Value.bool) (fun _ => nofun) (fun _ _ => interp_leaf ..) k

/-! ### names -/

theorem interp_names (ss : Bool) (ns : List Key) :
    interp ss namesS (renderNames ns) = .ok (.list (ns.map .str)) := by
  rw [namesS, renderNames, interp_seqOf, mapVals_map (t := Typed.str) (fun _ _ => interp_leaf ..)]

theorem fieldOf_names (ss : Bool) (k : Key) (x : Option (List Key)) :
    fieldOf ss k (some (.list [])) namesS (x.map renderNames) = .ok (.list ((x.getD []).map .str)) := by
  cases x with
  | none => rfl
  | some ns => exact interp_names ss ns

theorem strs_names (ns : List Key) : Typed.strs (ns.map Typed.str) = ns := by
  rw [Typed.strs, List.filterMap_map]
  exact List.filterMap_some

/-! ### loggers and root -/

def typedLogger (l : LoggerL) : Typed :=
  .record [(c!"level", .level ((parseLevel l.level).getD 0)),
    (c!"appenders", .list ((l.appenders.getD []).map .str)),
    (c!"additive", .bool (l.additive.getD true))]

theorem interp_logger (ss : Bool) (l : LoggerL) (h : (parseLevel l.level).isSome) :
    interp ss loggerS (renderLogger l) = .ok (typedLogger l) := by
  obtain ⟨n, hn⟩ := Option.isSome_iff_exists.mp h
  simp [loggerS, renderLogger, typedLogger, fieldOf_names, fieldOf_dflBool,
    interpLeaf_level hn, hn]

theorem loggerOf_typed (l : LoggerL) : loggerOf l.name (typedLogger l) = meaningLogger l := by
  simp [loggerOf, typedLogger, meaningLogger, strs_names]

def typedRoot (r : RootL) : Typed :=
  .record [(c!"level", .level ((r.level.bind parseLevel).getD 4)),
    (c!"appenders", .list ((r.appenders.getD []).map .str))]

theorem interp_root (ss : Bool) (r : RootL) (h : ∀ t, r.level = some t → (parseLevel t).isSome) :
    interp ss rootS (renderRoot r) = .ok (typedRoot r) := by
  have hl : fieldOf ss (c!"level") (some (.level 4)) (.leaf .level) (r.level.map .str)
      = .ok (.level ((r.level.bind parseLevel).getD 4)) := by
    cases hr : r.level with
    | none => rfl
    | some t =>
      obtain ⟨n, hn⟩ := Option.isSome_iff_exists.mp (h t hr)
      simp [interpLeaf_level hn, hn]
  simp [rootS, renderRoot, typedRoot, fieldOf_names, hl]

/-! ### filters -/

def typedFilter (t : List Char) : Typed :=
  .tagged (c!"threshold") []
    (match parseLevel t with
     | some n => .record [(c!"level", .level n)]
     | none => .failed .unknownVariant)

theorem interp_filter (ss : Bool) (t : List Char) :
    interp ss (.lazy filterS) (renderFilter t) = .ok (typedFilter t) := by
  cases h : parseLevel t with
  | some n =>
    simp [filterS, thresholdS, renderFilter, typedFilter, interpLeaf_level h, h]
  | none =>
    simp [filterS, thresholdS, renderFilter, typedFilter, interpLeaf, h]

theorem filterOutcome_typed (t : List Char) : filterOutcome (typedFilter t) = parseLevel t := by
  cases h : parseLevel t <;> simp [typedFilter, h, filterOutcome]

theorem fieldOf_filters (ss : Bool) (k : Key) (x : Option (List (List Char))) :
    fieldOf ss k (some (.list [])) (.seqOf (.lazy filterS)) (x.map renderFilters)
      = .ok (.list ((x.getD []).map typedFilter)) := by
  cases x with
  | none => rfl
  | some fs => rw [Option.map_some, fieldOf_some, renderFilters, interp_seqOf,
      mapVals_map (fun t _ => interp_filter ss t)]; rfl

theorem filterMap_typed (fs : List (List Char)) :
    (fs.map typedFilter).filterMap filterOutcome = fs.filterMap parseLevel := by
  rw [List.filterMap_map]
  exact congrArg (List.filterMap · fs) (funext filterOutcome_typed)

theorem filterErrs_typed (name : Key) (fs : List (List Char)) :
    ((fs.map typedFilter).filter (fun f => (filterOutcome f).isNone)).map (fun _ => LoadErr.filter name) =
      (fs.filter (fun t => (parseLevel t).isNone)).map (fun _ => LoadErr.filter name) := by
  rw [List.filter_map, List.map_map]
  simp only [Function.comp_def, filterOutcome_typed]

/-! ### encoder -/

def typedEnc (e : EncL) : Typed :=
  if e.isJson then .tagged (c!"json") [] (.record [])
  else .tagged (c!"pattern") []
    (.record [(c!"pattern", typedOpt (e.pattern.map fun i => .str (patternText i)))])

theorem interp_enc (ss : Bool) (e : EncL) (h : encOk (some e) = true) :
    interp ss encoderS (renderEnc e) = .ok (typedEnc e) := by
  have hp : fieldOf ss (c!"pattern") (some .nothing) (.opt (.leaf .str))
      (e.pattern.map fun i => .str (patternText i))
      = .ok (typedOpt (e.pattern.map fun i => .str (patternText i))) :=
    fieldOf_opt (f := fun i => .str (patternText i)) (fun _ => nofun) (fun _ _ => interp_leaf ..) _
  obtain ⟨ke, js, pat⟩ := e
  cases ke <;> cases js <;>
    simp [encOk, EncL.isJson] at h <;>
    simp [encoderS, patternEncoderS, jsonEncoderS, renderEnc, typedEnc, EncL.isJson, kindOf, hp, h]

theorem fieldOf_optEnc (ss : Bool) (k : Key) {x : Option EncL} (h : encOk x = true) :
    fieldOf ss k (some .nothing) (.opt encoderS) (x.map renderEnc) = .ok (typedOpt (x.map typedEnc)) :=
  fieldOf_opt (f := renderEnc) (fun _ => nofun) (fun a ha => interp_enc ss a (Option.mem_def.mp ha ▸ h)) k

theorem constructEncoder_typed (env : Env) (hp : ∀ s, env.patternNew s = .ok ()) (e : Option EncL) :
    constructEncoder env (e.map typedEnc) = .ok (meaningEnc e) := by
  cases e with
  | none => simp [constructEncoder, meaningEnc, hp]
  | some e =>
    obtain ⟨ke, js, pat⟩ := e
    cases ke <;> cases js <;> cases pat <;>
      simp [constructEncoder, meaningEnc, typedEnc, typedOpt, EncL.isJson, hp]

/-! ### trigger, roller, policy -/

def typedTrig : TrigL → Typed
  | .size l => .tagged (c!"size") [] (.record [(c!"limit", .nat ((parseSize l).toOption.getD 0))])
  | .time i m d =>
    .tagged (c!"time") []
      (.record [(c!"interval", match (parseInterval i).toOption with
                               | some (u, n) => .interval u n
                               | none => .nothing),
                (c!"modulate", .bool (m.getD false)), (c!"max_random_delay", .nat (d.getD 0))])
  | .onstartup m => .tagged (c!"onstartup") [] (.record [(c!"min_size", .nat (m.getD 1))])

/-- the trigger section is typed as written down, and its constructor gives the trigger it means -/
theorem trig_typed (tr : TrigL) (td : TrigDesc) (h : meaningTrig tr = some td) :
    (∀ ss, interp ss triggerS (renderTrig tr) = .ok (typedTrig tr))
      ∧ ∀ env : Env, (∀ u n m d, env.timeNew u n m d = .ok ()) →
          constructTrigger env (typedTrig tr) = .ok td := by
  cases tr with
  | size l =>
    cases hp : parseSize l with
    | error e => simp [meaningTrig, hp] at h
    | ok n =>
      simp only [meaningTrig, hp, Except.toOption, Option.map_some, Option.some.injEq] at h
      subst h
      constructor
      · intro ss
        simp [triggerS, sizeTriggerS, renderTrig, typedTrig, interpLeaf_size hp, hp]
      · intro env _
        simp [constructTrigger, typedTrig, hp]
  | time i m d =>
    cases hp : parseInterval i with
    | error e => simp [meaningTrig, hp] at h
    | ok un =>
      obtain ⟨u, n⟩ := un
      simp only [meaningTrig, hp, Except.toOption, Option.ite_none_right_eq_some] at h
      obtain ⟨hd, ⟨⟩⟩ := h
      constructor
      · intro ss
        simp [triggerS, timeTriggerS, renderTrig, typedTrig, interpLeaf_interval hp, hp, fieldOf_dflBool,
          fieldOf_dflU64 _ _ _ hd]
      · intro env ht
        simp [constructTrigger, typedTrig, hp, ht]
  | onstartup m =>
    simp only [meaningTrig, Option.ite_none_right_eq_some] at h
    obtain ⟨hm, ⟨⟩⟩ := h
    constructor
    · intro ss
      simp [triggerS, onStartUpTriggerS, renderTrig, typedTrig, fieldOf_dflU64 _ _ _ hm]
    · intro env _
      simp [constructTrigger, typedTrig]

def typedRoll (path : Key) : RollL → Typed
  | .delete => .tagged (c!"delete") [] (.record [])
  | .window b n =>
    .tagged (c!"fixed_window") []
      (.record [(c!"pattern", .str (path ++ c!".{}")), (c!"base", typedOpt (b.map .nat)),
                (c!"count", .nat n)])

theorem containsBraces_append (p : List Char) : containsBraces (p ++ c!".{}") = true := by
  induction p with
  | nil => rfl
  | cons c r ih => simp only [List.cons_append, containsBraces, ih, Bool.or_true]

/-- the roller section is typed as written down, and its constructor gives the roller it means -/
theorem roll_typed (path : Key) (ro : RollL) (rd : RollDesc) (h : meaningRoll path ro = some rd) :
    (∀ ss, interp ss rollerS (renderRoll path ro) = .ok (typedRoll path ro))
      ∧ constructRoller (typedRoll path ro) = .ok rd := by
  cases ro with
  | delete =>
    simp only [meaningRoll, Option.some.injEq] at h
    subst h
    constructor
    · intro ss
      simp [rollerS, deleteRollerS, renderRoll, typedRoll]
    · simp [constructRoller, typedRoll]
  | window b n =>
    simp only [meaningRoll, Option.ite_none_right_eq_some] at h
    obtain ⟨⟨hb, hn, hw⟩, ⟨⟩⟩ := h
    constructor
    · intro ss
      simp [rollerS, fixedWindowRollerS, renderRoll, typedRoll, interpLeaf_str, interpLeaf_u32 hn,
        fieldOf_optU32 _ _ hb]
    · have hnot : ¬ (n > 0 ∧ b.getD 0 + (n - 1) > U32_MAX) := by
        rintro ⟨h1, h2⟩
        rcases hw with h0 | h0 <;> omega
      cases b <;>
        simp [constructRoller, typedRoll, typedOpt, containsBraces_append] <;> simpa using hnot

def typedPolicy (path : Key) (tr : TrigL) (ro : RollL) : Typed :=
  .tagged (c!"compound") [] (.record [(c!"trigger", typedTrig tr), (c!"roller", typedRoll path ro)])

/-- the policy section is typed as written down, and its constructor gives trigger and roller -/
theorem policy_typed (path : Key) (pk : Bool) (tr : TrigL) (ro : RollL) (td : TrigDesc)
    (rd : RollDesc) (h1 : meaningTrig tr = some td) (h2 : meaningRoll path ro = some rd) :
    (∀ ss, interp ss policyS (renderPolicy pk path tr ro) = .ok (typedPolicy path tr ro))
      ∧ ∀ env : Env, (∀ u n m d, env.timeNew u n m d = .ok ()) →
          constructPolicy env (some (typedPolicy path tr ro)) = .ok (td, rd) := by
  obtain ⟨t1, t2⟩ := trig_typed tr td h1
  obtain ⟨r1, r2⟩ := roll_typed path ro rd h2
  constructor
  · intro ss
    cases pk <;> simp [policyS, compoundPolicyS, renderPolicy, typedPolicy, kindOf, t1, r1]
  · intro env ht
    simp [constructPolicy, typedPolicy, t2 env ht, r2]

/-! ### appenders -/

theorem fieldOf_optTarget (ss : Bool) (k : Key) (x : Option Bool) :
    fieldOf ss k (some .nothing) (.opt (.leaf .target)) (x.map renderTarget)
      = .ok (typedOpt (x.map .target)) :=
  fieldOf_opt (f := renderTarget) (fun _ => nofun) (fun b _ => (interp_leaf ..).trans (interpLeaf_target b)) k

def typedFields (a : AppL) : List (Key × Typed) :=
  if a.kind = 0 then
    [(c!"target", typedOpt (a.target.map .target)), (c!"encoder", typedOpt (a.enc.map typedEnc)),
     (c!"tty_only", typedOpt (a.flag.map .bool))]
  else if a.kind = 1 then
    [(c!"path", .str a.path), (c!"encoder", typedOpt (a.enc.map typedEnc)),
     (c!"append", typedOpt (a.flag.map .bool))]
  else
    [(c!"path", .str a.path), (c!"append", typedOpt (a.flag.map .bool)),
     (c!"encoder", typedOpt (a.enc.map typedEnc)), (c!"policy", typedPolicy a.path a.trig a.roll)]

def typedApp (a : AppL) : Typed :=
  .tagged (kindName a.kind) [(c!"filters", .list ((a.filters.getD []).map typedFilter))]
    (.record (typedFields a))

/-- well-formed appender section: a known kind; a json encoder without pattern; for a rolling
appender numbers that are acceptable (`meaningTrig`, `meaningRoll`) -/
def wfApp (a : AppL) : Prop :=
  a.kind ≤ 2 ∧ encOk a.enc = true ∧
  (a.kind = 2 → (meaningTrig a.trig).isSome ∧ (meaningRoll a.path a.roll).isSome)

theorem interp_app (ss : Bool) (a : AppL) (h : wfApp a) :
    interp ss (.lazy appenderLazyS) (renderApp a) = .ok (typedApp a) := by
  obtain ⟨hk, he, hp⟩ := h
  obtain ⟨name, kind, filters, path, flag, enc, target, pk, trig, roll⟩ := a
  simp only at hk he hp
  apply interp_lazy_ok
  match kind, hk with
  | 0, _ =>
    simp [renderApp, appenderLazyS, consoleAppenderS, typedApp, typedFields, kindName,
      fieldOf_filters, fieldOf_optTarget, fieldOf_optBool, fieldOf_optEnc _ _ he]
  | 1, _ =>
    simp [renderApp, appenderLazyS, fileAppenderS, typedApp, typedFields, kindName,
      interpLeaf_str, fieldOf_filters, fieldOf_optBool, fieldOf_optEnc _ _ he]
  | 2, _ =>
    obtain ⟨ht, hr⟩ := hp rfl
    obtain ⟨td, htd⟩ := Option.isSome_iff_exists.mp ht
    obtain ⟨rd, hrd⟩ := Option.isSome_iff_exists.mp hr
    simp [renderApp, appenderLazyS, rollingFileAppenderS, typedApp, typedFields, kindName,
      interpLeaf_str, fieldOf_filters, fieldOf_optBool, fieldOf_optEnc _ _ he,
      (policy_typed path pk trig roll td rd htd hrd).1 ss]

/-- the environment of the check runs, abstractly: every path but the empty one can be opened, the
pattern parser and the time trigger's constructor succeed -/
def Env.Benign (env : Env) : Prop :=
  (∀ p, env.openLog p = if fsOk p then .ok () else .err .badValue)
  ∧ (∀ s, env.patternNew s = .ok ()) ∧ (∀ u n m d, env.timeNew u n m d = .ok ())

def filterErrs (a : AppL) : List LoadErr :=
  ((a.filters.getD []).filter (fun t => (parseLevel t).isNone)).map (fun _ => LoadErr.filter a.name)

theorem optField_typedOpt {t : Typed} {k : Key} {o : Option Typed} (h : t.field k = some (typedOpt o)) :
    t.optField k = o := by
  cases o <;> simp only [Typed.optField, h, typedOpt]

theorem asBool_map (o : Option Bool) : Typed.asBool (o.map Typed.bool) = o := by
  cases o <;> rfl

def typedOptBool : Option Bool → Typed
  | some b => .just (.bool b)
  | none => .nothing

theorem asBool_typedOptBool (o : Option Bool) (d : Bool) :
    (Typed.asBool (match typedOptBool o with | .just x => some x | _ => none)).getD d = o.getD d := by
  cases o <;> rfl

theorem constructAppender_typed (env : Env) (henv : env.Benign) (a : AppL) (d : AppenderDesc)
    (hwf : wfApp a) (h : meaningApp a = some d) :
    constructAppender env a.name ((a.filters.getD []).filterMap parseLevel) (kindName a.kind)
      (.record (typedFields a)) = .ok d := by
  obtain ⟨ho, hp, ht⟩ := henv
  obtain ⟨hk, he, hpol⟩ := hwf
  obtain ⟨name, kind, filters, path, flag, enc, target, pk, trig, roll⟩ := a
  have hE := constructEncoder_typed env hp enc
  simp only at he
  match kind, hk with
  | 0, _ =>
    simp only [meaningApp, he, Bool.not_true, Bool.false_eq_true, if_false, if_true, Option.some.injEq] at h
    subst h
    rw [constructAppender, optField_typedOpt (o := enc.map typedEnc) rfl,
      optField_typedOpt (o := flag.map .bool) rfl, optField_typedOpt (o := target.map .target) rfl, hE, asBool_map]
    cases target <;> rfl
  | 1, _ =>
    cases hfs : fsOk path <;>
      simp only [meaningApp, he, hfs, Bool.not_true, Bool.not_false, Bool.false_eq_true, if_false, if_true,
        Nat.succ_ne_self, Option.some.injEq, reduceCtorEq] at h
    subst h
    have hpath : Typed.field (c!"path") (.record (typedFields
        ⟨name, 1, filters, path, flag, enc, target, pk, trig, roll⟩)) = some (.str path) := rfl
    rw [constructAppender, optField_typedOpt (o := enc.map typedEnc) rfl, hE]
    simp only [Outcome.andThen, kindName, if_neg (show ¬ c!"file" = c!"console" by decide), if_true]
    rw [optField_typedOpt (o := flag.map .bool) rfl, asBool_map, hpath, Typed.asStr, Option.getD_some, ho, hfs]
    rfl
  | 2, _ =>
    obtain ⟨td, htd⟩ := Option.isSome_iff_exists.mp (hpol rfl).1
    obtain ⟨rd, hrd⟩ := Option.isSome_iff_exists.mp (hpol rfl).2
    cases hfs : fsOk path <;>
      simp only [meaningApp, he, hfs, htd, hrd, Bool.not_true, Bool.not_false, Bool.false_eq_true, if_false, if_true,
        Nat.succ_ne_self, Option.some.injEq, reduceCtorEq] at h
    subst h
    have hpath : Typed.field (c!"path") (.record (typedFields
        ⟨name, 2, filters, path, flag, enc, target, pk, trig, roll⟩)) = some (.str path) := rfl
    have hpol : Typed.field (c!"policy") (.record (typedFields
        ⟨name, 2, filters, path, flag, enc, target, pk, trig, roll⟩)) = some (typedPolicy path trig roll) := rfl
    rw [constructAppender, optField_typedOpt (o := enc.map typedEnc) rfl, hE]
    simp only [Outcome.andThen, kindName, if_neg (show ¬ c!"rolling_file" = c!"console" by decide),
      if_neg (show ¬ c!"rolling_file" = c!"file" by decide)]
    rw [optField_typedOpt (o := flag.map .bool) rfl, asBool_map, hpath, hpol, Typed.asStr, Option.getD_some,
      (policy_typed path pk trig roll td rd htd hrd).2 env ht, ho, hfs]
    rfl

theorem appenderOutcome_typed (env : Env) (henv : env.Benign) (a : AppL) (d : AppenderDesc)
    (hwf : wfApp a) (h : meaningApp a = some d) :
    appenderOutcome env a.name (typedApp a) = (filterErrs a, .kept d) := by
  simp only [appenderOutcome, typedApp, tlookup, if_true, Typed.asList, filterMap_typed, filterErrs_typed,
    filterErrs, constructAppender_typed env henv a d hwf h]

theorem appenderEntryS_live : appenderEntryS = .lazy appenderLazyS := rfl

theorem appendersLossy_typed (env : Env) (henv : env.Benign) (as : List AppL)
    (h : ∀ a ∈ as, wfApp a ∧ (meaningApp a).isSome) :
    appendersLossy env (as.map (fun a => (a.name, typedApp a))) =
      .ok (as.filterMap meaningApp, as.flatMap filterErrs) := by
  induction as with
  | nil => rfl
  | cons a as ih =>
    obtain ⟨hk, hs⟩ := h a List.mem_cons_self
    obtain ⟨d, hd⟩ := Option.isSome_iff_exists.mp hs
    simp only [List.map_cons, appendersLossy, appenderOutcome_typed env henv a d hk hd,
      ih (fun x hx => h x (List.mem_cons_of_mem _ hx)), List.filterMap_cons, hd, List.flatMap_cons]

theorem meaning_errors_wf (as : List AppL) (h : ∀ a ∈ as, (meaningApp a).isSome) :
    as.flatMap (fun a => ((a.filters.getD []).filter (fun t => (parseLevel t).isNone)).map
        (fun _ => LoadErr.filter a.name) ++ (if (meaningApp a).isNone then [LoadErr.appender a.name] else []))
      = as.flatMap filterErrs := by
  simp only [List.flatMap_def]
  congr 1
  refine List.map_congr_left fun a ha => ?_
  cases hm : meaningApp a with
  | none => have := h a ha; rw [hm] at this; cases this
  | some d => simp [filterErrs]

/-! ### the document -/

def typedDoc (cfg : LogicalConfig) : Typed :=
  .record [(c!"refresh_rate", typedOpt ((cfg.refresh.bind parseDuration).map .duration)),
           (c!"root", (cfg.root.map typedRoot).getD rootDefault),
           (c!"appenders", .dict (cfg.appenders.map (fun a => (a.name, typedApp a)))),
           (c!"loggers", .dict (cfg.loggers.map (fun l => (l.name, typedLogger l))))]

/-- well-formed logical configuration: the texts that are parsed while the DOCUMENT is typed (root
and logger levels, refresh rate) are acceptable, and every appender section is well-formed -/
structure WF (cfg : LogicalConfig) : Prop where
  loggers : ∀ l ∈ cfg.loggers, (parseLevel l.level).isSome
  root : ∀ r t, cfg.root = some r → r.level = some t → (parseLevel t).isSome
  refresh : ∀ t, cfg.refresh = some t → (parseDuration t).isSome
  apps : ∀ a ∈ cfg.appenders, wfApp a

/-- `render` omits an empty table -/
theorem table_entry {α} (l : List α) (k : Key) (v : Value) :
    (if l.isEmpty then [] else [(k, v)]) = optEntry k (if l.isEmpty then none else some v) := by
  cases l <;> rfl

theorem fieldOf_table {α} {ss : Bool} {s : Schema} {r : α → Value} {t : α → Typed} {l : List α}
    (h : ∀ a ∈ l, interp ss s (r a) = .ok (t a)) (k : Key) (n : α → Key) :
    fieldOf ss k (some (.dict [])) (.mapOf s)
        (if l.isEmpty then none else some (.map (l.map fun a => (n a, r a))))
      = .ok (.dict (l.map fun a => (n a, t a))) := by
  cases l with
  | nil => rfl
  | cons a as => simp only [List.isEmpty_cons, Bool.false_eq_true, if_false, fieldOf_some, interp_mapOf,
      mapEntries_map h]

theorem interp_doc (ss : Bool) (cfg : LogicalConfig) (hwf : WF cfg) :
    interp ss docS (render cfg) = .ok (typedDoc cfg) := by
  have hrr : fieldOf ss (c!"refresh_rate") (some .nothing) (.opt (.leaf .duration)) (cfg.refresh.map .str)
      = .ok (typedOpt ((cfg.refresh.bind parseDuration).map .duration)) := by
    cases hr : cfg.refresh with
    | none => rfl
    | some t =>
      obtain ⟨n, hn⟩ := Option.isSome_iff_exists.mp (hwf.refresh t hr)
      simp [interpLeaf_duration hn, hn, typedOpt]
  have hroot := fieldOf_map (fun r hr => interp_root ss r (hwf.root r · hr)) (c!"root") rootDefault
  have happ := fieldOf_table (fun a ha => interp_app ss a (hwf.apps a ha)) (c!"appenders") (·.name)
  have hlog := fieldOf_table (fun l hl => interp_logger ss l (hwf.loggers l hl)) (c!"loggers") (·.name)
  simp [-List.isEmpty_iff, render, table_entry, docS, docSWith, appenderEntrySWith, appenderEnvelopeLazy,
    typedDoc, hrr, hroot, happ, hlog]

theorem rawLoad_typedDoc (env : Env) (henv : env.Benign) (cfg : LogicalConfig)
    (h : ∀ a ∈ cfg.appenders, wfApp a ∧ (meaningApp a).isSome) :
    rawLoad env (typedDoc cfg) = .ok (meaning cfg) := by
  have hA := appendersLossy_typed env henv cfg.appenders h
  have hE := meaning_errors_wf cfg.appenders (fun a ha => (h a ha).2)
  have hR : (typedDoc cfg).optField (c!"refresh_rate") = (cfg.refresh.bind parseDuration).map .duration :=
    optField_typedOpt rfl
  have hroot : (Typed.asLevel (((cfg.root.map typedRoot).getD rootDefault).field (c!"level"))).getD 4
        = ((cfg.root.bind (·.level)).bind parseLevel).getD 4
      ∧ Typed.strs (Typed.asList (((cfg.root.map typedRoot).getD rootDefault).field (c!"appenders")))
        = (cfg.root.bind (·.appenders)).getD [] := by
    cases cfg.root <;> simp [rootDefault, typedRoot, strs_names,
      show Typed.strs [] = [] from rfl]
  have hf : (typedDoc cfg).field (c!"appenders") = some (.dict (cfg.appenders.map fun a => (a.name, typedApp a)))
      ∧ (typedDoc cfg).field (c!"root") = some ((cfg.root.map typedRoot).getD rootDefault)
      ∧ (typedDoc cfg).field (c!"loggers") = some (.dict (cfg.loggers.map fun l => (l.name, typedLogger l))) :=
    ⟨rfl, rfl, rfl⟩
  simp only [rawLoad, hR, hf, Typed.asDict, hA, Option.getD_some, hroot, List.map_map, Function.comp_def,
    loggerOf_typed, meaning, hE]
  cases cfg.refresh.bind parseDuration <;> rfl

end Log4rs.ConfigDoc
