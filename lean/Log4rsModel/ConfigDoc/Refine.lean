import Log4rsModel.ConfigDoc.Lemmas
import Log4rsModel.Routing.BuilderLemmas
import Log4rsModel.Routing.LemmasBuild
/-
Refinement of the two pieces of C14's pipeline that restate other areas' models:

  * `buildLossyNames` (the name-stripping fragment of `build_lossy` used after `appenders_lossy`)
    is the projection of C13's `Routing.buildLossy` on inputs whose appender names and logger names
    are distinct — which they are, coming out of maps;
  * the configuration it returns is `Valid`, so C01's theorem applies: the model of
    `Logger::log` (`Tree.deliver`) delivers exactly the list `Tree.specDeliver` that C14's
    observation (`written`) is computed from.
-/
namespace Log4rs.ConfigDoc
open Log4rs Log4rs.Routing

/-- the `ConfigBuilder` that `deserialize()` fills: the surviving appenders in table order, the
loggers, and the root -/
def toInput (r : RawLoad) : BuilderInput :=
  { appenders := r.appenders.zipIdx.map (fun p => ⟨p.1.name, p.2⟩)
    rootLevel := r.rootLevel, rootAppenders := r.rootAppenders, loggers := r.loggers }

def toCfgError : BuildErr → CfgError
  | .nonexistent n => ⟨.nonexistent, n⟩
  | .badLoggerName n => ⟨.invalidName, n⟩

/-- the invariant of the two loops that skip names already seen: past the head of a duplicate-free
list, no name is the head's or one seen before -/
theorem fresh_tail {α} (f : α → Name) {a : α} {rest : List α} {seen : List Name}
    (ha : f a ∉ rest.map f) (hs : ∀ x ∈ a :: rest, f x ∉ seen) : ∀ b ∈ rest, f b ∉ f a :: seen := by
  intro b hb
  simp only [List.mem_cons, not_or]
  exact ⟨fun heq => ha (heq ▸ List.mem_map.mpr ⟨b, hb, rfl⟩), hs b (List.mem_cons_of_mem _ hb)⟩

theorem appLoop_nodup (ys : List AppenderDecl) (seen : List Name)
    (hnd : (ys.map (·.name)).Nodup) (hs : ∀ a ∈ ys, a.name ∉ seen) :
    (appLoop ys seen).1 = ys ∧ (appLoop ys seen).2.2 = [] := by
  induction ys generalizing seen with
  | nil => simp [appLoop]
  | cons a rest ih =>
    have ha : seen.contains a.name = false := by simpa using hs a List.mem_cons_self
    simp only [List.map_cons, List.nodup_cons] at hnd
    have := ih (a.name :: seen) hnd.2 (fresh_tail _ hnd.1 hs)
    simp only [appLoop, ha, Bool.false_eq_true, if_false, this.1, this.2, and_self]

theorem stripRefs_eq_refLoop (names known : List Name) (refs : List Name)
    (h : ∀ n, names.contains n = known.contains n) :
    refLoop names refs = ((stripRefs known refs).1, (stripRefs known refs).2.map toCfgError) := by
  simp only [refLoop_eq, h, stripRefs, List.map_map]
  rfl

theorem logLoop_nodup (names known : List Name) (h : ∀ n, names.contains n = known.contains n)
    (ls : List LoggerCfg) (seen : List Name)
    (hnd : (ls.map (·.name)).Nodup) (hs : ∀ l ∈ ls, l.name ∉ seen) :
    logLoop names ls seen = ((buildLoggers known ls).1, (buildLoggers known ls).2.map toCfgError) := by
  induction ls generalizing seen with
  | nil => simp [logLoop, buildLoggers]
  | cons l rest ih =>
    have hl : seen.contains l.name = false := by simpa using hs l List.mem_cons_self
    simp only [List.map_cons, List.nodup_cons] at hnd
    have hrest := ih (l.name :: seen) hnd.2 (fresh_tail _ hnd.1 hs)
    simp only [logLoop, hl, Bool.false_eq_true, if_false, buildLoggers]
    by_cases hc : checkLoggerName l.name = true
    · simp only [hc, Bool.not_true, Bool.false_eq_true, if_false, if_true, hrest,
        stripRefs_eq_refLoop names known l.appenders h, List.map_append]
    · simp only [Bool.not_eq_true] at hc
      simp only [hc, Bool.not_false, if_true, Bool.false_eq_true, if_false, hrest, List.map_cons,
        toCfgError]

theorem zipIdx_names (as : List AppenderDesc) (k : Nat) :
    ((as.zipIdx k).map (fun p => (⟨p.1.name, p.2⟩ : AppenderDecl))).map (·.name) = as.map (·.name) := by
  induction as generalizing k with
  | nil => rfl
  | cons a rest ih => simp only [List.zipIdx_cons, List.map_cons, ih]

/-- `buildLossyNames` is C13's `build_lossy` on the builder that `deserialize()` fills -/
theorem buildLossyNames_refines (r : RawLoad)
    (hA : (r.appenders.map (·.name)).Nodup) (hL : (r.loggers.map (·.name)).Nodup) :
    (buildLossy (toInput r)).config = (buildLossyNames r).config
    ∧ (buildLossy (toInput r)).errors = (buildLossyNames r).buildErrors.map toCfgError := by
  have hnames := zipIdx_names r.appenders 0
  have hA' : ((toInput r).appenders.map (·.name)).Nodup := by
    show ((r.appenders.zipIdx.map (fun p => (⟨p.1.name, p.2⟩ : AppenderDecl))).map (·.name)).Nodup
    rw [hnames]; exact hA
  have happ := appLoop_nodup (toInput r).appenders [] hA' (by simp)
  have hmem : ∀ n, (appLoop (toInput r).appenders []).2.1.contains n = (r.appenders.map (·.name)).contains n :=
    fun n => (names_contains (toInput r) n).trans (congrArg (·.contains n) hnames)
  have hroot := stripRefs_eq_refLoop _ (r.appenders.map (·.name)) r.rootAppenders hmem
  have hlog := logLoop_nodup _ (r.appenders.map (·.name)) hmem r.loggers [] hL (by simp)
  have e1 : (toInput r).rootAppenders = r.rootAppenders := rfl
  have e2 : (toInput r).loggers = r.loggers := rfl
  constructor
  · simp only [buildLossy, happ.1, Built.config, buildLossyNames]
    rw [e1, e2, hroot, hlog]
    simp only [toInput, hnames]
  · simp only [buildLossy, happ.2, buildLossyNames, List.nil_append, List.map_append]
    rw [e1, e2, hroot, hlog]

/-- what lossy loading returns is a `Valid` configuration (C13's `buildLossy_valid`) -/
theorem built_valid (r : RawLoad)
    (hA : (r.appenders.map (·.name)).Nodup) (hL : (r.loggers.map (·.name)).Nodup) :
    Valid (buildLossyNames r).config := by
  rw [← (buildLossyNames_refines r hA hL).1]
  exact buildLossy_valid (toInput r)

end Log4rs.ConfigDoc
