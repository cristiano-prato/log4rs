import Log4rsModel.ConfigDoc.Lemmas
/-
Lemmas for the end-to-end isolation theorem: the typed document as a function of its typed
appender table, the builder fragment in closed form.
-/
namespace Log4rs.ConfigDoc
open Log4rs Log4rs.Literals Log4rs.Routing

/-! ### replacing the value of one key of a struct section -/

theorem lookup_mid_ne (k k0 : Key) (X X' : Value) (pre post : Entries) (h : k ≠ k0) :
    lookup k (pre ++ (k0, X) :: post) = lookup k (pre ++ (k0, X') :: post) := by
  simp [Ne.symm h]

theorem lookup_mid (k0 : Key) (X : Value) (pre post : Entries) (h : k0 ∉ keys pre) :
    lookup k0 (pre ++ (k0, X) :: post) = some X := by
  simp [lookup_eq_none_of_not_mem k0 pre h]

theorem unknownKey_mid (names : List Key) (k0 : Key) (X X' : Value) (pre post : Entries) :
    unknownKey names (pre ++ (k0, X) :: post) = unknownKey names (pre ++ (k0, X') :: post) := by
  simp

/-- Changing the value of one key `k0` of a struct section changes the typed result only in that
field: if the new value is typed by the field's schema, the section is typed again, with the same
typed fields everywhere else. -/
theorem interp_struct_replace (ss deny : Bool) (fs : List Field) (k0 : Key) (X X' : Value)
    (pre post : Entries) (hpre : k0 ∉ keys pre) (hnd : (fieldNames fs).Nodup) (t' : Typed)
    (hX' : ∀ d s, (k0, d, s) ∈ fs → interp ss s X' = .ok t') (ts : List (Key × Typed))
    (h : interp ss (.struct deny fs) (.map (pre ++ (k0, X) :: post)) = .ok (.record ts)) :
    ∃ ts', interp ss (.struct deny fs) (.map (pre ++ (k0, X') :: post)) = .ok (.record ts')
      ∧ (∀ d s, (k0, d, s) ∈ fs → tlookup k0 ts' = some t')
      ∧ ∀ k ∈ fieldNames fs, k ≠ k0 → tlookup k ts' = tlookup k ts := by
  obtain ⟨_, hrec, hts⟩ := interp_struct_ok ss deny fs _ _ h
  cases hrec
  -- every field of the new section is typed: `k0` by assumption, the others as before
  obtain ⟨ts', hts'⟩ : ∃ ts', interpFields ss fs (pre ++ (k0, X') :: post) = .ok ts' :=
    interpFields_ok fun k d s hm => by
      by_cases hk : k = k0
      · subst hk; exact ⟨t', by rw [lookup_mid _ _ pre post hpre]; exact hX' d s hm⟩
      · rw [← lookup_mid_ne k k0 X X' pre post hk]
        cases hc : fieldOf ss k d s (lookup k (pre ++ (k0, X) :: post)) with
        | ok t => exact ⟨t, rfl⟩
        | error e => obtain ⟨e', he'⟩ := interpFields_error hm hc; rw [hts] at he'; cases he'
  refine ⟨ts', ?_, fun d s hm => ?_, fun k hm hk => ?_⟩
  · rw [interp_struct, hts] at h
    rw [interp_struct, unknownKey_mid _ k0 X' X, hts']
    split at h
    · cases h
    · rfl
  · obtain ⟨t, ht, hl⟩ := interpFields_tlookup hnd hts' hm
    rw [lookup_mid _ _ pre post hpre, fieldOf_some, hX' d s hm] at ht
    cases ht
    exact hl
  · obtain ⟨⟨k, d, s⟩, hf, rfl⟩ := List.mem_map.mp hm
    obtain ⟨t1, ht1, hl1⟩ := interpFields_tlookup hnd hts' hf
    obtain ⟨t2, ht2, hl2⟩ := interpFields_tlookup hnd hts hf
    rw [← lookup_mid_ne k k0 X X' pre post hk, ht2] at ht1
    cases ht1
    rw [hl1, hl2]

/-! ### the builder fragment in closed form -/

theorem buildLoggers_closed (known : List Key) (ls : List LoggerCfg) :
    (buildLoggers known ls).1 =
      (ls.filter (fun l => checkLoggerName l.name)).map
        (fun l => { l with appenders := l.appenders.filter (known.contains ·) })
    ∧ (buildLoggers known ls).2 =
      ls.flatMap (fun l => if checkLoggerName l.name
        then (l.appenders.filter (!known.contains ·)).map BuildErr.nonexistent
        else [BuildErr.badLoggerName l.name]) := by
  induction ls with
  | nil => exact ⟨rfl, rfl⟩
  | cons l ls ih =>
    obtain ⟨h1, h2⟩ := ih
    simp only [buildLoggers]
    by_cases hc : checkLoggerName l.name = true
    · simp only [hc, if_true, stripRefs, List.filter_cons, List.map_cons, h1, h2, List.flatMap_cons, and_self]
    · simp only [Bool.not_eq_true] at hc
      simp only [hc, Bool.false_eq_true, if_false, List.filter_cons, h1, h2, List.flatMap_cons,
        List.singleton_append, and_self]

/-- a dropped entry contributes its reports and nothing else -/
theorem appendersLossy_drop (env : Env) (txs tys : List (Key × Typed)) (name : Key) (t : Typed)
    (errs : List LoadErr) (ds : List AppenderDesc) (es : List LoadErr)
    (hbad : appenderOutcome env name t = (errs, .dropped))
    (h : appendersLossy env (txs ++ (name, t) :: tys) = .ok (ds, es)) :
    ∃ es', appendersLossy env (txs ++ tys) = .ok (ds, es') ∧ es.Perm (es' ++ errs) := by
  simp only [appendersLossy_eq, List.findSome?_append, List.findSome?_cons, List.filterMap_append,
    List.filterMap_cons, List.flatMap_append, List.flatMap_cons, hbad, AppenderResult.panic?,
    AppenderResult.kept?] at h ⊢
  split at h
  · cases h
  · rename_i hn
    rw [hn]
    cases h
    exact ⟨_, rfl, by rw [List.append_assoc]; exact List.Perm.append_left _ List.perm_append_comm⟩

/-! ### the builder input as a function of the typed fields and the result of `appenders_lossy` -/

def rawOf (ts : List (Key × Typed)) (ds : List AppenderDesc) (es : List LoadErr) : RawLoad :=
  let doc := Typed.record ts
  let root := (doc.field (c!"root")).getD .nothing
  { refresh := match doc.optField (c!"refresh_rate") with
               | some (.duration n) => some n
               | _ => none
    rootLevel := (Typed.asLevel (root.field (c!"level"))).getD 4
    rootAppenders := Typed.strs (Typed.asList (root.field (c!"appenders")))
    loggers := (Typed.asDict (doc.field (c!"loggers"))).map (fun kv => loggerOf kv.1 kv.2)
    appenders := ds, errors := es }

theorem rawLoad_record (env : Env) (ts : List (Key × Typed)) :
    rawLoad env (.record ts) =
      match appendersLossy env (Typed.asDict (tlookup (c!"appenders") ts)) with
      | .ok (ds, es) => .ok (rawOf ts ds es)
      | .err e => .err e
      | .panic w => .panic w := by
  simp only [rawLoad, Typed.field, rawOf]
  cases appendersLossy env (Typed.asDict (tlookup (c!"appenders") ts)) with
  | ok p => obtain ⟨ds, es⟩ := p; rfl
  | err e => rfl
  | panic w => rfl

/-- apart from the appender table, the builder input reads three fields of the typed document -/
theorem rawOf_congr {ts ts' : List (Key × Typed)}
    (h : ∀ k ∈ [c!"refresh_rate", c!"root", c!"appenders", c!"loggers"], k ≠ c!"appenders" →
      tlookup k ts' = tlookup k ts) (ds : List AppenderDesc) (es : List LoadErr) :
    rawOf ts' ds es = rawOf ts ds es := by
  simp only [rawOf, Typed.optField, Typed.field, h _ (.head _) (by decide),
    h _ (.tail _ (.head _)) (by decide), h _ (.tail _ (.tail _ (.tail _ (.head _)))) (by decide)]

end Log4rs.ConfigDoc
