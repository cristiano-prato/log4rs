import Log4rsModel.Pattern.Parser
/-
Lemmas about the parser model. One invariant, `PR.Within`, says what every parser function
guarantees about its result: the remaining input is a suffix of the input, a panic needs an
overflowing integer, and the fuel runs out only when it was too small. It is proved once per
function; termination (C11_parse_total), the absence of panics and the fuel convention follow.
-/
namespace Log4rs.Pattern.Parse

/-- the four-way match on a result that `parameters`, `args()` and `arg()` repeat: go on with the
value and the remaining input, hand anything else through -/
def PR.bind {α β : Type} (x : PR α) (k : α → List Char → PR β) : PR β :=
  match x with
  | .ok a r => k a r
  | .fail e r => .fail e r
  | .panic w => .panic w
  | .fuel => .fuel

/-- the remaining input is a suffix of `s`; a panic only if `panicOk`, out of fuel only if `fuelOut` -/
def PR.Within {α : Type} (res : PR α) (s : List Char) (panicOk fuelOut : Prop) : Prop :=
  match res with
  | .ok _ r => r <:+ s
  | .fail _ r => r <:+ s
  | .panic _ => panicOk
  | .fuel => fuelOut

/-- the same for `next`: a piece consumes input, `None` comes only at the end, `Err` never -/
def PR.NextWithin (res : PR (Option Piece)) (s : List Char) (panicOk fuelOut : Prop) : Prop :=
  match res with
  | .ok (some _) r => r <:+ s ∧ r.length < s.length
  | .ok none r => s = [] ∧ r = []
  | .fail _ _ => False
  | .panic _ => panicOk
  | .fuel => fuelOut

theorem suffix_of_cons {α} {a : α} {r s : List α} (h : r <:+ s) : r <:+ a :: s :=
  List.IsSuffix.trans h (List.suffix_cons a s)

theorem suffix_length_lt_cons {α} {r s : List α} (c : α) (h : r <:+ s) : r.length < (c :: s).length :=
  Nat.lt_succ_of_le h.length_le

theorem PR.Within.mono {α : Type} {res : PR α} {t s : List Char} {p p' q q' : Prop}
    (h : res.Within t p q) (hts : t <:+ s) (hp : p → p') (hq : q → q') : res.Within s p' q' := by
  cases res with
  | ok a r => exact List.IsSuffix.trans h hts
  | fail e r => exact List.IsSuffix.trans h hts
  | panic w => exact hp h
  | fuel => exact hq h

theorem PR.Within.bind {α β : Type} {x : PR α} {k : α → List Char → PR β} {t s : List Char}
    {p p' q q' : Prop} (hx : x.Within t p q) (hts : t <:+ s) (hp : p → p') (hq : q → q')
    (hk : ∀ a r, r <:+ t → (k a r).Within s p' q') : (x.bind k).Within s p' q' := by
  cases x with
  | ok a r => exact hk a r hx
  | fail e r => exact List.IsSuffix.trans hx hts
  | panic w => exact hp hx
  | fuel => exact hq hx

theorem PR.NextWithin.bind {β : Type} {x : PR (Option Piece)} {k : Option Piece → List Char → PR β}
    {c : Char} {t : List Char} {p p' q q' : Prop} (hx : x.NextWithin (c :: t) p q) (hp : p → p') (hq : q → q')
    (hk : ∀ a r, r <:+ c :: t → r.length < (c :: t).length → (k (some a) r).Within (c :: t) p' q') :
    (x.bind k).Within (c :: t) p' q' := by
  cases x with
  | ok o r =>
    cases o with
    | some a => exact hk a r hx.1 hx.2
    | none => exact absurd hx.1 (List.cons_ne_nil c t)
  | fail e r => exact hx.elim
  | panic w => exact hp hx
  | fuel => exact hq hx

theorem PR.bind_eq_fail {α β : Type} {x : PR α} {k : α → List Char → PR β} {e r : List Char}
    (h : x.bind k = .fail e r) : x = .fail e r ∨ ∃ a r', x = .ok a r' ∧ k a r' = .fail e r := by
  cases x with
  | ok a r' => exact Or.inr ⟨a, r', rfl, h⟩
  | fail e' r' =>
    have h' : (PR.fail e' r' : PR β) = .fail e r := h
    cases h'
    exact Or.inl rfl
  | panic w => cases h
  | fuel => cases h

theorem PR.Within.bind_congr {α β : Type} {x : PR α} {k k' : α → List Char → PR β} {s : List Char}
    {p q : Prop} (hx : x.Within s p q) (h : ∀ a r, r <:+ s → k a r = k' a r) : x.bind k = x.bind k' := by
  cases x with
  | ok a r => exact h a r hx
  | fail e r => rfl
  | panic w => rfl
  | fuel => rfl

theorem PR.NextWithin.bind_congr {β : Type} {x : PR (Option Piece)} {k k' : Option Piece → List Char → PR β}
    {c : Char} {t : List Char} {p q : Prop} (hx : x.NextWithin (c :: t) p q)
    (h : ∀ a r, r.length < (c :: t).length → k (some a) r = k' (some a) r) : x.bind k = x.bind k' := by
  cases x with
  | ok o r =>
    cases o with
    | some a => exact h a r hx.2
    | none => exact absurd hx.1 (List.cons_ne_nil c t)
  | fail e r => rfl
  | panic w => rfl
  | fuel => rfl

/-- `Parser::integer` never runs on fuel, and panics only in the code before the repair of F3 with
overflow checks on -/
theorem integerLoop_within (P : Profile) : ∀ (s : List Char) (cur : Nat) (found : Bool),
    (integerLoop P s cur found).Within s (P.widthCheck = false ∧ P.overflowChecks = true) False
  | [], _, _ => List.suffix_refl _
  | c :: r, cur, found => by
    have ih := fun cur' => (integerLoop_within P r cur' true).mono (List.suffix_cons c r) id id
    rw [integerLoop]
    by_cases hd : Str.isAsciiDigit c = true
    · rw [if_pos hd]
      dsimp only
      by_cases hv : cur * 10 + Str.digitVal c < 2 ^ P.wordBits
      · rw [if_pos hv]; exact ih _
      · rw [if_neg hv]
        by_cases hw : P.widthCheck = true
        · rw [if_pos hw]; exact suffix_of_cons (List.dropWhile_suffix _)
        · rw [if_neg hw]
          by_cases ho : P.overflowChecks = true
          · rw [if_pos ho]; exact ⟨Bool.eq_false_iff.mpr hw, ho⟩
          · rw [if_neg ho]; exact ih _
    · rw [if_neg hd]; exact List.suffix_refl _

/-- `Parser::integer` cannot overflow at any position of `s` -/
def IntSafe (P : Profile) (s : List Char) : Prop :=
  ∀ t, t <:+ s → ∀ w, integerLoop P t 0 false ≠ .panic w

theorem IntSafe.suffix {P : Profile} {s t : List Char} (h : IntSafe P s) (ht : t <:+ s) : IntSafe P t :=
  fun u hu w => h u (hu.trans ht) w

theorem integer_within (P : Profile) (s : List Char) : (integer P s).Within s (¬ IntSafe P s) False := by
  have h := integerLoop_within P s 0 false
  unfold integer
  cases hi : integerLoop P s 0 false with
  | panic w => exact fun hs => hs s (List.suffix_refl s) w hi
  | ok v r => rw [hi] at h; exact h
  | fail e r => rw [hi] at h; exact h
  | fuel => rw [hi] at h; exact h

theorem fillLookahead_suffix (s : List Char) : (fillLookahead s).2 <:+ s := by
  unfold fillLookahead
  split
  · split
    · exact List.suffix_cons _ _
    · exact List.suffix_refl _
  · exact List.suffix_refl _

theorem alignOf_suffix (s : List Char) : (alignOf s).2 <:+ s := by
  unfold alignOf
  split
  · split
    · exact List.suffix_cons _ _
    · split
      · exact List.suffix_cons _ _
      · exact List.suffix_refl _
  · exact List.suffix_refl _

/-- `parameters` is two `integer` calls in sequence -/
theorem parameters_colon (P : Profile) (r : List Char) :
    parameters P (':' :: r) =
      (integer P (alignOf (fillLookahead r).2).2).bind fun minW r3 =>
        match r3 with
        | d :: t =>
          if d = '.' then
            (integer P t).bind fun maxW r4 =>
              .ok { fill := (fillLookahead r).1, right := (alignOf (fillLookahead r).2).1, minW, maxW } r4
          else .ok { fill := (fillLookahead r).1, right := (alignOf (fillLookahead r).2).1, minW, maxW := none } r3
        | [] => .ok { fill := (fillLookahead r).1, right := (alignOf (fillLookahead r).2).1, minW, maxW := none } [] := by
  simp only [parameters, if_true]
  cases integer P (alignOf (fillLookahead r).2).2 with
  | ok minW r3 =>
    cases r3 with
    | nil => rfl
    | cons d t =>
      simp only [PR.bind]
      split
      · cases integer P t <;> rfl
      · rfl
  | fail e r3 => rfl
  | panic w => rfl
  | fuel => rfl

theorem parameters_within (P : Profile) (s : List Char) : (parameters P s).Within s (¬ IntSafe P s) False := by
  cases s with
  | nil => exact List.suffix_refl _
  | cons c r =>
    by_cases hc : c = ':'
    · subst hc
      rw [parameters_colon]
      have h12 : (alignOf (fillLookahead r).2).2 <:+ ':' :: r :=
        suffix_of_cons ((alignOf_suffix _).trans (fillLookahead_suffix r))
      refine (integer_within P _).bind h12 (fun h hs => h (hs.suffix h12)) id ?_
      intro minW r3 h3
      have h3' : r3 <:+ ':' :: r := h3.trans h12
      cases r3 with
      | nil => exact List.nil_suffix
      | cons d t =>
        dsimp only
        split
        · have ht : t <:+ ':' :: r := (List.suffix_cons d t).trans h3'
          exact (integer_within P t).bind ht (fun h hs => h (hs.suffix ht)) id (fun _ r4 h4 => h4.trans ht)
        · exact h3'
    · simp only [parameters, hc, if_false]
      exact List.suffix_refl _

theorem name_suffix (cc : CharClass) (P : Profile) (r : List Char) : (name cc P r).2 <:+ r := by
  unfold name
  split
  · exact List.suffix_refl _
  · split
    · exact suffix_of_cons (List.dropWhile_suffix _)
    · exact List.suffix_refl _

theorem doubled_suffix {c : Char} {r r' : List Char} (h : doubled c r = some r') : r' <:+ r := by
  unfold doubled at h
  split at h
  · split at h
    · cases h; exact List.suffix_cons _ _
    · cases h
  · cases h

theorem closeBrace_spec (piece : Piece) (s : List Char) :
    ∃ q r, closeBrace piece s = .ok (some q) r ∧ r <:+ s := by
  unfold closeBrace
  split
  · split
    · exact ⟨_, _, rfl, List.suffix_cons _ _⟩
    · exact ⟨_, _, rfl, List.nil_suffix⟩
  · exact ⟨_, _, rfl, List.nil_suffix⟩

/-- the `'{'` branch always yields a piece; it needs of `args()` only its result on the input
after the name -/
theorem argumentWith_within (cc : CharClass) (P : Profile) (F : List Char → PR (List (List Piece)))
    (c : Char) (r : List Char) {q : Prop} (hF : (F (name cc P r).2).Within (name cc P r).2 (¬ IntSafe P (name cc P r).2) q) :
    (argumentWith cc P F r).NextWithin (c :: r) (¬ IntSafe P (c :: r)) q := by
  have hn : (name cc P r).2 <:+ c :: r := suffix_of_cons (name_suffix cc P r)
  have piece : ∀ (x : Piece) (t : List Char), t <:+ (name cc P r).2 →
      (closeBrace x t).NextWithin (c :: r) (¬ IntSafe P (c :: r)) q := by
    intro x t ht
    obtain ⟨y, r4, hy, hs⟩ := closeBrace_spec x t
    rw [hy]
    have : r4 <:+ r := hs.trans (ht.trans (name_suffix cc P r))
    exact ⟨suffix_of_cons this, suffix_length_lt_cons c this⟩
  unfold argumentWith
  split
  · next args r2 hargs =>
    rw [hargs] at hF
    have hp := parameters_within P r2
    split
    · next p r3 hpar =>
      rw [hpar] at hp
      exact piece _ r3 (hp.trans hF)
    · next e r3 hpar =>
      rw [hpar] at hp
      exact piece _ r3 (hp.trans hF)
    · next w hpar =>
      rw [hpar] at hp
      exact fun hs => hp (IntSafe.suffix hs (hF.trans hn))
    · next hpar =>
      rw [hpar] at hp
      exact hp.elim
  · next e r2 hargs =>
    rw [hargs] at hF
    exact piece _ r2 hF
  · next w hargs =>
    rw [hargs] at hF
    exact fun hs => hF (IntSafe.suffix hs hn)
  · next hargs =>
    rw [hargs] at hF
    exact hF

/-- the one place where `next` looks at `args()` is the `'{'` branch; everywhere else it yields a
piece that consumes input -/
theorem nextWith_cons (cc : CharClass) (P : Profile) (c : Char) (r : List Char) :
    (∀ F, nextWith cc P F (c :: r) = argumentWith cc P F r) ∨
    ∃ q r', r' <:+ r ∧ ∀ F, nextWith cc P F (c :: r) = .ok (some q) r' := by
  by_cases h1 : c = '{'
  · subst h1
    cases hd : doubled '{' r with
    | some r' =>
      exact Or.inr ⟨.text ['{'], r', doubled_suffix hd, fun F => by simp only [nextWith, if_true, hd]⟩
    | none => exact Or.inl fun F => by simp only [nextWith, if_true, hd]
  · -- the other branches do not mention `F`: each is read off the definition
    suffices h : ∃ q r', r' <:+ r ∧ nextWith cc P (fun _ => .fuel) (c :: r) = .ok (some q) r' by
      obtain ⟨q, r', hs, h⟩ := h
      exact Or.inr ⟨q, r', hs, fun F => by
        rw [← h]
        simp only [nextWith, h1, if_false]⟩
    have esc : ∀ (c : Char) (x y : Piece), ∃ q r', r' <:+ r ∧
        (match doubled c r with
          | some r' => PR.ok (some x) r'
          | none => .ok (some y) r) = .ok (some q) r' := by
      intro c x y
      cases hd : doubled c r with
      | some r' => exact ⟨x, r', doubled_suffix hd, rfl⟩
      | none => exact ⟨y, r, List.suffix_refl r, rfl⟩
    simp only [nextWith, h1, if_false]
    by_cases h2 : c = '}'
    · rw [if_pos h2]
      exact esc _ _ _
    · rw [if_neg h2]
      by_cases h3 : c = '('
      · rw [if_pos h3]
        exact esc _ _ _
      · rw [if_neg h3]
        by_cases h4 : c = ')'
        · rw [if_pos h4]
          exact esc _ _ _
        · rw [if_neg h4]
          by_cases h5 : c = '\\'
          · rw [if_pos h5]
            split
            · split
              · exact ⟨_, _, List.suffix_cons _ _, rfl⟩
              · exact ⟨_, _, List.suffix_refl _, rfl⟩
            · exact ⟨_, _, List.suffix_refl _, rfl⟩
          · rw [if_neg h5]
            exact ⟨_, _, List.dropWhile_suffix _, rfl⟩

theorem nextWith_within (cc : CharClass) (P : Profile) (F : List Char → PR (List (List Piece)))
    (s : List Char) {q : Prop} (hF : ∀ x, x.length < s.length → (F x).Within x (¬ IntSafe P x) q) :
    (nextWith cc P F s).NextWithin s (¬ IntSafe P s) q := by
  cases s with
  | nil => exact ⟨rfl, rfl⟩
  | cons c r =>
    rcases nextWith_cons cc P c r with h | ⟨x, r', hs, h⟩
    · rw [h F]
      exact argumentWith_within cc P F c r (hF _ (suffix_length_lt_cons c (name_suffix cc P r)))
    · rw [h F]
      exact ⟨suffix_of_cons hs, suffix_length_lt_cons c hs⟩

/-- `nextWith` only applies `argsF` to strictly shorter inputs -/
theorem nextWith_congr (cc : CharClass) (P : Profile) (F G : List Char → PR (List (List Piece)))
    (s : List Char) (h : ∀ x, x.length < s.length → F x = G x) :
    nextWith cc P F s = nextWith cc P G s := by
  cases s with
  | nil => rfl
  | cons c r =>
    rcases nextWith_cons cc P c r with h' | ⟨x, r', _, h'⟩
    · rw [h' F, h' G]
      unfold argumentWith
      rw [h _ (suffix_length_lt_cons c (name_suffix cc P r))]
    · rw [h' F, h' G]

theorem argsLoop_cons (cc : CharClass) (P : Profile) (f d : Nat) (c : Char) (r : List Char)
    (acc : List (List Piece)) :
    argsLoop cc P (f + 1) d (c :: r) acc =
      if c = '(' then
        if d = P.maxDepth then .fail eNestingTooDeep []
        else (argBody cc P f (d + 1) r []).bind fun a r' => argsLoop cc P f d r' (acc ++ [a])
      else .ok acc (c :: r) := by
  rw [argsLoop]
  cases argBody cc P f (d + 1) r [] <;> rfl

theorem doubledClose_suffix {P : Profile} {c : Char} {r r2 : List Char} (h : doubledClose P c r = some r2) :
    r2 <:+ r := by
  unfold doubledClose at h
  split at h
  · exact doubled_suffix h
  · cases h

theorem argBody_succ_some (cc : CharClass) (P : Profile) (f d : Nat) (c : Char) (r : List Char) (acc : List Piece)
    (r2 : List Char) (h : doubledClose P c r = some r2) :
    argBody cc P (f + 1) d (c :: r) acc = argBody cc P f d r2 (acc ++ [.text [')']]) := by
  rw [argBody]; simp only [h]

theorem argBody_succ_none (cc : CharClass) (P : Profile) (f d : Nat) (c : Char) (r : List Char) (acc : List Piece)
    (h : doubledClose P c r = none) :
    argBody cc P (f + 1) d (c :: r) acc =
      if c = ')' then .ok acc r
      else
        (nextWith cc P (fun x => argsLoop cc P f d x []) (c :: r)).bind fun o r' =>
          match o with
          | some p => argBody cc P f d r' (acc ++ [p])
          | none => .fail eUnclosedParen r' := by
  rw [argBody]; simp only [h]
  split
  · rfl
  · cases nextWith cc P (fun x => argsLoop cc P f d x []) (c :: r) with
    | ok o r' => cases o <;> rfl
    | fail e r' => rfl
    | panic w => rfl
    | fuel => rfl

/-- every edge of the recursion consumes input, so fuel above the input length is never used up -/
theorem args_body_within (cc : CharClass) (P : Profile) : ∀ f : Nat,
    (∀ d s acc, (argsLoop cc P f d s acc).Within s (¬ IntSafe P s) (f ≤ s.length)) ∧
    (∀ d s acc, (argBody cc P f d s acc).Within s (¬ IntSafe P s) (f ≤ s.length)) := by
  intro f
  induction f with
  | zero => exact ⟨fun d s acc => by rw [argsLoop]; exact Nat.zero_le _,
      fun d s acc => by rw [argBody]; exact Nat.zero_le _⟩
  | succ f ih =>
    obtain ⟨ihA, ihB⟩ := ih
    -- a result on a shorter input `t` is a result on `c :: r`, and its fuel bound carries over
    have lift : ∀ {α : Type} {res : PR α} {c : Char} {t r : List Char}, t <:+ r →
        res.Within t (¬ IntSafe P t) (f ≤ t.length) →
        res.Within (c :: r) (¬ IntSafe P (c :: r)) (f + 1 ≤ (c :: r).length) := by
      intro α res c t r ht h
      have := ht.length_le
      exact h.mono (suffix_of_cons ht) (fun h hs => h (hs.suffix (suffix_of_cons ht)))
        (fun h => by simp only [List.length_cons]; omega)
    constructor
    · intro d s acc
      cases s with
      | nil => rw [argsLoop]; exact List.suffix_refl _
      | cons c r =>
        rw [argsLoop_cons]
        split
        · split
          · exact List.nil_suffix
          · exact (ihB (d + 1) r []).bind (List.suffix_cons c r)
              (fun h hs => h (hs.suffix (List.suffix_cons c r)))
              (fun h => by simp only [List.length_cons]; omega)
              fun a r' hr' => lift hr' (ihA d r' _)
        · exact List.suffix_refl _
    · intro d s acc
      cases s with
      | nil => rw [argBody]; exact List.nil_suffix
      | cons c r =>
        cases hdc : doubledClose P c r with
        | some r2 =>
          rw [argBody_succ_some cc P f d c r acc r2 hdc]
          exact lift (doubledClose_suffix hdc) (ihB d r2 _)
        | none =>
          rw [argBody_succ_none cc P f d c r acc hdc]
          split
          · exact List.suffix_cons _ _
          · have hn := nextWith_within cc P (fun x => argsLoop cc P f d x []) (c :: r) (q := f + 1 ≤ (c :: r).length)
              (fun x hx => (ihA d x []).mono (List.suffix_refl x) id
                (fun h => by simp only [List.length_cons] at hx ⊢; omega))
            exact hn.bind id id fun a r' hr' hlt => by
              have := ihB d r' (acc ++ [a])
              exact this.mono hr' (fun h hs => h (hs.suffix hr'))
                (fun h => by simp only [List.length_cons] at hlt ⊢; omega)

theorem argsLoop_within (cc : CharClass) (P : Profile) (f d : Nat) (s : List Char) (acc) :
    (argsLoop cc P f d s acc).Within s (¬ IntSafe P s) (f ≤ s.length) := (args_body_within cc P f).1 d s acc

theorem argBody_within (cc : CharClass) (P : Profile) (f d : Nat) (s : List Char) (acc) :
    (argBody cc P f d s acc).Within s (¬ IntSafe P s) (f ≤ s.length) := (args_body_within cc P f).2 d s acc

theorem nextAt_within (cc : CharClass) (P : Profile) (d : Nat) (s : List Char) :
    (nextAt cc P d s).NextWithin s (¬ IntSafe P s) False :=
  nextWith_within cc P _ s fun x hx =>
    (argsLoop_within cc P s.length d x []).mono (List.suffix_refl x) id (fun h => absurd h (Nat.not_le.mpr hx))

theorem args_body_fuel_irrel (cc : CharClass) (P : Profile) : ∀ f : Nat,
    (∀ f' d s acc, s.length < f → s.length < f' → argsLoop cc P f d s acc = argsLoop cc P f' d s acc) ∧
    (∀ f' d s acc, s.length < f → s.length < f' → argBody cc P f d s acc = argBody cc P f' d s acc) := by
  intro f
  induction f with
  | zero => exact ⟨fun _ _ _ _ h => absurd h (Nat.not_lt_zero _), fun _ _ _ _ h => absurd h (Nat.not_lt_zero _)⟩
  | succ f ih =>
    obtain ⟨ihA, ihB⟩ := ih
    constructor
    · intro f' d s acc hlen hlen'
      obtain ⟨f', rfl⟩ : ∃ g, f' = g + 1 := ⟨f' - 1, by omega⟩
      cases s with
      | nil => rw [argsLoop, argsLoop]
      | cons c r =>
        have lt : ∀ {t : List Char}, t.length ≤ r.length → t.length < f ∧ t.length < f' := fun h =>
          ⟨Nat.lt_of_le_of_lt h (Nat.lt_of_succ_lt_succ hlen), Nat.lt_of_le_of_lt h (Nat.lt_of_succ_lt_succ hlen')⟩
        rw [argsLoop_cons, argsLoop_cons, ← ihB f' (d + 1) r [] (lt (Nat.le_refl _)).1 (lt (Nat.le_refl _)).2]
        -- the two sides differ in the continuation after the argument body only
        refine congrArg (ite (c = '(') · _) (congrArg (ite (d = P.maxDepth) _ ·) ?_)
        exact (argBody_within cc P f (d + 1) r []).bind_congr fun a r' hr' =>
          ihA f' d r' _ (lt hr'.length_le).1 (lt hr'.length_le).2
    · intro f' d s acc hlen hlen'
      obtain ⟨f', rfl⟩ : ∃ g, f' = g + 1 := ⟨f' - 1, by omega⟩
      cases s with
      | nil => rw [argBody, argBody]
      | cons c r =>
        have lt : ∀ {t : List Char}, t.length ≤ r.length → t.length < f ∧ t.length < f' := fun h =>
          ⟨Nat.lt_of_le_of_lt h (Nat.lt_of_succ_lt_succ hlen), Nat.lt_of_le_of_lt h (Nat.lt_of_succ_lt_succ hlen')⟩
        cases hdc : doubledClose P c r with
        | some r2 =>
          rw [argBody_succ_some cc P f d c r acc r2 hdc, argBody_succ_some cc P f' d c r acc r2 hdc]
          exact ihB f' d r2 _ (lt (doubledClose_suffix hdc).length_le).1 (lt (doubledClose_suffix hdc).length_le).2
        | none =>
          rw [argBody_succ_none cc P f d c r acc hdc, argBody_succ_none cc P f' d c r acc hdc,
            nextWith_congr cc P (fun x => argsLoop cc P f' d x []) (fun x => argsLoop cc P f d x []) (c :: r)
              fun x hx => (ihA f' d x [] (lt (Nat.le_of_lt_succ hx)).1 (lt (Nat.le_of_lt_succ hx)).2).symm]
          refine congrArg (ite (c = ')') _ ·) ?_
          have hn := nextWith_within cc P (fun x => argsLoop cc P f d x []) (c :: r) (q := True)
            fun x _ => (argsLoop_within cc P f d x []).mono (List.suffix_refl x) id fun _ => trivial
          exact hn.bind_congr fun a r' hlt =>
            ihB f' d r' _ (lt (Nat.le_of_lt_succ hlt)).1 (lt (Nat.le_of_lt_succ hlt)).2

theorem argsLoop_fuel_irrel (cc : CharClass) (P : Profile) {f f' : Nat} (d : Nat) {s : List Char} (acc)
    (h : s.length < f) (h' : s.length < f') : argsLoop cc P f d s acc = argsLoop cc P f' d s acc :=
  (args_body_fuel_irrel cc P f).1 f' d s acc h h'

theorem argBody_fuel_irrel (cc : CharClass) (P : Profile) {f f' : Nat} (d : Nat) {s : List Char} (acc)
    (h : s.length < f) (h' : s.length < f') : argBody cc P f d s acc = argBody cc P f' d s acc :=
  (args_body_fuel_irrel cc P f).2 f' d s acc h h'

/-- the fuel convention of DESIGN.md Appendix A for the two fuelled functions -/
theorem argsLoop_fuel_mono (cc : CharClass) (P : Profile) (fuel d : Nat) (s : List Char) (acc)
    (h : fuel ≥ s.length + 1) : argsLoop cc P fuel d s acc = argsLoop cc P (s.length + 1) d s acc :=
  argsLoop_fuel_irrel cc P d acc h (Nat.lt_succ_self _)

theorem argBody_fuel_mono (cc : CharClass) (P : Profile) (fuel d : Nat) (s : List Char) (acc)
    (h : fuel ≥ s.length + 1) : argBody cc P fuel d s acc = argBody cc P (s.length + 1) d s acc :=
  argBody_fuel_irrel cc P d acc h (Nat.lt_succ_self _)

theorem next_within (cc : CharClass) (P : Profile) (s : List Char) :
    (next cc P s).NextWithin s (¬ IntSafe P s) False := nextAt_within cc P 0 s

/-- with the entry fuel the loop neither runs out of fuel nor (without an overflowing integer) panics -/
theorem parseLoop_spec (cc : CharClass) (P : Profile) : ∀ (n : Nat) (s : List Char), s.length < n →
    match parseLoop cc P n s with
    | .ok _ => True
    | .err _ => False
    | .panic _ => ¬ IntSafe P s
  | 0, _, h => absurd h (Nat.not_lt_zero _)
  | n + 1, s, hlen => by
    have hn := next_within cc P s
    rw [parseLoop]
    cases hnext : next cc P s with
    | ok o r =>
      rw [hnext] at hn
      cases o with
      | none => trivial
      | some p =>
        have ih := parseLoop_spec cc P n r (by have := hn.2; omega)
        dsimp only
        cases hrec : parseLoop cc P n r with
        | ok ps => trivial
        | err e => rw [hrec] at ih; exact ih
        | panic w => rw [hrec] at ih; exact fun hs => ih (hs.suffix hn.1)
    | fail e r => rw [hnext] at hn; exact hn
    | panic w => rw [hnext] at hn; exact hn
    | fuel => rw [hnext] at hn; exact hn

theorem parse_ne_panic (cc : CharClass) (P : Profile) (s : List Char) (hs : IntSafe P s) (w : String) :
    parse cc P s ≠ .panic w := by
  intro h
  have := parseLoop_spec cc P (s.length + 1) s (Nat.lt_succ_self _)
  rw [show parseLoop cc P (s.length + 1) s = .panic w from h] at this
  exact this hs

theorem parseLoop_fuel_irrel (cc : CharClass) (P : Profile) : ∀ (n m : Nat) (s : List Char),
    s.length < n → s.length < m → parseLoop cc P n s = parseLoop cc P m s
  | 0, _, _, h, _ => absurd h (Nat.not_lt_zero _)
  | _, 0, _, _, h => absurd h (Nat.not_lt_zero _)
  | n + 1, m + 1, s, hn, hm => by
    have hs := next_within cc P s
    rw [parseLoop, parseLoop]
    cases hnext : next cc P s with
    | ok o r =>
      rw [hnext] at hs
      cases o with
      | none => rfl
      | some p =>
        have := hs.2
        dsimp only
        rw [parseLoop_fuel_irrel cc P n m r (by omega) (by omega)]
    | fail e r => rfl
    | panic w => rfl
    | fuel => rfl

theorem parse_nil (cc : CharClass) (P : Profile) : parse cc P [] = .ok [] := by
  simp only [parse, parseLoop, next, nextAt, nextWith]

/-- `collect()` without the fuel: a piece, then the pieces of the rest -/
theorem parse_of_next (cc : CharClass) (P : Profile) {s r : List Char} {p : Piece}
    (h : next cc P s = .ok (some p) r) :
    parse cc P s =
      match parse cc P r with
      | .ok ps => .ok (p :: ps)
      | .err e => .err e
      | .panic w => .panic w := by
  have hs := next_within cc P s
  rw [h] at hs
  have := hs.2
  unfold parse
  rw [parseLoop, h]
  dsimp only
  rw [parseLoop_fuel_irrel cc P s.length (r.length + 1) r (by omega) (by omega)]
  cases parseLoop cc P (r.length + 1) r <;> rfl

theorem intSafe_of_widthCheck (P : Profile) (hP : P.widthCheck = true) (s : List Char) : IntSafe P s := by
  intro t _ w h
  have := integerLoop_within P t 0 false
  rw [h] at this
  exact absurd (hP.symm.trans this.1) (by decide)

theorem intSafe_of_wrapping (P : Profile) (hP : P.overflowChecks = false) (s : List Char) : IntSafe P s := by
  intro t _ w h
  have := integerLoop_within P t 0 false
  rw [h] at this
  exact absurd (hP.symm.trans this.2) (by decide)

/-- a smaller accumulator stays below a fitting one -/
theorem integerLoop_ne_panic_of_fit (P : Profile) :
    ∀ (s : List Char) (cur cur' : Nat) (found : Bool) (w : String),
      runsFit (2 ^ P.wordBits) s cur' = true → cur ≤ cur' → integerLoop P s cur found ≠ .panic w
  | [], _, _, _, _, _, _ => by rw [integerLoop]; intro h; cases h
  | c :: t, cur, cur', found, w, hfit, hle => by
    rw [runsFit] at hfit
    rw [integerLoop]
    by_cases hd : Str.isAsciiDigit c = true
    · rw [if_pos hd] at hfit ⊢
      rw [Bool.and_eq_true, decide_eq_true_eq] at hfit
      have hv : cur * 10 + Str.digitVal c ≤ cur' * 10 + Str.digitVal c :=
        Nat.add_le_add_right (Nat.mul_le_mul_right 10 hle) _
      dsimp only
      rw [if_pos (Nat.lt_of_le_of_lt hv hfit.1)]
      exact integerLoop_ne_panic_of_fit P t _ _ true w hfit.2 hv
    · rw [if_neg hd]
      intro h; cases h

theorem runsFit_suffix (W : Nat) : ∀ (s t : List Char) (cur : Nat), t <:+ s → runsFit W s cur = true →
    ∃ cur', runsFit W t cur' = true
  | [], t, cur, ht, h => by
    have : t = [] := List.suffix_nil.mp ht
    subst this; exact ⟨cur, h⟩
  | c :: r, t, cur, ht, h => by
    rcases List.suffix_cons_iff.mp ht with heq | hsuf
    · subst heq; exact ⟨cur, h⟩
    · unfold runsFit at h
      split at h
      · simp only [Bool.and_eq_true] at h
        exact runsFit_suffix W r t _ hsuf h.2
      · exact runsFit_suffix W r t _ hsuf h

theorem intSafe_of_digitRunsFit (P : Profile) (s : List Char) (h : digitRunsFit P s = true) : IntSafe P s := by
  intro t ht w
  obtain ⟨cur', hc⟩ := runsFit_suffix _ s t 0 ht h
  exact integerLoop_ne_panic_of_fit P t 0 cur' false w hc (Nat.zero_le _)

/-- `args()` / `arg()` fail only with nothing left of the input: `Err("unclosed '('")` at the
end of the input, `Err("nesting too deep")` after swallowing the rest -/
theorem args_body_fail (cc : CharClass) (P : Profile) : ∀ f : Nat,
    (∀ d s acc e r, argsLoop cc P f d s acc = .fail e r →
      (e = eUnclosedParen ∨ e = eNestingTooDeep) ∧ r = []) ∧
    (∀ d s acc e r, argBody cc P f d s acc = .fail e r →
      (e = eUnclosedParen ∨ e = eNestingTooDeep) ∧ r = []) := by
  intro f
  induction f with
  | zero =>
    constructor
    · intro d s acc e r h; rw [argsLoop] at h; cases h
    · intro d s acc e r h; rw [argBody] at h; cases h
  | succ f ih =>
    obtain ⟨ihA, ihB⟩ := ih
    constructor
    · intro d s acc e r h
      cases s with
      | nil => rw [argsLoop] at h; cases h
      | cons c t =>
        rw [argsLoop_cons] at h
        split at h
        · split at h
          · cases h; exact ⟨Or.inr rfl, rfl⟩
          · rcases PR.bind_eq_fail h with hb | ⟨a, r', _, hk⟩
            · exact ihB _ _ _ _ _ hb
            · exact ihA _ _ _ _ _ hk
        · cases h
    · intro d s acc e r h
      cases s with
      | nil => rw [argBody] at h; cases h; exact ⟨Or.inl rfl, rfl⟩
      | cons c t =>
        cases hdc : doubledClose P c t with
        | some r2 =>
          rw [argBody_succ_some cc P f d c t acc r2 hdc] at h
          exact ihB _ _ _ _ _ h
        | none =>
          rw [argBody_succ_none cc P f d c t acc hdc] at h
          split at h
          · cases h
          · have hn := nextWith_within cc P (fun x => argsLoop cc P f d x []) (c :: t) (q := True)
              fun x _ => (argsLoop_within cc P f d x []).mono (List.suffix_refl x) id fun _ => trivial
            rcases PR.bind_eq_fail h with hb | ⟨o, r', ho, hk⟩
            · rw [hb] at hn; exact hn.elim
            · rw [ho] at hn
              cases o with
              | some p => exact ihB _ _ _ _ _ hk
              | none => exact absurd hn.1 (List.cons_ne_nil c t)

end Log4rs.Pattern.Parse
