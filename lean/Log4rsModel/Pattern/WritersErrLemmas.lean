import Log4rsModel.Pattern.WritersErr
import Log4rsModel.Pattern.TreeLemmas
/-
The error-aware writer model against the error-free one: as long as nothing fails the two agree
step by step (`WE.erase`), and when something fails, what the bottom writer holds is a prefix of
what the error-free run would have delivered. Core only.
-/
namespace Log4rs.Pattern
open Log4rs

theorem emitted_write_mono (w : W) : ∀ b : Bytes, w.emitted <+: (w.write b).1.emitted := by
  induction w with
  | sink orc out => exact fun b => List.prefix_append _ _
  | maxW r inner ih =>
    intro b
    rw [write_maxW]
    split
    · exact List.prefix_refl _
    · exact ih _
  | left tf f inner ih => exact ih
  | right tf f inner buf _ => exact fun b => List.prefix_refl _

theorem emitted_setStyle_mono (w : W) (s : Style) : w.emitted <+: (w.setStyle s).emitted := by
  induction w with
  | sink orc out => exact List.prefix_append _ _
  | maxW r inner ih => exact ih
  | left tf f inner ih => exact ih
  | right tf f inner buf _ => exact List.prefix_refl _

theorem emitted_writeAll_mono (w : W) (b : Bytes) : w.emitted <+: (w.writeAll b).emitted := by
  induction w, b using writeAll_induction with
  | nil w => exact List.prefix_refl _
  | turn w b hb ih => rw [writeAll_cons w b hb]; exact (emitted_write_mono w b).trans ih

theorem emitted_feed_mono (ps : List Piece) (w : W) : w.emitted <+: (w.feed ps).emitted := by
  induction ps generalizing w with
  | nil => exact List.prefix_refl _
  | cons p ps ih =>
    cases p with
    | data cs => exact (emitted_writeAll_mono w _).trans (ih _)
    | style s => exact (emitted_setStyle_mono w s).trans (ih _)

theorem emitted_writeFills_mono (f : Char) (n : Nat) (w : W) :
    w.emitted <+: (w.writeFills f n).emitted := by
  rw [writeFills_eq]; exact emitted_feed_mono _ w

theorem emitted_replay_mono (buf : List BufOut) (w : W) : w.emitted <+: (replay w buf).emitted := by
  induction buf generalizing w with
  | nil => exact List.prefix_refl _
  | cons x xs ih =>
    cases x with
    | data b => exact (emitted_writeAll_mono w b).trans (ih _)
    | style s => exact (emitted_setStyle_mono w s).trans (ih _)

theorem emitted_finish_mono (w : W) : w.emitted <+: w.finish.emitted := by
  cases w with
  | sink orc out => exact List.prefix_refl _
  | maxW r inner => exact List.prefix_refl _
  | left tf f inner => exact emitted_writeFills_mono f tf inner
  | right tf f inner buf =>
    exact (emitted_writeFills_mono f tf inner).trans (emitted_replay_mono _ _)

theorem emitted_dropMax (w : W) : w.dropMax.emitted = w.emitted := by
  cases w <;> rfl

theorem emitted_encodeNode_mono (n : Node) (w : W) : w.emitted <+: (encodeNode n w).emitted := by
  rw [encodeNode_feed]; exact emitted_feed_mono _ w

theorem emitted_encodeNodes_mono (ns : List Node) (w : W) :
    w.emitted <+: (encodeNodes ns w).emitted := by
  rw [encodeNodes_feed]; exact emitted_feed_mono _ w

theorem emitted_erase (w : WE) : w.erase.emitted = w.emitted := by
  induction w with
  | sink orc sb out => rfl
  | maxW r inner ih => exact ih
  | left tf f inner ih => exact ih
  | right tf f inner buf ih => exact ih

theorem erase_dropMax (w : WE) : w.dropMax.erase = w.erase.dropMax := by
  cases w <;> rfl

/-- no failing `write` answer scripted (interruptions allowed), `set_style` never fails -/
def WE.clean : WE → Bool
  | .sink orc sb _ => !orc.contains Acc.fail && sb.isNone
  | .maxW _ inner => inner.clean
  | .left _ _ inner => inner.clean
  | .right _ _ inner _ => inner.clean

/-- one `write` call: same answer as the error-free model; an `Interrupted` changes nothing but
the script; an error leaves the bottom writer as it was, and is met only when a failing answer is
scripted -/
theorem write_erase (w : WE) : ∀ b : Bytes,
    match w.write b with
    | .ok w' n => w.erase.write b = (w'.erase, n) ∧ w'.orcLen ≤ w.orcLen ∧ w'.clean = w.clean
    | .intr w' =>
      w'.erase = w.erase ∧ w'.orcLen + 1 = w.orcLen ∧ w'.emitted = w.emitted ∧ w'.clean = w.clean
    | .err o => o = w.emitted ∧ w.clean = false := by
  induction w with
  | sink orc sb out =>
    intro b
    cases orc with
    | nil =>
      refine ⟨?_, Nat.le_refl _, rfl⟩
      show (W.sink [] (out ++ (b.take b.length).map BEv.byte), b.length) = _
      rw [List.take_length]; rfl
    | cons a rest =>
      cases a with
      | take k => exact ⟨rfl, Nat.le_succ _, rfl⟩
      | fail => exact ⟨rfl, rfl⟩
      | intr => exact ⟨rfl, rfl, rfl, rfl⟩
  | maxW r inner ih =>
    intro b
    simp only [WE.write, WE.erase, W.write]
    by_cases he : (scanEnd r b).1 = 0
    · rw [if_pos he, if_pos he]; exact ⟨rfl, Nat.le_refl _, rfl⟩
    · rw [if_neg he, if_neg he]
      match inner.write (b.take (scanEnd r b).1), ih (b.take (scanEnd r b).1) with
      | .ok inner' len, hi =>
        rw [hi.1]
        by_cases hl : len = (scanEnd r b).1
        · simp only [if_pos hl]; exact ⟨rfl, hi.2⟩
        · simp only [if_neg hl]; exact ⟨rfl, hi.2⟩
      | .intr inner', hi => exact ⟨congrArg (W.maxW r) hi.1, hi.2⟩
      | .err o, hi => exact hi
  | left tf f inner ih =>
    intro b
    simp only [WE.write, WE.erase, W.write]
    match inner.write b, ih b with
    | .ok inner' len, hi => rw [hi.1]; exact ⟨rfl, hi.2⟩
    | .intr inner', hi => exact ⟨congrArg (W.left tf f) hi.1, hi.2⟩
    | .err o, hi => exact hi
  | right tf f inner buf _ => exact fun b => ⟨rfl, Nat.le_refl _, rfl⟩

/-- "the error-aware operation `r`, started in a state that erases to `a`, refines the error-free
step from `a` to `b`": the same state if it went through, otherwise what the bottom writer holds
lies between what `a` and what `b` hold -/
def Ref (r : Res) (a b : W) : Prop :=
  match r with
  | .ok w' => w'.erase = b
  | .stop _ o => a.emitted <+: o ∧ o <+: b.emitted

theorem Ref.weaken {r : Res} {a a' b : W} (h : Ref r a' b) (ha : a.emitted <+: a'.emitted) :
    Ref r a b := by
  cases r with
  | ok w' => exact h
  | stop y o => exact ⟨ha.trans h.1, h.2⟩

theorem Ref.stop_self (w : WE) (y : Stop) {c : W} (h : w.erase.emitted <+: c.emitted) :
    Ref (.stop y w.emitted) w.erase c :=
  ⟨by rw [emitted_erase]; exact List.prefix_refl _, by rw [← emitted_erase]; exact h⟩

/-- sequencing: the continuation `f` refines the error-free continuation `g` -/
theorem Ref.bind {r : Res} {f : WE → Res} {a b : W} (g : W → W) (h1 : Ref r a b)
    (hab : a.emitted <+: b.emitted) (hbc : b.emitted <+: (g b).emitted)
    (h2 : ∀ w', Ref (f w') w'.erase (g w'.erase)) : Ref (r.bind f) a (g b) := by
  cases r with
  | ok w' => exact (show w'.erase = b from h1) ▸ (h2 w').weaken ((show w'.erase = b from h1) ▸ hab)
  | stop y o => exact ⟨h1.1, h1.2.trans hbc⟩

theorem Ref.map {r : Res} {g : WE → WE} {gI : W → W} {a b : W} (h1 : Ref r a b)
    (hg : ∀ w, (g w).erase = gI w.erase) (hmono : b.emitted <+: (gI b).emitted) :
    Ref (r.map g) a (gI b) := by
  cases r with
  | ok w' => exact (hg w').trans (congrArg gI h1)
  | stop y o => exact ⟨h1.1, h1.2.trans hmono⟩

theorem setStyle_ref (w : WE) (s : Style) : Ref (w.setStyle s) w.erase (w.erase.setStyle s) := by
  induction w with
  | sink orc sb out =>
    cases sb with
    | none => exact rfl
    | some n =>
      cases n with
      | zero => exact ⟨List.prefix_refl _, List.prefix_append _ _⟩
      | succ n => exact rfl
  | maxW r inner ih => exact Ref.map (gI := W.maxW r) ih (fun _ => rfl) (List.prefix_refl _)
  | left tf f inner ih => exact Ref.map (gI := W.left tf f) ih (fun _ => rfl) (List.prefix_refl _)
  | right tf f inner buf _ => exact rfl

/-- one turn of the error-aware `write_all` loop -/
theorem WE.writeAllFuel_cons (fuel : Nat) (w : WE) (x : Nat) (xs : Bytes) :
    WE.writeAllFuel (fuel + 1) w (x :: xs) =
      match w.write (x :: xs) with
      | .ok w' n => WE.writeAllFuel fuel w' ((x :: xs).drop n)
      | .intr w' => WE.writeAllFuel fuel w' (x :: xs)
      | .err o => .stop .ioErr o := rfl

/-- every turn of the error-aware loop consumes a byte or a scripted answer -/
theorem fuel_turn {l n o o' fuel : Nat} (h : l + o ≤ fuel + 1) (hn : 1 ≤ n ∧ n ≤ l) (ho : o' ≤ o) :
    l - n + o' ≤ fuel :=
  calc l - n + o' ≤ l - 1 + o := Nat.add_le_add (Nat.sub_le_sub_left hn.1 l) ho
    _ = l + o - 1 := (Nat.sub_add_comm (Nat.le_trans hn.1 hn.2)).symm
    _ ≤ fuel := Nat.sub_le_sub_right h 1

theorem writeAllFuel_ref : ∀ (fuel : Nat) (w : WE) (b : Bytes), b.length + w.orcLen ≤ fuel →
    Ref (WE.writeAllFuel fuel w b) w.erase (w.erase.writeAll b) := by
  intro fuel
  induction fuel with
  | zero =>
    intro w b h
    cases List.eq_nil_of_length_eq_zero (Nat.eq_zero_of_add_eq_zero_right (Nat.le_zero.1 h))
    exact rfl
  | succ fuel ih =>
    intro w b h
    cases b with
    | nil => exact rfl
    | cons x xs =>
      have hb : x :: xs ≠ [] := List.cons_ne_nil _ _
      rw [WE.writeAllFuel_cons]
      match w.write (x :: xs), write_erase w (x :: xs) with
      | .ok w' n, hw =>
        have hp := write_progress w.erase _ hb
        have hm := emitted_write_mono w.erase (x :: xs)
        rw [hw.1] at hp hm
        rw [writeAll_cons w.erase _ hb, hw.1]
        exact (ih w' _ (by rw [List.length_drop]; exact fuel_turn h hp hw.2.1)).weaken hm
      | .intr w', hw =>
        rw [← hw.2.1, ← Nat.add_assoc] at h
        exact hw.1 ▸ ih w' (x :: xs) (Nat.le_of_succ_le_succ h)
      | .err o, hw => exact hw.1 ▸ Ref.stop_self w _ (emitted_writeAll_mono _ _)

theorem writeAll_ref (w : WE) (b : Bytes) : Ref (w.writeAll b) w.erase (w.erase.writeAll b) :=
  writeAllFuel_ref _ w b (Nat.le_refl _)

theorem writeFills_ref (f : Char) (n : Nat) (w : WE) :
    Ref (w.writeFills f n) w.erase (w.erase.writeFills f n) := by
  induction n generalizing w with
  | zero => exact rfl
  | succ n ih =>
    exact Ref.bind (fun v => v.writeFills f n) (writeAll_ref w _) (emitted_writeAll_mono _ _)
      (emitted_writeFills_mono f n _) ih

theorem replay_ref (buf : List BufOut) (w : WE) : Ref (replayE w buf) w.erase (replay w.erase buf) := by
  induction buf generalizing w with
  | nil => exact rfl
  | cons x xs ih =>
    cases x with
    | data b =>
      exact Ref.bind (replay · xs) (writeAll_ref w b) (emitted_writeAll_mono _ _)
        (emitted_replay_mono xs _) ih
    | style s =>
      exact Ref.bind (replay · xs) (setStyle_ref w s) (emitted_setStyle_mono _ _)
        (emitted_replay_mono xs _) ih

theorem finish_ref (w : WE) : Ref w.finish w.erase w.erase.finish := by
  cases w with
  | sink orc sb out => exact rfl
  | maxW r inner => exact rfl
  | left tf f inner => exact writeFills_ref f tf inner
  | right tf f inner buf =>
    exact Ref.bind (replay · buf.reverse) (writeFills_ref f tf inner)
      (emitted_writeFills_mono f tf inner.erase) (emitted_replay_mono _ _) (replay_ref _)

theorem feed_ref (ps : List (Option Piece)) (w : WE) :
    Ref (w.feed ps) w.erase (w.erase.feed (erasePieces ps)) := by
  induction ps generalizing w with
  | nil => exact rfl
  | cons p ps ih =>
    cases p with
    | none => exact Ref.stop_self w _ (emitted_feed_mono _ _)
    | some p =>
      cases p with
      | data cs =>
        exact Ref.bind (W.feed · (erasePieces ps)) (writeAll_ref w _) (emitted_writeAll_mono _ _)
          (emitted_feed_mono _ _) ih
      | style s =>
        exact Ref.bind (W.feed · (erasePieces ps)) (setStyle_ref w s) (emitted_setStyle_mono _ _)
          (emitted_feed_mono _ _) ih

/-- `enc w >>= finish`, the shape of four of the six arms -/
theorem bind_finish_ref {enc : WE → Res} {encI : W → W}
    (henc : ∀ w, Ref (enc w) w.erase (encI w.erase))
    (hmono : ∀ w : W, w.emitted <+: (encI w).emitted) (w : WE) :
    Ref ((enc w).bind WE.finish) w.erase (encI w.erase).finish :=
  Ref.bind W.finish (henc w) (hmono _) (emitted_finish_mono _) finish_ref

theorem map_dropMax_ref {r : Res} {a b : W} (h : Ref r a b) : Ref (r.map WE.dropMax) a b.dropMax :=
  Ref.map h erase_dropMax (by rw [emitted_dropMax]; exact List.prefix_refl _)

theorem chunkEncode_ref (p : Params) {enc : WE → Res} {encI : W → W}
    (henc : ∀ w, Ref (enc w) w.erase (encI w.erase))
    (hmono : ∀ w : W, w.emitted <+: (encI w).emitted) (w : WE) :
    Ref (chunkEncodeE p enc w) w.erase (chunkEncode p encI w.erase) := by
  unfold chunkEncodeE chunkEncode
  cases p.minW <;> cases p.maxW
  · exact henc w
  · exact map_dropMax_ref (henc (.maxW _ w))
  all_goals cases p.right
  · exact bind_finish_ref henc hmono (.left _ p.fill w)
  · exact bind_finish_ref henc hmono (.right _ p.fill w [])
  · exact map_dropMax_ref (bind_finish_ref henc hmono (.left _ p.fill (.maxW _ w)))
  · exact map_dropMax_ref (bind_finish_ref henc hmono (.right _ p.fill (.maxW _ w) []))

mutual
theorem encodeNode_ref : ∀ (n : NodeE) (w : WE),
    Ref (encodeNodeE n w) w.erase (encodeNode n.erase w.erase)
  | .leaf ps, w => feed_ref ps w
  | .fmt p cs, w => chunkEncode_ref p (encodeNodes_ref cs) (emitted_encodeNodes_mono _) w
  | .gated true p cs, w => chunkEncode_ref p (encodeNodes_ref cs) (emitted_encodeNodes_mono _) w
  | .gated false p _, w =>
    chunkEncode_ref p (enc := .ok) (encI := id) (fun _ => rfl) (fun _ => List.prefix_refl _) w
theorem encodeNodes_ref : ∀ (ns : List NodeE) (w : WE),
    Ref (encodeNodesE ns w) w.erase (encodeNodes (NodeE.eraseAll ns) w.erase)
  | [], _ => rfl
  | n :: ns, w =>
    Ref.bind (encodeNodes (NodeE.eraseAll ns)) (encodeNode_ref n w) (emitted_encodeNode_mono _ _)
      (emitted_encodeNodes_mono _ _) (encodeNodes_ref ns)
end

theorem bytesOf_prefix {a b : List BEv} (h : a <+: b) : bytesOf a <+: bytesOf b := by
  obtain ⟨t, rfl⟩ := h
  rw [bytesOf_append]; exact List.prefix_append _ _

theorem leads_prefix_le {a b : Bytes} (h : a <+: b) : leads a ≤ leads b := by
  obtain ⟨t, rfl⟩ := h
  rw [leads_append]; exact Nat.le_add_right _ _

/-- a byte prefix of an encoding is the encoding of a character prefix followed by a proper prefix
of the next character's bytes: at most the last character is incomplete -/
theorem prefix_utf8_decomp (cs : List Char) : ∀ (a : Bytes), a <+: utf8 cs →
    ∃ k tail, a = utf8 (cs.take k) ++ tail ∧
      (tail = [] ∨ ∃ c, cs[k]? = some c ∧ tail <+: utf8Char c ∧ tail.length < (utf8Char c).length) := by
  induction cs with
  | nil =>
    intro a h
    cases List.prefix_nil.1 h
    exact ⟨0, [], rfl, Or.inl rfl⟩
  | cons c cs ih =>
    intro a h
    rw [utf8_cons] at h
    by_cases hl : (utf8Char c).length ≤ a.length
    · -- the whole first character is in `a`
      obtain ⟨a', rfl⟩ := List.prefix_of_prefix_length_le (List.prefix_append _ _) h hl
      obtain ⟨k, tail, hk, htail⟩ := ih a' ((List.prefix_append_right_inj _).1 h)
      exact ⟨k + 1, tail, by rw [List.take_succ_cons, utf8_cons, hk, List.append_assoc], htail⟩
    · -- `a` ends inside the first character
      have hpre : a <+: utf8Char c :=
        List.prefix_of_prefix_length_le h (List.prefix_append _ _) (Nat.le_of_not_le hl)
      by_cases ha : a = []
      · exact ⟨0, a, rfl, Or.inl ha⟩
      · exact ⟨0, a, rfl, Or.inr ⟨c, rfl, hpre, Nat.lt_of_not_le hl⟩⟩

/-- "goes through and stays clean" -/
def Res.okClean (r : Res) : Prop :=
  match r with
  | .ok w => w.clean = true
  | .stop _ _ => False

theorem Res.okClean_bind {r : Res} {f : WE → Res} (h : r.okClean)
    (hf : ∀ w, w.clean = true → (f w).okClean) : (r.bind f).okClean := by
  cases r with
  | ok w => exact hf w h
  | stop y o => exact h.elim

theorem Res.okClean_map {r : Res} {g : WE → WE} (h : r.okClean)
    (hg : ∀ w, w.clean = true → (g w).clean = true) : (r.map g).okClean := by
  cases r with
  | ok w => exact hg w h
  | stop y o => exact h.elim

theorem setStyle_clean (w : WE) (s : Style) (h : w.clean = true) : (w.setStyle s).okClean := by
  induction w with
  | sink orc sb out =>
    cases sb with
    | none => exact h
    | some n => rw [WE.clean, Option.isNone_some, Bool.and_false] at h; cases h
  | maxW r inner ih => exact Res.okClean_map (ih h) (fun _ hw => hw)
  | left tf f inner ih => exact Res.okClean_map (ih h) (fun _ hw => hw)
  | right tf f inner buf _ => exact h

theorem writeAllFuel_clean : ∀ (fuel : Nat) (w : WE) (b : Bytes), w.clean = true →
    (WE.writeAllFuel fuel w b).okClean := by
  intro fuel
  induction fuel with
  | zero => exact fun w b h => h
  | succ fuel ih =>
    intro w b h
    cases b with
    | nil => exact h
    | cons x xs =>
      rw [WE.writeAllFuel_cons]
      match w.write (x :: xs), write_erase w (x :: xs) with
      | .ok w' n, hw => exact ih w' _ (hw.2.2.trans h)
      | .intr w', hw => exact ih w' _ (hw.2.2.2.trans h)
      | .err o, hw => rw [hw.2] at h; cases h

theorem writeAll_clean (w : WE) (b : Bytes) (h : w.clean = true) : (w.writeAll b).okClean :=
  writeAllFuel_clean _ w b h

theorem writeFills_clean (f : Char) (n : Nat) (w : WE) (h : w.clean = true) :
    (w.writeFills f n).okClean := by
  induction n generalizing w with
  | zero => exact h
  | succ n ih => exact Res.okClean_bind (writeAll_clean w _ h) ih

theorem replay_clean (buf : List BufOut) (w : WE) (h : w.clean = true) : (replayE w buf).okClean := by
  induction buf generalizing w with
  | nil => exact h
  | cons x xs ih =>
    cases x with
    | data b => exact Res.okClean_bind (writeAll_clean w b h) ih
    | style s => exact Res.okClean_bind (setStyle_clean w s h) ih

theorem finish_clean (w : WE) (h : w.clean = true) : w.finish.okClean := by
  cases w with
  | sink orc sb out => exact h
  | maxW r inner => exact h
  | left tf f inner => exact writeFills_clean f tf inner h
  | right tf f inner buf =>
    exact Res.okClean_bind (writeFills_clean f tf inner h) (replay_clean _)

theorem dropMax_clean (w : WE) (h : w.clean = true) : w.dropMax.clean = true := by
  cases w <;> exact h

theorem feed_clean (ps : List Piece) (w : WE) (h : w.clean = true) :
    (w.feed (ps.map some)).okClean := by
  induction ps generalizing w with
  | nil => exact h
  | cons p ps ih =>
    cases p with
    | data cs => exact Res.okClean_bind (writeAll_clean w _ h) ih
    | style s => exact Res.okClean_bind (setStyle_clean w s h) ih

theorem chunkEncode_clean (p : Params) {enc : WE → Res}
    (henc : ∀ w, w.clean = true → (enc w).okClean) (w : WE) (h : w.clean = true) :
    (chunkEncodeE p enc w).okClean := by
  unfold chunkEncodeE
  cases p.minW <;> cases p.maxW
  · exact henc w h
  · exact Res.okClean_map (henc _ h) dropMax_clean
  all_goals cases p.right
  · exact Res.okClean_bind (henc _ h) finish_clean
  · exact Res.okClean_bind (henc _ h) finish_clean
  · exact Res.okClean_map (Res.okClean_bind (henc _ h) finish_clean) dropMax_clean
  · exact Res.okClean_map (Res.okClean_bind (henc _ h) finish_clean) dropMax_clean

mutual
theorem encodeNode_clean : ∀ (n : Node) (w : WE), w.clean = true → (encodeNodeE n.lift w).okClean
  | .leaf ps, w, h => feed_clean ps w h
  | .fmt p cs, w, h => chunkEncode_clean p (encodeNodes_clean cs) w h
  | .gated true p cs, w, h => chunkEncode_clean p (encodeNodes_clean cs) w h
  | .gated false p _, w, h => chunkEncode_clean p (enc := .ok) (fun _ hw' => hw') w h
theorem encodeNodes_clean : ∀ (ns : List Node) (w : WE), w.clean = true →
    (encodeNodesE (Node.liftAll ns) w).okClean
  | [], _, h => h
  | n :: ns, w, h => Res.okClean_bind (encodeNode_clean n w h) (encodeNodes_clean ns)
end

theorem erasePieces_map_some (ps : List Piece) : erasePieces (ps.map some) = ps := by
  induction ps with
  | nil => rfl
  | cons p ps ih => exact congrArg (p :: ·) ih

mutual
theorem erase_lift : ∀ n : Node, n.lift.erase = n
  | .leaf ps => congrArg Node.leaf (erasePieces_map_some ps)
  | .fmt p cs => congrArg (Node.fmt p) (eraseAll_liftAll cs)
  | .gated a p cs => congrArg (Node.gated a p) (eraseAll_liftAll cs)
theorem eraseAll_liftAll : ∀ ns : List Node, NodeE.eraseAll (Node.liftAll ns) = ns
  | [] => rfl
  | n :: ns => by rw [Node.liftAll, NodeE.eraseAll, erase_lift n, eraseAll_liftAll ns]
end

end Log4rs.Pattern
