import Log4rsModel.Pattern.Chunk
/-
Equations of `compile` (the model of `impl From<Piece> for Chunk`) and of the date / MDC argument
handling, per form of the argument list.
-/
namespace Log4rs.Pattern.Parse

/-- unfolding of `compile` on a formatter piece (`simp [compile]` on this nested-recursive
definition is avoided) -/
theorem compile_arg (B : Build) (n : List Char) (args : List (List Piece)) (p : Params) :
    compile B (.arg n args p) =
      if n = cs!"d" || n = cs!"date" then dateChunk B args p
      else match groupOfName n with
        | some g =>
          match args with
          | [a] => .group g (compileL B a) p
          | _ => .error eExactlyOne
        | none =>
          match leafOfName n with
          | some k => noArgs args p k
          | none =>
            if n = cs!"X" || n = cs!"mdc" then mdcChunk B args p
            else .error (eUnknownFormatter n) := by
  rw [compile]
  split <;> rfl

theorem compile_text (B : Build) (s : List Char) : compile B (.text s) = .text s := by rw [compile]
theorem compile_error (B : Build) (e : List Char) : compile B (.error e) = .error e := by rw [compile]
theorem compileL_nil (B : Build) : compileL B [] = [] := by rw [compileL]
theorem compileL_cons (B : Build) (p : Piece) (ps : List Piece) :
    compileL B (p :: ps) = compile B p :: compileL B ps := by
  rw [compileL]

theorem compileL_append (B : Build) : ∀ (a b : List Piece), compileL B (a ++ b) = compileL B a ++ compileL B b
  | [], b => by rw [compileL_nil]; rfl
  | x :: a, b => by
    rw [List.cons_append, compileL_cons, compileL_cons, compileL_append B a b]; rfl

theorem leafLookup_mem (n : List Char) : ∀ (tbl : List (List Char × Leaf)) (k : Leaf),
    leafLookup n tbl = some k → (n, k) ∈ tbl
  | [], k, h => by cases h
  | (m, k') :: rest, k, h => by
    rw [leafLookup] at h
    split at h
    · rename_i hn; cases h; subst hn; exact List.mem_cons_self
    · exact List.mem_cons_of_mem _ (leafLookup_mem n rest k h)

/-- the names of the formatters without arguments are no other formatter's names -/
theorem leafTable_notGroup : ∀ e ∈ leafTable,
    groupOfName e.1 = none ∧ e.1 ≠ cs!"d" ∧ e.1 ≠ cs!"date" := by decide

theorem dateChunk_many (B : Build) (args : List (List Piece)) (p : Params) (h : args.length > 2) :
    dateChunk B args p = .error eAtMostTwo := by
  simp only [dateChunk, h, if_true]

/-- within the argument count, a format chrono rejects is the error chunk, whatever the zone says -/
theorem dateChunk_bad (B : Build) (hfix : B.dateCheck = true) (args : List (List Piece)) (p : Params)
    (hlen : args.length ≤ 2) (hbad : B.dateOk (dateFormatArg args) = false) :
    dateChunk B args p = .error (eInvalidDateFormat (dateFormatArg args)) := by
  simp only [dateChunk, Nat.not_lt.mpr hlen, if_false, hfix, hbad, Bool.not_false, Bool.and_self, if_true]

/-- a date formatter without a zone argument whose format is acceptable -/
theorem dateChunk_noZone (B : Build) (args : List (List Piece)) (p : Params) (hlen : args.length ≤ 1)
    (hf : B.dateCheck = false ∨ B.dateOk (dateFormatArg args) = true) :
    dateChunk B args p = .leaf (.time (dateFormatArg args) false) p := by
  have hl : ¬ args.length > 2 := by omega
  have hc : (B.dateCheck && !B.dateOk (dateFormatArg args)) = false := by
    rcases hf with hf | hf <;> simp only [hf, Bool.false_and, Bool.not_true, Bool.and_false]
  match args, hlen with
  | [], _ => simp only [dateChunk, hl, hc, if_false, Bool.false_eq_true]
  | [_], _ => simp only [dateChunk, hl, hc, if_false, Bool.false_eq_true]

/-- a two-argument date formatter whose format is acceptable is decided by its zone argument -/
theorem dateChunk_zone (B : Build) (fmt z : List Piece) (p : Params)
    (hf : B.dateCheck = false ∨ B.dateOk (dateFormatOf fmt) = true) :
    dateChunk B [fmt, z] p =
      match tzOf B z with
      | .ok utc => .leaf (.time (dateFormatOf fmt) utc) p
      | .error e => .error e := by
  have hc : (B.dateCheck && !B.dateOk (dateFormatOf fmt)) = false := by
    rcases hf with hf | hf <;> simp only [hf, Bool.false_and, Bool.not_true, Bool.and_false]
  simp only [dateChunk, dateFormatArg, List.length_cons, List.length_nil, Nat.lt_irrefl, gt_iff_lt, if_false, hc,
    Bool.false_eq_true]
  cases tzOf B z <;> rfl

theorem mdcChunk_nil (B : Build) (p : Params) : mdcChunk B [] p = .error eMissingMdcKey := rfl

theorem mdcChunk_one (B : Build) (k : List Piece) (p : Params) :
    mdcChunk B [k] p =
      match mdcArg B eInvalidMdcKey k with
      | .error e => .error e
      | .ok key => .leaf (.mdc key []) p := by
  simp only [mdcChunk, List.length_cons, List.length_nil, gt_iff_lt]
  cases mdcArg B eInvalidMdcKey k <;> rfl

theorem mdcChunk_two (B : Build) (k d : List Piece) (p : Params) :
    mdcChunk B [k, d] p =
      match mdcArg B eInvalidMdcKey k with
      | .error e => .error e
      | .ok key =>
        match mdcArg B eInvalidMdcDefault d with
        | .error e => .error e
        | .ok dflt => .leaf (.mdc key dflt) p := by
  simp only [mdcChunk, List.length_cons, List.length_nil, gt_iff_lt]
  cases mdcArg B eInvalidMdcKey k with
  | error e => rfl
  | ok key => cases mdcArg B eInvalidMdcDefault d <;> rfl

theorem mdcChunk_many (B : Build) (args : List (List Piece)) (p : Params) (h : args.length > 2) :
    mdcChunk B args p = .error eAtMostTwo := by
  simp only [mdcChunk, h, if_true]

/-- an explicitly empty key / default: the empty string since the repair, `invalid` before -/
theorem mdcArg_nil (B : Build) (hB : B.mdcWhole = true) (inv : List Char) :
    mdcArg B inv [] = if B.mdcEmptyOk then .ok [] else .error inv := by
  cases hE : B.mdcEmptyOk <;> simp [mdcArg, hE, mdcArgText, hB, plainTextOf]

/-- a non-empty argument is read whole by the repaired `plain_text` -/
theorem mdcArg_cons (B : Build) (hB : B.mdcWhole = true) (inv : List Char) (x : Piece) (xs : List Piece) :
    mdcArg B inv (x :: xs) = plainTextLoop inv (x :: xs) := by
  simp [mdcArg, mdcArgText, hB, plainTextOf]

end Log4rs.Pattern.Parse
