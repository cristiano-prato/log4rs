import Log4rsModel.Pattern.Encode
import Log4rsModel.Pattern.ChunkLemmas
import Log4rsModel.Pattern.TextLemmas
/-
Lemmas about the encoder model: it is the pure operation stream `opsList` unless a date format
that is actually rendered is rejected by chrono; it never returns `err`; concatenation.
-/
namespace Log4rs.Pattern.Parse

/-- is a group rendered in this build profile (`Debug` and `Release` groups only in theirs) -/
def groupOn (env : Env) : GroupKind → Bool
  | .debug => env.debugBuild
  | .release => !env.debugBuild
  | _ => true

/-- what a group puts around the operations of its children: the level's style for `Highlight` -/
def groupWrap (r : Record) : GroupKind → Out → Out
  | .highlight => wrapHighlight r.level
  | _ => id

theorem encChunk_group (env : Env) (r : Record) (g : GroupKind) (cs : List Chunk) (p : Params) :
    encChunk env r (.group g cs p) =
      omap (fun o => codeFmtOps p (groupWrap r g o)) (if groupOn env g then encList env r cs else .ok []) := by
  cases g <;> rw [encChunk] <;> first | rfl | (rcases Bool.eq_false_or_eq_true env.debugBuild with h | h <;> simp only [groupOn, h] <;> rfl)

theorem opsChunk_group (env : Env) (r : Record) (g : GroupKind) (cs : List Chunk) (p : Params) :
    opsChunk env r (.group g cs p) =
      codeFmtOps p (groupWrap r g (if groupOn env g then opsList env r cs else [])) := by
  cases g <;> rw [opsChunk] <;> first | rfl | (rcases Bool.eq_false_or_eq_true env.debugBuild with h | h <;> simp only [groupOn, h] <;> rfl)

theorem renderedTimes_group (env : Env) (g : GroupKind) (cs : List Chunk) (p : Params) :
    renderedTimes env (.group g cs p) = if groupOn env g then renderedTimesL env cs else [] := by
  cases g <;> rw [renderedTimes] <;>
    first | rfl | (rcases Bool.eq_false_or_eq_true env.debugBuild with h | h <;> simp only [groupOn, h] <;> rfl) | (intros; contradiction)

theorem leafText_ok (env : Env) (r : Record) (k : Leaf)
    (h : ∀ fmt utc, k = .time fmt utc → env.strftimeOk fmt = true) :
    leafText env r k = .ok (leafTextPure env r k) := by
  cases k <;> simp [leafText, leafTextPure]
  rename_i fmt utc
  exact h fmt utc rfl

theorem leafText_ne_err (env : Env) (r : Record) (k : Leaf) (e : Unit) : leafText env r k ≠ .err e := by
  cases k <;> simp [leafText]
  split <;> simp

theorem omap_ne_err {α β : Type} {f : α → β} {x : Outcome Unit α} (h : ∀ e, x ≠ .err e) (e : Unit) :
    omap f x ≠ .err e := by
  cases x with
  | ok a => intro h'; cases h'
  | err e' => exact absurd rfl (h e')
  | panic w => intro h'; cases h'

/-- sequencing of two encodes -/
def seqOut (a b : Outcome Unit Out) : Outcome Unit Out :=
  match a with
  | .ok o =>
    match b with
    | .ok o' => .ok (o ++ o')
    | .err e => .err e
    | .panic w => .panic w
  | .err e => .err e
  | .panic w => .panic w

theorem encList_cons (env : Env) (r : Record) (c : Chunk) (cs : List Chunk) :
    encList env r (c :: cs) = seqOut (encChunk env r c) (encList env r cs) := by
  simp only [encList, seqOut]
  cases encChunk env r c with
  | ok o => cases encList env r cs <;> rfl
  | err e => rfl
  | panic w => rfl

mutual
theorem encChunk_eq_ops (env : Env) (r : Record) : ∀ (c : Chunk),
    (∀ x ∈ renderedTimes env c, env.strftimeOk x.1 = true) → encChunk env r c = .ok (opsChunk env r c)
  | .text s, _ => by rw [encChunk, opsChunk]
  | .error e, _ => by rw [encChunk, opsChunk]
  | .leaf k p, h => by
    rw [encChunk, opsChunk, leafText_ok env r k fun fmt utc hk =>
      h (fmt, utc) (by rw [hk, renderedTimes]; exact List.mem_singleton.mpr rfl)]
    rfl
  | .group g cs p, h => by
    rw [renderedTimes_group] at h
    rw [encChunk_group, opsChunk_group]
    cases hon : groupOn env g
    · rfl
    · rw [hon, if_pos rfl] at h
      rw [if_pos rfl, if_pos rfl, encList_eq_ops env r cs h]
      rfl
theorem encList_eq_ops (env : Env) (r : Record) : ∀ (cs : List Chunk),
    (∀ x ∈ renderedTimesL env cs, env.strftimeOk x.1 = true) → encList env r cs = .ok (opsList env r cs)
  | [], _ => by rw [encList, opsList]
  | c :: cs, h => by
    rw [renderedTimesL] at h
    rw [encList_cons, opsList, encChunk_eq_ops env r c fun x hx => h x (List.mem_append_left _ hx),
      encList_eq_ops env r cs fun x hx => h x (List.mem_append_right _ hx)]
    rfl
end

mutual
theorem encChunk_ne_err (env : Env) (r : Record) : ∀ (c : Chunk) (e : Unit), encChunk env r c ≠ .err e
  | .text s, _ => by rw [encChunk]; intro h; cases h
  | .error e, _ => by rw [encChunk]; intro h; cases h
  | .leaf k p, e => by rw [encChunk]; exact omap_ne_err (leafText_ne_err env r k) e
  | .group g cs p, e => by
    rw [encChunk_group]
    refine omap_ne_err (fun e' => ?_) e
    split
    · exact encList_ne_err env r cs e'
    · intro h; cases h
theorem encList_ne_err (env : Env) (r : Record) : ∀ (cs : List Chunk) (e : Unit), encList env r cs ≠ .err e
  | [], _ => by rw [encList]; intro h; cases h
  | c :: cs, e => by
    have h1 := encChunk_ne_err env r c
    have h2 := encList_ne_err env r cs
    rw [encList_cons]
    cases hc : encChunk env r c with
    | ok o =>
      cases hl : encList env r cs with
      | ok o' => intro h; cases h
      | err e' => exact absurd hl (h2 e')
      | panic w => intro h; cases h
    | err e' => exact absurd hc (h1 e')
    | panic w => intro h; cases h
end

theorem seqOut_assoc (a b c : Outcome Unit Out) : seqOut (seqOut a b) c = seqOut a (seqOut b c) := by
  cases a <;> cases b <;> cases c <;> simp [seqOut]

theorem encList_append (env : Env) (r : Record) : ∀ (xs ys : List Chunk),
    encList env r (xs ++ ys) = seqOut (encList env r xs) (encList env r ys)
  | [], ys => by
    simp only [List.nil_append, encList, seqOut]
    cases encList env r ys <;> simp
  | x :: xs, ys => by
    rw [List.cons_append, encList_cons, encList_cons, encList_append env r xs ys, seqOut_assoc]

theorem opsList_append (env : Env) (r : Record) : ∀ (xs ys : List Chunk),
    opsList env r (xs ++ ys) = opsList env r xs ++ opsList env r ys
  | [], ys => by simp [opsList]
  | x :: xs, ys => by simp [opsList, opsList_append env r xs ys]

theorem timesOf_text (s : List Char) : timesOf (.text s) = [] := by rw [timesOf]
theorem timesOf_error (e : List Char) : timesOf (.error e) = [] := by rw [timesOf]
theorem timesOf_group (g : GroupKind) (cs : List Chunk) (p : Params) :
    timesOf (.group g cs p) = timesOfL cs := by rw [timesOf]
theorem timesOf_leaf_time (f : List Char) (u : Bool) (p : Params) :
    timesOf (.leaf (.time f u) p) = [(f, u)] := by rw [timesOf]
theorem timesOf_leaf_nontime (k : Leaf) (p : Params) (hk : ∀ f u, k ≠ .time f u) :
    timesOf (.leaf k p) = [] := by
  cases k <;> first
    | (exact absurd rfl (hk _ _))
    | (rw [timesOf]; intros; contradiction)
theorem timesOf_leaf_mdc (k d : List Char) (p : Params) : timesOf (.leaf (.mdc k d) p) = [] :=
  timesOf_leaf_nontime _ p (by intro f u h; cases h)
theorem timesOfL_nil : timesOfL [] = [] := by rw [timesOfL]
theorem timesOfL_cons (c : Chunk) (cs : List Chunk) : timesOfL (c :: cs) = timesOf c ++ timesOfL cs := by
  rw [timesOfL]

def Leaf.isTime : Leaf → Bool
  | .time _ _ => true
  | _ => false

theorem leafTable_nontime : ∀ e ∈ leafTable, e.2.isTime = false := by decide

theorem timesOf_leafOfName (n : List Char) (k : Leaf) (p : Params) (h : leafOfName n = some k) :
    timesOf (.leaf k p) = [] := by
  apply timesOf_leaf_nontime
  intro f u hc
  subst hc
  have := leafTable_nontime _ (leafLookup_mem n leafTable _ h)
  simp [Leaf.isTime] at this

theorem dateChunk_times (B : Build) (hd : B.dateCheck = true) (args : List (List Piece)) (p : Params) :
    ∀ x ∈ timesOf (dateChunk B args p), B.dateOk x.1 = true := by
  intro x hx
  unfold dateChunk at hx
  split at hx
  · rw [timesOf_error] at hx; cases hx
  · simp only [hd, Bool.true_and] at hx
    split at hx
    · rw [timesOf_error] at hx; cases hx
    · rename_i hok
      have hok' : B.dateOk (dateFormatArg args) = true := by simpa using hok
      split at hx
      · split at hx
        · rw [timesOf_leaf_time] at hx; simp at hx; subst hx; exact hok'
        · rw [timesOf_error] at hx; cases hx
      · rw [timesOf_leaf_time] at hx; simp at hx; subst hx; exact hok'

theorem mdcChunk_times (B : Build) (args : List (List Piece)) (p : Params) :
    timesOf (mdcChunk B args p) = [] := by
  unfold mdcChunk
  repeat (first | rw [timesOf_error] | rw [timesOf_leaf_mdc] | split)

mutual
/-- after the repair of F4 every time chunk carries a format the construction-time check accepts -/
theorem times_compile (B : Build) (hd : B.dateCheck = true) :
    ∀ (pc : Piece), ∀ x ∈ timesOf (compile B pc), B.dateOk x.1 = true
  | .text s => by rw [compile_text, timesOf_text]; intro x hx; cases hx
  | .error e => by rw [compile_error, timesOf_error]; intro x hx; cases hx
  | .arg n args p => by
    intro x hx
    rw [compile_arg] at hx
    split at hx
    · exact dateChunk_times B hd args p x hx
    · split at hx
      · match args, hx with
        | [], hx => rw [timesOf_error] at hx; cases hx
        | [a], hx =>
          simp only [timesOf_group] at hx
          exact times_compileL B hd a x hx
        | _ :: _ :: _, hx => rw [timesOf_error] at hx; cases hx
      · split at hx
        · rename_i k hk
          unfold noArgs at hx
          split at hx
          · rw [timesOf_leafOfName n k p hk] at hx; cases hx
          · rw [timesOf_error] at hx; cases hx
        · split at hx
          · rw [mdcChunk_times] at hx; cases hx
          · rw [timesOf_error] at hx; cases hx
theorem times_compileL (B : Build) (hd : B.dateCheck = true) :
    ∀ (ps : List Piece), ∀ x ∈ timesOfL (compileL B ps), B.dateOk x.1 = true
  | [] => by rw [compileL_nil, timesOfL_nil]; intro x hx; cases hx
  | pc :: ps => by
    intro x hx
    rw [compileL_cons, timesOfL_cons, List.mem_append] at hx
    rcases hx with h | h
    · exact times_compile B hd pc x h
    · exact times_compileL B hd ps x h
end

mutual
theorem rendered_sub_times (env : Env) : ∀ (c : Chunk), ∀ x ∈ renderedTimes env c, x ∈ timesOf c
  | .text s => by rw [renderedTimes]; intro x hx; cases hx
  | .error e => by rw [renderedTimes]; intro x hx; cases hx
  | .leaf k p => by
    intro x hx
    cases k <;> rw [renderedTimes] at hx <;> first | (cases hx; done) | (rw [timesOf]; exact hx)
  | .group g cs p => by
    intro x hx
    rw [timesOf_group]
    rw [renderedTimes_group] at hx
    split at hx
    · exact rendered_sub_timesL env cs x hx
    · cases hx
theorem rendered_sub_timesL (env : Env) : ∀ (cs : List Chunk), ∀ x ∈ renderedTimesL env cs, x ∈ timesOfL cs
  | [] => by rw [renderedTimesL]; intro x hx; cases hx
  | c :: cs => by
    intro x hx
    rw [renderedTimesL, List.mem_append] at hx
    rw [timesOfL_cons, List.mem_append]
    rcases hx with h | h
    · exact Or.inl (rendered_sub_times env c x h)
    · exact Or.inr (rendered_sub_timesL env cs x h)
end

theorem opsChunk_text (env : Env) (r : Record) (s : List Char) : opsChunk env r (.text s) = ofText s := by
  rw [opsChunk]
theorem opsChunk_leaf (env : Env) (r : Record) (k : Leaf) (p : Params) :
    opsChunk env r (.leaf k p) = codeFmtOps p (ofText (leafTextPure env r k)) := by rw [opsChunk]
theorem opsList_nil (env : Env) (r : Record) : opsList env r [] = [] := by rw [opsList]
theorem opsList_cons (env : Env) (r : Record) (c : Chunk) (cs : List Chunk) :
    opsList env r (c :: cs) = opsChunk env r c ++ opsList env r cs := by rw [opsList]
theorem opsChunk_error (env : Env) (r : Record) (e : List Char) :
    opsChunk env r (.error e) = ofText (errorMarker e) := by rw [opsChunk]

end Log4rs.Pattern.Parse
