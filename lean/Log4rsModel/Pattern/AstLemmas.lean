import Log4rsModel.Pattern.Ast
import Log4rsModel.Pattern.EncodeLemmas
/-
Equations of the recursive functions on the pattern AST (printer, well-formedness, depth, meaning,
style calls, dates, direct translation), and what does not depend on how a formatter is spelt.
-/
namespace Log4rs.Pattern.Parse

theorem showPat_lit (l : Lit) : showPat (.lit l) = showLit l := by rw [showPat]
theorem showPat_leaf (k long spec) :
    showPat (.leaf k long spec) = '{' :: (leafName k long ++ showSpec spec ++ ['}']) := by rw [showPat]
theorem showPat_date (long args spec) :
    showPat (.date long args spec) = '{' :: (dateName long ++ showDateArgs args ++ showSpec spec ++ ['}']) := by
  rw [showPat]
theorem showPat_mdc (long key dflt spec) :
    showPat (.mdc long key dflt spec) =
      '{' :: (mdcName long ++ ('(' :: showLits key ++ [')']) ++ showDflt dflt ++ showSpec spec ++ ['}']) := by
  rw [showPat]
theorem showPat_group (k long body spec) :
    showPat (.group k long body spec) =
      '{' :: (groupName k long ++ ('(' :: showPats body ++ [')']) ++ showSpec spec ++ ['}']) := by rw [showPat]
theorem showPats_nil : showPats [] = [] := by rw [showPats]
theorem showPats_cons (p : Pat) (ps : List Pat) : showPats (p :: ps) = showPat p ++ showPats ps := by
  rw [showPats]

theorem wfPat_lit (bits inArg l) : wfPat bits inArg (.lit l) = wfLit inArg l := by rw [wfPat]
theorem wfPat_leaf (bits inArg k long spec) :
    wfPat bits inArg (.leaf k long spec) = wfSpec bits spec := by rw [wfPat]
theorem wfPat_date (bits inArg long args spec) :
    wfPat bits inArg (.date long args spec) =
      ((match args with
        | none => true
        | some (f, _) => f.all (wfLit true)) && wfSpec bits spec) := by
  cases args with
  | none => rw [wfPat]
  | some fz => rw [wfPat]
theorem wfPat_mdc (bits inArg long key dflt spec) :
    wfPat bits inArg (.mdc long key dflt spec) =
      (key.all (wfLit true) &&
      (match dflt with
        | none => true
        | some d => d.all (wfLit true)) && wfSpec bits spec) := by
  cases dflt with
  | none => rw [wfPat]
  | some d => rw [wfPat]
theorem wfPat_group (bits inArg k long body spec) :
    wfPat bits inArg (.group k long body spec) = (wfPats bits true body && wfSpec bits spec) := by rw [wfPat]
theorem wfPats_nil (bits inArg) : wfPats bits inArg [] = true := by rw [wfPats]
theorem wfPats_cons (bits inArg p ps) :
    wfPats bits inArg (p :: ps) = (wfPat bits inArg p && wfPats bits inArg ps) := by rw [wfPats]

theorem depthPat_lit (l) : depthPat (.lit l) = 0 := by rw [depthPat]
theorem depthPat_leaf (k long spec) : depthPat (.leaf k long spec) = 0 := by rw [depthPat]
theorem depthPat_date_none (long spec) : depthPat (.date long none spec) = 0 := by rw [depthPat]
theorem depthPat_date_some (long fz spec) : depthPat (.date long (some fz) spec) = 1 := by rw [depthPat]
theorem depthPat_mdc (long key dflt spec) : depthPat (.mdc long key dflt spec) = 1 := by rw [depthPat]
theorem depthPat_group (k long body spec) : depthPat (.group k long body spec) = depthPats body + 1 := by
  rw [depthPat]
theorem depthPats_nil : depthPats [] = 0 := by rw [depthPats]
theorem depthPats_cons (p ps) : depthPats (p :: ps) = max (depthPat p) (depthPats ps) := by rw [depthPats]

theorem plainLit_wf {l : Lit} (h : plainLit l = true) : wfLit true l = true := by
  simp only [plainLit, Bool.and_eq_true, Bool.not_eq_true', beq_iff_eq] at h
  simp [wfLit, h.1, h.2]

theorem all_plain_wf {ls : List Lit} (h : ls.all plainLit = true) : ls.all (wfLit true) = true := by
  rw [List.all_eq_true] at h ⊢
  intro l hl
  exact plainLit_wf (h l hl)

theorem wfLit_plain {inArg : Bool} {l : Lit} (h : wfLit inArg l = true) (he : l.esc = .plain) :
    isSpecial l.c = false := by
  unfold wfLit at h
  by_cases hs : isSpecial l.c = true
  · simp [hs, he] at h
  · simpa using hs

theorem wfLit_escaped {inArg : Bool} {l : Lit} (h : wfLit inArg l = true) (he : l.esc ≠ .plain) :
    isSpecial l.c = true := by
  unfold wfLit at h
  by_cases hs : isSpecial l.c = true
  · exact hs
  · simp only [hs] at h
    simp at h
    exact absurd h he

theorem wfDigits_some {bits : Nat} {ds : Digits} (h : wfDigits bits (some ds) = true) :
    ds ≠ [] ∧ digitsValue ds < 2 ^ bits := by
  simp only [wfDigits, Bool.and_eq_true, Bool.not_eq_true', decide_eq_true_eq] at h
  refine ⟨?_, h.2⟩
  intro hn; subst hn; simp at h

theorem okPrefix_nil (P : Profile) : okPrefix P [] = [] := rfl

theorem okPrefix_cons_ok (P : Profile) (p : Pat) (ps : List Pat) (h : depthPat p ≤ P.maxDepth) :
    okPrefix P (p :: ps) = p :: okPrefix P ps := by
  simp [okPrefix, List.takeWhile, h]

theorem okPrefix_cons_deep (P : Profile) (p : Pat) (ps : List Pat) (h : ¬ depthPat p ≤ P.maxDepth) :
    okPrefix P (p :: ps) = [] := by
  simp [okPrefix, List.takeWhile, h]

/-- the elements in front of the first too-deep one are well formed when the whole list is -/
theorem wfPats_okPrefix (P : Profile) (bits : Nat) (inArg : Bool) : ∀ (ps : List Pat),
    wfPats bits inArg ps = true → wfPats bits inArg (okPrefix P ps) = true
  | [], _ => by rw [okPrefix_nil, wfPats_nil]
  | p :: ps, h => by
    rw [wfPats_cons] at h
    simp only [Bool.and_eq_true] at h
    by_cases hd : depthPat p ≤ P.maxDepth
    · rw [okPrefix_cons_ok P p ps hd, wfPats_cons, h.1, wfPats_okPrefix P bits inArg ps h.2]; rfl
    · rw [okPrefix_cons_deep P p ps hd, wfPats_nil]

theorem chunkOf_lit (B : Build) (l : Lit) : chunkOf B (.lit l) = .text [l.c] := by rw [chunkOf]
theorem chunkOf_leaf (B : Build) (k long spec) :
    chunkOf B (.leaf k long spec) = .leaf k.leaf (paramsOf spec) := by
  rw [chunkOf]
theorem chunkOf_date (B : Build) (long args spec) :
    chunkOf B (.date long args spec) = dateChunkOf B args spec := by
  rw [chunkOf]
theorem chunkOf_mdc (B : Build) (long key dflt spec) :
    chunkOf B (.mdc long key dflt spec) = .leaf (.mdc (litChars key) (dfltChars dflt)) (paramsOf spec) := by
  rw [chunkOf]
theorem chunkOf_group (B : Build) (k long body spec) :
    chunkOf B (.group k long body spec) = .group k (chunksOf B body) (paramsOf spec) := by rw [chunkOf]
theorem chunksOf_nil (B : Build) : chunksOf B [] = [] := by rw [chunksOf]
theorem chunksOf_cons (B : Build) (p : Pat) (ps : List Pat) :
    chunksOf B (p :: ps) = chunkOf B p :: chunksOf B ps := by
  rw [chunksOf]

theorem denotePat_lit (env r l) : denotePat env r (.lit l) = [l.c] := by rw [denotePat]
theorem denotePat_leaf (env r k long spec) :
    denotePat env r (.leaf k long spec) = applySpec spec (leafValue env r k) := by rw [denotePat]
theorem denotePat_date (env r long args spec) :
    denotePat env r (.date long args spec) =
      applySpec spec (env.dateText (dateRequest args).1 (dateRequest args).2) := by rw [denotePat]
theorem denotePat_mdc (env r long key dflt spec) :
    denotePat env r (.mdc long key dflt spec) = applySpec spec (mdcValue env key dflt) := by rw [denotePat]
theorem denotePat_group (env : Env) (r : Record) (k long body spec) :
    denotePat env r (.group k long body spec) =
      applySpec spec (if groupOn env k then denotePats env r body else []) := by
  cases k <;> rw [denotePat] <;> first | rfl | (by_cases h : env.debugBuild = true <;> simp [groupOn, h])
theorem denotePats_nil (env r) : denotePats env r [] = [] := by rw [denotePats]
theorem denotePats_cons (env r p ps) :
    denotePats env r (p :: ps) = denotePat env r p ++ denotePats env r ps := by rw [denotePats]

theorem allDatesPat_date (long args spec) : allDatesPat (.date long args spec) = [(dateRequest args).1] := by
  rw [allDatesPat]
theorem allDatesPat_group (k long body spec) : allDatesPat (.group k long body spec) = allDatesPats body := by
  rw [allDatesPat]
theorem allDatesPats_cons (p : Pat) (ps : List Pat) : allDatesPats (p :: ps) = allDatesPat p ++ allDatesPats ps := by
  rw [allDatesPats]

theorem dateChunkOf_ok (B : Build) (args : Option (List Lit × Option Bool)) (spec : Option FormatSpec)
    (h : B.dateOk (dateRequest args).1 = true) :
    dateChunkOf B args spec = .leaf (.time (dateRequest args).1 (dateRequest args).2) (paramsOf spec) := by
  simp [dateChunkOf, h]

theorem stylesPat_group (env : Env) (r : Record) (k long body spec) :
    stylesPat env r (.group k long body spec) =
      match k with
      | .align => stylesPats env r body
      | .highlight =>
        match highlightStyle r.level with
        | some s => s :: stylesPats env r body ++ [Style.plain]
        | none => stylesPats env r body
      | .debug => if env.debugBuild then stylesPats env r body else []
      | .release => if env.debugBuild then [] else stylesPats env r body := by
  cases k <;> rw [stylesPat] <;> try rfl
theorem stylesPat_lit (env r l) : stylesPat env r (.lit l) = [] := by
  rw [stylesPat]; intros; contradiction
theorem stylesPat_leaf (env r k long spec) : stylesPat env r (.leaf k long spec) = [] := by
  rw [stylesPat]; intros; contradiction
theorem stylesPat_date (env r long args spec) : stylesPat env r (.date long args spec) = [] := by
  rw [stylesPat]; intros; contradiction
theorem stylesPat_mdc (env r long key dflt spec) : stylesPat env r (.mdc long key dflt spec) = [] := by
  rw [stylesPat]; intros; contradiction
theorem stylesPats_nil (env r) : stylesPats env r [] = [] := by rw [stylesPats]
theorem stylesPats_cons (env r p ps) :
    stylesPats env r (p :: ps) = stylesPat env r p ++ stylesPats env r ps := by rw [stylesPats]

theorem datesPat_group (env : Env) (k long body spec) :
    datesPat env (.group k long body spec) = if groupOn env k then datesPats env body else [] := by
  cases k <;> rw [datesPat] <;>
    first | rfl | (by_cases h : env.debugBuild = true <;> simp [groupOn, h]) | (intros; contradiction)
theorem datesPat_lit (env l) : datesPat env (.lit l) = [] := by
  rw [datesPat] <;> (intros; contradiction)
theorem datesPat_leaf (env k long spec) : datesPat env (.leaf k long spec) = [] := by
  rw [datesPat] <;> (intros; contradiction)
theorem datesPat_mdc (env long key dflt spec) : datesPat env (.mdc long key dflt spec) = [] := by
  rw [datesPat] <;> (intros; contradiction)
theorem datesPat_date (env long args spec) : datesPat env (.date long args spec) = [dateRequest args] := by
  rw [datesPat]
theorem datesPats_nil (env) : datesPats env [] = [] := by rw [datesPats]
theorem datesPats_cons (env p ps) : datesPats env (p :: ps) = datesPat env p ++ datesPats env ps := by
  rw [datesPats]

mutual
theorem chunkOf_unalias (B : Build) : ∀ (p : Pat), chunkOf B (unalias p) = chunkOf B p
  | .lit l => by rw [unalias]
  | .leaf k long spec => by rw [unalias, chunkOf_leaf, chunkOf_leaf]
  | .date long args spec => by rw [unalias, chunkOf_date, chunkOf_date]
  | .mdc long key dflt spec => by rw [unalias, chunkOf_mdc, chunkOf_mdc]
  | .group k long body spec => by rw [unalias, chunkOf_group, chunkOf_group, chunksOf_unalias B body]
theorem chunksOf_unalias (B : Build) : ∀ (ps : List Pat), chunksOf B (unaliasL ps) = chunksOf B ps
  | [] => by rw [unaliasL]
  | p :: ps => by rw [unaliasL, chunksOf_cons, chunksOf_cons, chunkOf_unalias B p, chunksOf_unalias B ps]
end

mutual
theorem wfPat_unalias (bits : Nat) : ∀ (p : Pat) (inArg : Bool), wfPat bits inArg p = true →
    wfPat bits inArg (unalias p) = true
  | .lit l, _, h => by rw [unalias]; exact h
  | .leaf k long spec, inArg, h => by
    rw [wfPat_leaf] at h
    rw [unalias, wfPat_leaf]; exact h
  | .date long args spec, inArg, h => by
    rw [wfPat_date] at h
    rw [unalias, wfPat_date]; exact h
  | .mdc long key dflt spec, inArg, h => by
    rw [wfPat_mdc] at h
    rw [unalias, wfPat_mdc]; exact h
  | .group k long body spec, inArg, h => by
    rw [wfPat_group] at h
    simp only [Bool.and_eq_true] at h
    rw [unalias, wfPat_group]
    simp only [Bool.and_eq_true]
    exact ⟨wfPats_unalias bits body true h.1, h.2⟩
theorem wfPats_unalias (bits : Nat) : ∀ (ps : List Pat) (inArg : Bool), wfPats bits inArg ps = true →
    wfPats bits inArg (unaliasL ps) = true
  | [], _, _ => by rw [unaliasL, wfPats_nil]
  | p :: ps, inArg, h => by
    rw [wfPats_cons] at h
    simp only [Bool.and_eq_true] at h
    rw [unaliasL, wfPats_cons]
    simp only [Bool.and_eq_true]
    exact ⟨wfPat_unalias bits p inArg h.1, wfPats_unalias bits ps inArg h.2⟩
end

mutual
/-- writing a formatter in its short form does not change the nesting depth -/
theorem depthPat_unalias : ∀ (p : Pat), depthPat (unalias p) = depthPat p
  | .lit l => by rw [unalias]
  | .leaf k long spec => by rw [unalias, depthPat_leaf, depthPat_leaf]
  | .date long none spec => by rw [unalias, depthPat_date_none, depthPat_date_none]
  | .date long (some fz) spec => by rw [unalias, depthPat_date_some, depthPat_date_some]
  | .mdc long key dflt spec => by rw [unalias, depthPat_mdc, depthPat_mdc]
  | .group k long body spec => by
    rw [unalias, depthPat_group, depthPat_group, depthPats_unalias body]
theorem depthPats_unalias : ∀ (ps : List Pat), depthPats (unaliasL ps) = depthPats ps
  | [] => by rw [unaliasL]
  | p :: ps => by
    rw [unaliasL, depthPats_cons, depthPats_cons, depthPat_unalias p, depthPats_unalias ps]
end

theorem WF_unalias (P : Profile) (ps : List Pat) (h : WF P ps) : WF P (unaliasL ps) :=
  ⟨wfPats_unalias P.wordBits ps false h.1, by rw [depthPats_unalias]; exact h.2⟩

mutual
/-- no style call without a highlight group, and none for a level without a style (Debug) -/
theorem stylesPat_eq_nil (env : Env) (r : Record) : ∀ (p : Pat),
    hasHighlight p = false ∨ highlightStyle r.level = none → stylesPat env r p = []
  | .lit l, _ => stylesPat_lit env r l
  | .leaf k long spec, _ => stylesPat_leaf env r k long spec
  | .date long args spec, _ => stylesPat_date env r long args spec
  | .mdc long key dflt spec, _ => stylesPat_mdc env r long key dflt spec
  | .group k long body spec, h => by
    rw [hasHighlight, Bool.or_eq_false_iff] at h
    have ih := stylesPats_eq_nil env r body (h.imp And.right id)
    rw [stylesPat_group]
    cases k
    · simp only [ih]
    · rcases h with h | hl
      · exact absurd h.1 (by decide)
      · simp only [hl, ih]
    · simp only [ih]; split <;> rfl
    · simp only [ih]; split <;> rfl
theorem stylesPats_eq_nil (env : Env) (r : Record) : ∀ (ps : List Pat),
    hasHighlightL ps = false ∨ highlightStyle r.level = none → stylesPats env r ps = []
  | [], _ => by rw [stylesPats_nil]
  | p :: ps, h => by
    rw [hasHighlightL, Bool.or_eq_false_iff] at h
    rw [stylesPats_cons, stylesPat_eq_nil env r p (h.imp And.left id),
      stylesPats_eq_nil env r ps (h.imp And.right id)]
    rfl
end

theorem stylesPat_unstyledLevel (env : Env) (r : Record) (hl : highlightStyle r.level = none) :
    ∀ (p : Pat), stylesPat env r p = [] :=
  fun p => stylesPat_eq_nil env r p (Or.inr hl)

end Log4rs.Pattern.Parse
