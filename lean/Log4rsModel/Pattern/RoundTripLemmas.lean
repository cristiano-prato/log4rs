import Log4rsModel.Pattern.ParseStepLemmas
/-
Parser round trip for C09: `next` on a printed escape / formatter yields `pieceOf`, the argument
loop on a printed pattern list yields `piecesOf` — by mutual structural induction over the nested
AST — and so does the top-level loop. Beyond the nesting limit `Profile.maxDepth` (= `MAX_DEPTH` of
parser.rs) the `(` one level too deep swallows the rest and fails with `nesting too deep`; every
enclosing argument then fails with `unclosed '('`, every enclosing formatter misses its `}`.
-/
namespace Log4rs.Pattern.Parse

theorem zoneName_plain (z : Bool) : (zoneName z).all nonSpecial = true ∧ flushText (zoneName z) = [.text (zoneName z)] := by
  cases z <;> exact ⟨by decide, rfl⟩

/-- first character of a printed escape or formatter; `)` only as the doubled `))` -/
theorem showPat_head (bits : Nat) (inArg : Bool) (p : Pat) (rest : List Char)
    (hwf : wfPat bits inArg p = true) (hnp : plainChar p = none) :
    ∃ hd tl, showPat p ++ rest = hd :: tl ∧ isSpecial hd = true ∧ (hd = ')' → ∃ t, tl = ')' :: t) := by
  cases p with
  | lit l =>
    rw [wfPat_lit] at hwf
    rw [showPat_lit]
    exact showLit_head inArg l rest hwf fun he => by simp [plainChar, he] at hnp
  | leaf k long spec => exact ⟨'{', _, by rw [showPat_leaf]; rfl, by decide, fun h => absurd h (by decide)⟩
  | date long args spec => exact ⟨'{', _, by rw [showPat_date]; rfl, by decide, fun h => absurd h (by decide)⟩
  | mdc long key dflt spec => exact ⟨'{', _, by rw [showPat_mdc]; rfl, by decide, fun h => absurd h (by decide)⟩
  | group k long body spec => exact ⟨'{', _, by rw [showPat_group]; rfl, by decide, fun h => absurd h (by decide)⟩

theorem noParen_specTail (spec : Option FormatSpec) (rest : List Char) :
    NoParenHead (showSpec spec ++ '}' :: rest) := by
  obtain ⟨t, tl, h, ht⟩ := specTail_head spec rest
  rw [h]
  intro x hx
  cases hx
  rcases ht with h | h <;> cases h

theorem noParen_open (x : List Char) : NoParenHead ('(' :: x) := by
  intro t h; cases h

theorem argsL_too_deep (cc : CharClass) (P : Profile) (r : List Char) (acc : List (List Piece)) :
    argsL cc P P.maxDepth ('(' :: r) acc = .fail eNestingTooDeep [] := by
  unfold argsL
  rw [argsLoop]
  simp

/-- a failing argument body makes `args()` fail -/
theorem argsL_open_fail (cc : CharClass) (P : Profile) (d : Nat) (hd : d ≠ P.maxDepth) (r : List Char)
    (acc : List (List Piece)) (e : List Char) (hb : argB cc P (d + 1) r [] = .fail e []) :
    argsL cc P d ('(' :: r) acc = .fail e [] := by
  unfold argB at hb
  unfold argsL
  rw [argsLoop]
  simp only [if_true, hd, if_false]
  have : argBody cc P ('(' :: r).length (d + 1) r [] = .fail e [] := by simpa using hb
  rw [this]

/-- the `'{'` branch of `next` when `args()` fails with nothing left: the `}` is missing too -/
theorem next_formatter_fail (cc : CharClass) (P : Profile) (d : Nat) (nm tail : List Char) (e : List Char)
    (hhead : doubled '{' (nm ++ tail) = none)
    (hname : name cc P (nm ++ tail) = (nm, tail))
    (hargs : argsL cc P d tail [] = .fail e []) :
    nextAt cc P d ('{' :: (nm ++ tail)) = .ok (some (.error eExpectedClose)) [] := by
  rw [next_eq cc P d]
  simp only [nextWith, if_true, hhead, argumentWith, hname, hargs, closeBrace]

theorem next_named_fail (cc : CharClass) (hcc : CCAscii cc) (P : Profile) (d : Nat) (nm : List Char)
    (tl : List Char) (e : List Char)
    (hnm : isNameB cc.alpha (nameChar cc P) nm = true)
    (hargs : argsL cc P d ('(' :: tl) [] = .fail e []) :
    nextAt cc P d ('{' :: (nm ++ '(' :: tl)) = .ok (some (.error eExpectedClose)) [] := by
  have htn : nameChar cc P '(' = false := by simp [nameChar, (cc_syntax cc hcc).2.2.1]
  exact next_formatter_fail cc P d nm ('(' :: tl) e (doubled_brace_name cc hcc P _ hnm)
    (name_of_isName cc P nm '(' tl hnm htn) hargs

theorem next_unnamed_fail (cc : CharClass) (hcc : CCAscii cc) (P : Profile) (d : Nat) (tl : List Char)
    (e : List Char) (hargs : argsL cc P d ('(' :: tl) [] = .fail e []) :
    nextAt cc P d ('{' :: '(' :: tl) = .ok (some (.error eExpectedClose)) [] := by
  obtain ⟨_, _, _, h4, _⟩ := cc_syntax cc hcc
  have := next_formatter_fail cc P d [] ('(' :: tl) e (by simp [doubled]) (by simp [name, h4]) hargs
  simpa using this

/-- a printed formatter with at least one argument, named or not (`{(…)}`), at depth `d`: its piece
when `args()`, allowed to open an argument at all, reads `args` up to the format spec; the error
piece and nothing left when `args()` fails at the end of the input or `d` is the limit. `n` is how
deep the arguments nest. -/
theorem next_shown (cc : CharClass) (hcc : CCAscii cc) (P : Profile) (d : Nat) (hd : d ≤ P.maxDepth)
    (nm as x : List Char) (has : as = '(' :: x) (spec : Option FormatSpec) (rest : List Char)
    (args : List (List Piece)) (n : Nat) (e : List Char)
    (hnm : nm ≠ [] → isNameB cc.alpha (nameChar cc P) nm = true) (hspec : wfSpec P.wordBits spec = true)
    (hargs : d ≠ P.maxDepth → argsL cc P d (as ++ (showSpec spec ++ '}' :: rest)) [] =
      if n + 1 + d ≤ P.maxDepth then .ok args (showSpec spec ++ '}' :: rest) else .fail e []) :
    nextAt cc P d ('{' :: (nm ++ as ++ showSpec spec ++ ['}']) ++ rest) =
      if n + 1 + d ≤ P.maxDepth then .ok (some (.arg nm args (paramsOf spec))) rest
      else .ok (some (.error eExpectedClose)) [] := by
  subst has
  have hre : '{' :: (nm ++ '(' :: x ++ showSpec spec ++ ['}']) ++ rest =
      '{' :: (nm ++ '(' :: (x ++ (showSpec spec ++ '}' :: rest))) := by simp
  rw [hre]
  have hfail : ∀ e, argsL cc P d ('(' :: (x ++ (showSpec spec ++ '}' :: rest))) [] = .fail e [] →
      nextAt cc P d ('{' :: (nm ++ '(' :: (x ++ (showSpec spec ++ '}' :: rest)))) =
        .ok (some (.error eExpectedClose)) [] := by
    intro e he
    by_cases h : nm = []
    · subst h; exact next_unnamed_fail cc hcc P d _ e he
    · exact next_named_fail cc hcc P d nm _ e (hnm h) he
  by_cases hdm : d = P.maxDepth
  · subst hdm
    rw [if_neg (by omega)]
    exact hfail _ (argsL_too_deep cc P _ [])
  · have hargs := hargs hdm
    by_cases hn : n + 1 + d ≤ P.maxDepth
    · rw [if_pos hn] at hargs ⊢
      by_cases h : nm = []
      · subst h; exact next_unnamed cc hcc P d _ args spec rest hargs hspec
      · exact next_named cc hcc P d nm '(' _ args spec rest (hnm h) (Or.inr (Or.inr rfl)) hargs hspec
    · rw [if_neg hn] at hargs ⊢
      exact hfail e hargs

mutual
/-- `next` on a printed escape or formatter followed by anything: its piece while the nesting stays
within the limit, otherwise the error piece and nothing left of the input -/
theorem next_printed (cc : CharClass) (hcc : CCAscii cc) (P : Profile) (hus : P.underscoreNames = true)
    (hP : P.doubledCloseParen = true) :
    ∀ (p : Pat) (d : Nat) (inArg : Bool), wfPat P.wordBits inArg p = true → plainChar p = none →
      d ≤ P.maxDepth →
      ∀ rest : List Char, nextAt cc P d (showPat p ++ rest) =
        if depthPat p + d ≤ P.maxDepth then .ok (some (pieceOf p)) rest
        else .ok (some (.error eExpectedClose)) []
  | .lit l, d, inArg, hwf, hnp, hd, rest => by
    rw [wfPat_lit] at hwf
    have he : l.esc ≠ .plain := by
      intro he; simp [plainChar, he] at hnp
    rw [depthPat_lit, if_pos (by omega), showPat_lit, pieceOf_lit]
    exact next_escape cc P d inArg l rest hwf he
  | .leaf k long spec, d, inArg, hwf, _, hd, rest => by
    rw [wfPat_leaf] at hwf
    obtain ⟨t, tl, htl, ht⟩ := specTail_head spec rest
    rw [depthPat_leaf, if_pos (by omega), showPat_leaf, pieceOf_leaf]
    have hre : ('{' :: (leafName k long ++ showSpec spec ++ ['}'])) ++ rest =
        '{' :: (leafName k long ++ t :: tl) := by simp [← htl]
    rw [hre]
    refine next_named cc hcc P d _ t tl [] spec rest (isName_leaf cc hcc P hus k long) (ht.imp_right Or.inl) ?_ hwf
    rw [← htl]
    exact argsL_done cc P d spec rest []
  | .date long none spec, d, inArg, hwf, _, hd, rest => by
    rw [wfPat_date, Bool.and_eq_true] at hwf
    obtain ⟨t, tl, htl, ht⟩ := specTail_head spec rest
    rw [depthPat_date_none, if_pos (by omega), showPat_date, pieceOf_date]
    have hre : ('{' :: (dateName long ++ showDateArgs none ++ showSpec spec ++ ['}'])) ++ rest =
        '{' :: (dateName long ++ t :: tl) := by simp [showDateArgs, ← htl]
    rw [hre]
    refine next_named cc hcc P d _ t tl [] spec rest (isName_date cc hcc P long) (ht.imp_right Or.inl) ?_ hwf.2
    rw [← htl]
    exact argsL_done cc P d spec rest []
  | .date long (some (f, z)) spec, d, inArg, hwf, _, hd, rest => by
    rw [wfPat_date, Bool.and_eq_true] at hwf
    rw [depthPat_date_some, showPat_date, pieceOf_date]
    obtain ⟨x, hx⟩ : ∃ x, showDateArgs (some (f, z)) = '(' :: x := by
      cases z <;> exact ⟨_, rfl⟩
    refine next_shown cc hcc P d hd _ _ x hx spec rest _ 0 [] (fun _ => isName_date cc hcc P long) hwf.2 fun hdm => ?_
    have h1 := fun tail ht => argsL_open cc P d hdm _ [] _ tail (argB_litArg cc P (d + 1) hP f hwf.1 tail ht)
    rw [if_pos (by omega)]
    cases z with
    | none =>
      simp only [showDateArgs, List.cons_append, List.append_assoc, List.nil_append]
      rw [h1 _ (noParen_specTail spec rest)]
      exact argsL_done cc P d spec rest _
    | some z =>
      have h2 := argB_plain cc P (d + 1) (zoneName z) _ [] (zoneName_plain z).1 (noParen_specTail spec rest)
      simp only [showDateArgs, List.cons_append, List.append_assoc, List.nil_append]
      rw [h1 _ (noParen_open _), argsL_open cc P d hdm _ _ _ _ h2, (zoneName_plain z).2]
      exact argsL_done cc P d spec rest _
  | .mdc long key dflt spec, d, inArg, hwf, _, hd, rest => by
    rw [wfPat_mdc] at hwf
    simp only [Bool.and_eq_true] at hwf
    obtain ⟨⟨hkey, hdflt⟩, hspec⟩ := hwf
    rw [depthPat_mdc, showPat_mdc, pieceOf_mdc, List.append_assoc (mdcName long)]
    refine next_shown cc hcc P d hd _ _ (showLits key ++ [')'] ++ showDflt dflt) rfl spec rest _ 0 []
      (fun _ => isName_mdc cc hcc P long) hspec fun hdm => ?_
    have h1 := fun tail ht => argsL_open cc P d hdm _ [] _ tail (argB_litArg cc P (d + 1) hP key hkey tail ht)
    rw [if_pos (by omega)]
    cases dflt with
    | none =>
      simp only [showDflt, List.cons_append, List.append_assoc, List.nil_append]
      rw [h1 _ (noParen_specTail spec rest)]
      exact argsL_done cc P d spec rest _
    | some dl =>
      simp only [showDflt, List.cons_append, List.append_assoc, List.nil_append]
      rw [h1 _ (noParen_open _),
        argsL_open cc P d hdm _ _ _ _ (argB_litArg cc P (d + 1) hP dl hdflt _ (noParen_specTail spec rest))]
      exact argsL_done cc P d spec rest _
  | .group k long body spec, d, inArg, hwf, _, hd, rest => by
    rw [wfPat_group, Bool.and_eq_true] at hwf
    rw [depthPat_group, showPat_group, pieceOf_group]
    refine next_shown cc hcc P d hd _ _ (showPats body ++ [')']) rfl spec rest _ (depthPats body) eUnclosedParen
      (fun h => isName_group cc hcc P k long fun hk => h (by rw [hk, groupName])) hwf.2 fun hdm => ?_
    have hb := argB_printed cc hcc P hus hP body (d + 1) hwf.1 (by omega) [] rfl (showSpec spec ++ '}' :: rest) []
    rw [List.nil_append, List.nil_append] at hb
    simp only [List.cons_append, List.append_assoc, List.nil_append]
    by_cases hdeep : depthPats body + (d + 1) ≤ P.maxDepth
    · rw [if_pos hdeep, argB_close cc P (d + 1) _ _ (noParen_specTail spec rest)] at hb
      rw [if_pos (by omega), argsL_open cc P d hdm _ [] _ _ hb]
      exact argsL_done cc P d spec rest _
    · rw [if_neg hdeep] at hb
      rw [if_neg (by omega)]
      exact argsL_open_fail cc P d hdm _ [] _ hb
/-- the argument loop on a printed pattern list (pending ordinary text `pre`) up to its `)`: there
with the pieces of the list, unless an element goes too deep — that element swallows the rest, so
the argument is never closed -/
theorem argB_printed (cc : CharClass) (hcc : CCAscii cc) (P : Profile) (hus : P.underscoreNames = true)
    (hP : P.doubledCloseParen = true) :
    ∀ (ps : List Pat) (d : Nat), wfPats P.wordBits true ps = true → d ≤ P.maxDepth →
      ∀ pre : List Char, pre.all nonSpecial = true → ∀ (more : List Char) (acc : List Piece),
        argB cc P d (pre ++ (showPats ps ++ ')' :: more)) acc =
          if depthPats ps + d ≤ P.maxDepth then argB cc P d (')' :: more) (acc ++ piecesOf pre ps)
          else .fail eUnclosedParen []
  | [], d, _, hd, pre, hpre, more, acc => by
    rw [showPats_nil, depthPats_nil, if_pos (by omega), piecesOf_nil, List.nil_append]
    exact argB_flush cc P d pre (')' :: more) acc hpre (startsSpecial_cons (by decide))
  | p :: ps, d, hwf, hd, pre, hpre, more, acc => by
    rw [wfPats_cons, Bool.and_eq_true] at hwf
    obtain ⟨hp, hps⟩ := hwf
    rw [showPats_cons, depthPats_cons, piecesOf_cons]
    cases hpc : plainChar p with
    | some c =>
      obtain ⟨l, rfl, he, hc⟩ := plainChar_some hpc
      rw [wfPat_lit] at hp
      have hns := wfLit_plain hp he
      rw [hc] at hns
      have ih := argB_printed cc hcc P hus hP ps d hps hd (pre ++ [c]) (all_nonSpecial_snoc hpre hns) more acc
      rw [depthPat_lit, Nat.zero_max]
      simp only [showPat_lit, showLit, he, hc]
      simpa using ih
    | none =>
      obtain ⟨hd0, tl, hshape, hsp, hcl⟩ := showPat_head P.wordBits true p (showPats ps ++ ')' :: more) hp hpc
      have hn := next_printed cc hcc P hus hP p d true hp hpc hd (showPats ps ++ ')' :: more)
      have ih := argB_printed cc hcc P hus hP ps d hps hd [] rfl more (acc ++ flushText pre ++ [pieceOf p])
      rw [List.nil_append] at ih
      simp only [List.append_assoc]
      rw [hshape] at hn ⊢
      rw [argB_flush cc P d pre _ acc hpre (startsSpecial_cons hsp)]
      by_cases hdp : depthPat p + d ≤ P.maxDepth
      · rw [if_pos hdp] at hn
        rw [argB_step cc P d hd0 tl _ (fun h => ⟨hP, hcl h⟩) _ _ hn, ih]
        by_cases hdps : depthPats ps + d ≤ P.maxDepth
        · rw [if_pos hdps, if_pos (by omega)]
          simp
        · rw [if_neg hdps, if_neg (by omega)]
      · rw [if_neg hdp] at hn
        rw [argB_step cc P d hd0 tl _ (fun h => ⟨hP, hcl h⟩) _ _ hn, argB_nil, if_neg (by omega)]
end

/-- the argument loop on a printed pattern list (pending ordinary text `pre`) up to its `)` -/
theorem argB_pats (cc : CharClass) (hcc : CCAscii cc) (P : Profile) (hus : P.underscoreNames = true)
    (hP : P.doubledCloseParen = true) :
    ∀ (ps : List Pat) (d : Nat), wfPats P.wordBits true ps = true → depthPats ps + d ≤ P.maxDepth →
      ∀ pre : List Char, pre.all nonSpecial = true →
      ∀ (more : List Char), NoParenHead more → ∀ (acc : List Piece),
        argB cc P d (pre ++ (showPats ps ++ ')' :: more)) acc = .ok (acc ++ piecesOf pre ps) more := by
  intro ps d hwf hdep pre hpre more hm acc
  rw [argB_printed cc hcc P hus hP ps d hwf (by omega) pre hpre more acc, if_pos hdep, argB_close cc P d more _ hm]

/-- the argument loop on a printed pattern list one of whose elements goes too deep: that element
swallows the rest, so the argument is never closed -/
theorem argB_too_deep (cc : CharClass) (hcc : CCAscii cc) (P : Profile) (hus : P.underscoreNames = true)
    (hP : P.doubledCloseParen = true) :
    ∀ (ps : List Pat) (d : Nat), wfPats P.wordBits true ps = true → d ≤ P.maxDepth →
      P.maxDepth < depthPats ps + d →
      ∀ pre : List Char, pre.all nonSpecial = true → ∀ (more : List Char) (acc : List Piece),
        argB cc P d (pre ++ (showPats ps ++ ')' :: more)) acc = .fail eUnclosedParen [] := by
  intro ps d hwf hd hdeep pre hpre more acc
  rw [argB_printed cc hcc P hus hP ps d hwf hd pre hpre more acc, if_neg (by omega)]

/-- pending ordinary text in front of a special character (or of the end) is one `Text` piece -/
theorem parse_flush (cc : CharClass) (P : Profile) (pre s : List Char) (X : List Piece)
    (hpre : pre.all nonSpecial = true) (hs : StartsSpecial s) (h : parse cc P s = .ok X) :
    parse cc P (pre ++ s) = .ok (flushText pre ++ X) := by
  cases pre with
  | nil => exact h
  | cons c t =>
    simp only [List.all_cons, Bool.and_eq_true] at hpre
    have hc : isSpecial c = false := by simpa [nonSpecial] using hpre.1
    rw [List.cons_append, parse_of_next cc P (next_text cc P 0 c t s hc hpre.2 hs), h]
    rfl

/-- `Parser::new(pre ++ showPats ps).collect()`: the pieces of the AST while the nesting stays within
the limit; otherwise the pieces of the elements before the first too-deep one, then the error
piece, and the input is used up -/
theorem parse_printed (cc : CharClass) (hcc : CCAscii cc) (P : Profile) (hus : P.underscoreNames = true)
    (hP : P.doubledCloseParen = true) :
    ∀ (ps : List Pat) (pre : List Char), wfPats P.wordBits false ps = true → pre.all nonSpecial = true →
      parse cc P (pre ++ showPats ps) =
        .ok (if depthPats ps ≤ P.maxDepth then piecesOf pre ps
             else piecesOf pre (okPrefix P ps) ++ [.error eExpectedClose])
  | [], pre, _, hpre => by
    rw [showPats_nil, depthPats_nil, if_pos (Nat.zero_le _), piecesOf_nil]
    simpa using parse_flush cc P pre [] [] hpre trivial (parse_nil cc P)
  | p :: ps, pre, hwf, hpre => by
    rw [wfPats_cons, Bool.and_eq_true] at hwf
    obtain ⟨hp, hps⟩ := hwf
    rw [showPats_cons, depthPats_cons, piecesOf_cons]
    cases hpc : plainChar p with
    | some c =>
      obtain ⟨l, rfl, he, hc⟩ := plainChar_some hpc
      rw [wfPat_lit] at hp
      have hns := wfLit_plain hp he
      rw [hc] at hns
      have ih := parse_printed cc hcc P hus hP ps (pre ++ [c]) hps (all_nonSpecial_snoc hpre hns)
      have hshow : showPat (.lit l) = [c] := by rw [showPat_lit]; simp [showLit, he, hc]
      rw [hshow, depthPat_lit, Nat.zero_max, okPrefix_cons_ok P _ _ (by rw [depthPat_lit]; exact Nat.zero_le _),
        piecesOf_cons, hpc]
      simpa using ih
    | none =>
      obtain ⟨hd, tl, hshape, hsp, _⟩ := showPat_head P.wordBits false p (showPats ps) hp hpc
      have hss : StartsSpecial (showPat p ++ showPats ps) := by rw [hshape]; exact hsp
      have ih := parse_printed cc hcc P hus hP ps [] hps rfl
      rw [List.nil_append] at ih
      by_cases hdp : depthPat p ≤ P.maxDepth
      · have hn := next_printed cc hcc P hus hP p 0 false hp hpc (Nat.zero_le _) (showPats ps)
        rw [if_pos (by omega)] at hn
        rw [parse_flush cc P pre _ _ hpre hss ((parse_of_next cc P hn).trans (by rw [ih])),
          okPrefix_cons_ok P p ps hdp, piecesOf_cons, hpc]
        by_cases hdps : depthPats ps ≤ P.maxDepth
        · rw [if_pos hdps, if_pos (Nat.max_le.mpr ⟨hdp, hdps⟩)]
        · rw [if_neg hdps, if_neg (by omega)]
          simp
      · have hn := next_printed cc hcc P hus hP p 0 false hp hpc (Nat.zero_le _) (showPats ps)
        rw [if_neg (by omega)] at hn
        rw [parse_flush cc P pre _ _ hpre hss ((parse_of_next cc P hn).trans (by rw [parse_nil])),
          okPrefix_cons_deep P p ps hdp, piecesOf_nil, if_neg (by omega)]

end Log4rs.Pattern.Parse
