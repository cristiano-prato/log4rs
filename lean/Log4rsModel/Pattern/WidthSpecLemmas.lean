import Log4rsModel.Pattern.WidthSpec
import Log4rsModel.Pattern.TreeLemmas
/-
Lemmas for `Pattern/WidthSpec.lean`: the model's text is `specOrCode` with no hypothesis, and the
statement-only matcher accepts everything the model produces (the Spec verdict cannot raise a
false alarm on a behaviour the model — hence, by the correspondence check, the code — shows).
Core only.
-/
namespace Log4rs.Pattern
open Log4rs

theorem codeFmtOps_text_specOrCode (p : Params) (o : Out) :
    (codeFmtOps p o).text = specOrCodeFmt p o.text := by
  unfold specOrCodeFmt
  by_cases h : p.ordered = true
  · rw [if_pos h]; exact codeFmtOps_text_eq_spec p o h
  · rw [if_neg h]; exact codeFmtOps_text p o

mutual
theorem denote_text_specOrCode : ∀ (n : Node), (denote n).text = specOrCode n
  | .leaf _ => rfl
  | .fmt p cs =>
    (codeFmtOps_text_specOrCode p _).trans (congrArg (specOrCodeFmt p) (denotes_text_specOrCode cs))
  | .gated true p cs =>
    (codeFmtOps_text_specOrCode p _).trans (congrArg (specOrCodeFmt p) (denotes_text_specOrCode cs))
  | .gated false p _ => codeFmtOps_text_specOrCode p []
theorem denotes_text_specOrCode : ∀ (ns : List Node), (denotes ns).text = specOrCodes ns
  | [] => rfl
  | n :: ns => by
    rw [denotes, text_append, denote_text_specOrCode n, denotes_text_specOrCode ns]; rfl
end

theorem specFmt_length (p : Params) (t : List Char) : (specFmt p t).length = p.outLen t.length := by
  have hc : (match p.maxW with | some M => t.take M | none => t).length =
      (match p.maxW with | some M => min M t.length | none => t.length) := by
    cases p.maxW with
    | none => rfl
    | some M => exact List.length_take
  unfold specFmt Params.outLen
  cases p.minW with
  | none => exact hc
  | some m => exact (length_padTo ..).trans (congrArg (max m) hc)

theorem outLen_mono (p : Params) {a b : Nat} (h : a ≤ b) : p.outLen a ≤ p.outLen b := by
  have hc : (match p.maxW with | some M => min M a | none => a) ≤
      (match p.maxW with | some M => min M b | none => b) := by
    cases p.maxW with
    | none => exact h
    | some M => exact Nat.le_min.2 ⟨Nat.min_le_left _ _, Nat.le_trans (Nat.min_le_right _ _) h⟩
  unfold Params.outLen
  cases p.minW with
  | none => exact hc
  | some m => exact Nat.max_le.2 ⟨Nat.le_max_left _ _, Nat.le_trans hc (Nat.le_max_right _ _)⟩

theorem specFmt_length_ge (p : Params) (t : List Char) (m : Nat) (hm : p.minW = some m) :
    m ≤ (specFmt p t).length := by
  rw [specFmt_length, Params.outLen, hm]; exact Nat.le_max_left _ _

theorem codeFmtOps_plain (p : Params) (o : Out) (h : p.plain = true) : codeFmtOps p o = o := by
  unfold Params.plain at h
  unfold codeFmtOps
  cases hm : p.minW <;> cases hM : p.maxW <;> simp [hm, hM] at h ⊢

theorem window_codeFmtOps (p : Params) (o : Out) : p.window (codeFmtOps p o).text.length = true := by
  unfold Params.window
  have h1 : (match p.maxW with
      | some M => decide ((codeFmtOps p o).text.length ≤ M) | none => true) = true := by
    cases hM : p.maxW with
    | none => rfl
    | some M => exact decide_eq_true (codeFmtOps_text_length_le p o M hM)
  have h2 : (match p.minW with
      | some m => !p.ordered || decide (m ≤ (codeFmtOps p o).text.length) | none => true) = true := by
    cases hm : p.minW with
    | none => rfl
    | some m =>
      cases ho : p.ordered with
      | false => rfl
      | true =>
        rw [codeFmtOps_text_eq_spec p o ho]
        exact decide_eq_true (specFmt_length_ge p o.text m hm)
  exact Bool.and_eq_true _ _ ▸ ⟨h1, h2⟩

/-- the bound of a group from the bound `u` of its content, whichever way the content is given
(children that run, or the empty text of an inactive group) -/
theorem length_le_ubFmt (p : Params) (o : Out) (u : Option Nat) (k : Nat)
    (hu : ∀ j, u = some j → o.text.length ≤ j)
    (h : (if p.ordered then u.map p.outLen else p.maxW) = some k) :
    (codeFmtOps p o).text.length ≤ k := by
  by_cases ho : p.ordered = true
  · rw [if_pos ho, Option.map_eq_some_iff] at h
    obtain ⟨j, hj, rfl⟩ := h
    rw [codeFmtOps_text_eq_spec p o ho, specFmt_length]; exact outLen_mono p (hu j hj)
  · rw [if_neg ho] at h
    exact codeFmtOps_text_length_le p o k h

mutual
theorem length_le_ubNode : ∀ (n : Node) (k : Nat), ubNode n = some k → (denote n).text.length ≤ k
  | .leaf ps, k, h => by cases h; exact Nat.le_refl _
  | .fmt p cs, k, h => length_le_ubFmt p _ _ k (length_le_ubNodes cs) h
  | .gated true p cs, k, h => length_le_ubFmt p _ _ k (length_le_ubNodes cs) h
  | .gated false p cs, k, h =>
    length_le_ubFmt p [] (some 0) k (fun j hj => by cases hj; exact Nat.le_refl 0) h
theorem length_le_ubNodes : ∀ (ns : List Node) (k : Nat), ubNodes ns = some k →
    (denotes ns).text.length ≤ k
  | [], k, h => by cases h; exact Nat.le_refl 0
  | n :: ns, k, h => by
    rw [ubNodes] at h
    cases ha : ubNode n with
    | none => rw [ha] at h; cases h
    | some a =>
      cases hb : ubNodes ns with
      | none => rw [ha, hb] at h; cases h
      | some b =>
        rw [ha, hb] at h
        cases h
        rw [denotes, text_append, List.length_append]
        exact Nat.add_le_add (length_le_ubNode n a ha) (length_le_ubNodes ns b hb)
end

theorem withinUb_denote (n : Node) : withinUb (ubNode n) (denote n).text.length = true := by
  unfold withinUb
  cases h : ubNode n with
  | none => rfl
  | some k => exact decide_eq_true (length_le_ubNode n k h)

theorem mem_splits (a b : List Char) : (a, b) ∈ splits (a ++ b) := by
  unfold splits
  rw [List.mem_map]
  refine ⟨a.length, List.mem_range.2 ?_, ?_⟩
  · rw [List.length_append]; exact Nat.lt_succ_of_le (Nat.le_add_right _ _)
  · rw [List.take_left' rfl, List.drop_left' rfl]

/-- a group node `n` with spec `p` over the stream `o`: inside the statement its text is exactly
`specText`; outside, a plain group is transparent (`rest` is the verdict on its children) and any
other group only has its length window and bound checked -/
theorem matchGroup_denote (n : Node) (p : Params) (o : Out) (rest : Bool)
    (hden : denote n = codeFmtOps p o) (hrest : p.plain = true → rest = true) :
    (if n.ordered then decide ((denote n).text = specText n)
      else if p.plain then rest
      else p.window (denote n).text.length && withinUb (ubNode n) (denote n).text.length) = true := by
  by_cases ho : n.ordered = true
  · rw [if_pos ho]; exact decide_eq_true (denote_text_eq_spec n ho)
  · rw [if_neg ho]
    by_cases hp : p.plain = true
    · rw [if_pos hp]; exact hrest hp
    · rw [if_neg hp, withinUb_denote n, hden, window_codeFmtOps]; rfl

mutual
theorem matchNode_denote : ∀ (n : Node), matchNode n (denote n).text = true
  | .leaf ps => by rw [matchNode, denote]; exact decide_eq_true rfl
  | .fmt p cs =>
    matchGroup_denote (.fmt p cs) p (denotes cs) (matchNodes cs (denote (.fmt p cs)).text) rfl
      (fun hp => by rw [denote, codeFmtOps_plain p _ hp]; exact matchNodes_denotes cs)
  | .gated true p cs =>
    matchGroup_denote (.gated true p cs) p (denotes cs) (matchNodes cs (denote (.gated true p cs)).text)
      rfl (fun hp => by rw [denote, codeFmtOps_plain p _ hp]; exact matchNodes_denotes cs)
  | .gated false p cs => by
    rw [matchNode]
    by_cases ho : p.ordered = true
    · rw [if_pos ho]
      exact decide_eq_true (denote_text_eq_spec _ (by rw [Node.ordered]; exact ho))
    · rw [if_neg ho, denote]; exact window_codeFmtOps p _
theorem matchNodes_denotes : ∀ (ns : List Node), matchNodes ns (denotes ns).text = true
  | [] => by rw [matchNodes, denotes]; rfl
  | n :: ns => by
    rw [matchNodes, denotes, text_append]
    by_cases ho : n.ordered = true
    · rw [if_pos ho, denote_text_eq_spec n ho]
      show (decide (List.take (specText n).length (specText n ++ (denotes ns).text) = specText n) &&
        matchNodes ns (List.drop (specText n).length (specText n ++ (denotes ns).text))) = true
      rw [List.take_left' rfl, List.drop_left' rfl, decide_eq_true rfl, Bool.true_and]
      exact matchNodes_denotes ns
    · rw [if_neg ho, List.any_eq_true]
      exact ⟨((denote n).text, (denotes ns).text), mem_splits _ _,
        by simp only [matchNode_denote n, matchNodes_denotes ns, Bool.and_self]⟩
end

end Log4rs.Pattern
