import Log4rsModel.Pattern.ChunkTable
import Log4rsModel.Pattern.ChunkLemmas
/-
`compile` (the model of `impl From<Piece> for Chunk`) is the dispatch on `kindOfName`; used by the
generated translation obligations `C09_gen_*` / `C11_gen_*`. Then the arm each group of names selects.
-/
namespace Log4rs.Pattern.Parse

theorem compile_eq_kind (B : Build) (n : List Char) (args : List (List Piece)) (p : Params) :
    compile B (.arg n args p) =
      match kindOfName n with
      | some .time => dateChunk B args p
      | some (.group g) =>
        (match args with
         | [a] => .group g (compileL B a) p
         | _ => .error eExactlyOne)
      | some (.plain k) => noArgs args p k
      | some .mdc => mdcChunk B args p
      | none => .error (eUnknownFormatter n) := by
  unfold kindOfName
  rw [compile]
  split
  · rfl
  · cases groupOfName n with
    | some g => rfl
    | none =>
      cases leafOfName n with
      | some k => rfl
      | none =>
        dsimp only
        split <;> rfl

theorem compile_unknown (B : Build) (n : List Char) (args : List (List Piece)) (p : Params)
    (h : kindOfName n = none) : compile B (.arg n args p) = .error (eUnknownFormatter n) := by
  rw [compile_eq_kind, h]

/-- a failed argument-count test yields the kind's error text, whatever the arguments are -/
theorem compile_arity (B : Build) (n : List Char) (args : List (List Piece)) (p : Params) (k : FKind)
    (h : kindOfName n = some k) (ha : k.arityOk args.length = false) :
    compile B (.arg n args p) = .error k.arityErr := by
  rw [compile_eq_kind, h]
  cases k with
  | time => rw [dateChunk_many B args p (Nat.not_le.mp (of_decide_eq_false ha))]; rfl
  | mdc => rw [mdcChunk_many B args p (Nat.not_le.mp (of_decide_eq_false ha))]; rfl
  | group g =>
    match args, ha with
    | [], _ => rfl
    | [a], ha => simp [FKind.arityOk, FKind.arityRange] at ha
    | _ :: _ :: _, _ => rfl
  | plain l =>
    match args, ha with
    | [], ha => simp [FKind.arityOk, FKind.arityRange] at ha
    | _ :: _, _ => simp [noArgs, FKind.arityErr]

/-- one of the two names an arm of the `match` tests for -/
theorem mem_of_eq_or_eq {n a b : List Char} {l : List (List Char)} (h : (n = a || n = b) = true)
    (ha : a ∈ l) (hb : b ∈ l) : n ∈ l := by
  rcases Bool.or_eq_true _ _ ▸ h with h | h
  · exact of_decide_eq_true h ▸ ha
  · exact of_decide_eq_true h ▸ hb

theorem groupOfName_mem (n : List Char) (g : GroupKind) (h : groupOfName n = some g) : n ∈ formatterNames := by
  unfold groupOfName at h
  split at h
  · exact mem_of_eq_or_eq ‹_› (by decide) (by decide)
  · split at h
    · exact mem_of_eq_or_eq ‹_› (by decide) (by decide)
    · split at h
      · exact mem_of_eq_or_eq ‹_› (by decide) (by decide)
      · split at h
        · rename_i hn; subst hn; decide
        · cases h

theorem kindOfName_mem (n : List Char) (k : FKind) (h : kindOfName n = some k) : n ∈ formatterNames := by
  unfold kindOfName at h
  split at h
  · exact mem_of_eq_or_eq ‹_› (by decide) (by decide)
  · cases hg : groupOfName n with
    | some g => exact groupOfName_mem n g hg
    | none =>
      cases hl : leafOfName n with
      | some l =>
        exact List.mem_append_left _ (List.mem_append_right _
          (List.mem_map_of_mem (f := (·.1)) (leafLookup_mem n leafTable l hl)))
      | none =>
        rw [hg, hl] at h
        dsimp only at h
        split at h
        · exact mem_of_eq_or_eq ‹_› (by decide) (by decide)
        · cases h

theorem compile_dateName (B : Build) (n : List Char) (hn : n = cs!"d" ∨ n = cs!"date")
    (args : List (List Piece)) (p : Params) : compile B (.arg n args p) = dateChunk B args p := by
  have : kindOfName n = some .time := by rcases hn with rfl | rfl <;> decide
  rw [compile_eq_kind, this]

theorem compile_mdcName (B : Build) (n : List Char) (hn : n = cs!"X" ∨ n = cs!"mdc")
    (args : List (List Piece)) (p : Params) : compile B (.arg n args p) = mdcChunk B args p := by
  have : kindOfName n = some .mdc := by rcases hn with rfl | rfl <;> decide
  rw [compile_eq_kind, this]

theorem not_dateName_of_group {n : List Char} {g : GroupKind} (hg : groupOfName n = some g) :
    (n = cs!"d" || n = cs!"date") = false := by
  cases h : (n = cs!"d" || n = cs!"date")
  · rfl
  · rcases Bool.or_eq_true _ _ ▸ h with h | h <;> rw [of_decide_eq_true h] at hg <;> cases hg

theorem compile_groupOfName (B : Build) (n : List Char) (g : GroupKind) (hg : groupOfName n = some g)
    (args : List (List Piece)) (p : Params) :
    compile B (.arg n args p) =
      match args with
      | [a] => .group g (compileL B a) p
      | _ => .error eExactlyOne := by
  rw [compile_arg, not_dateName_of_group hg, hg]
  rfl

theorem compile_leafOfName (B : Build) (n : List Char) (k : Leaf) (hk : leafOfName n = some k)
    (args : List (List Piece)) (p : Params) : compile B (.arg n args p) = noArgs args p k := by
  obtain ⟨hg, h1, h2⟩ := leafTable_notGroup _ (leafLookup_mem n leafTable k hk)
  have hd : (n = cs!"d" || n = cs!"date") = false := by simp only [h1, h2, decide_false, Bool.or_self]
  rw [compile_arg, hd, hg, hk]
  rfl

end Log4rs.Pattern.Parse
