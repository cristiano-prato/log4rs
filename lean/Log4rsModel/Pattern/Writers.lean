import Log4rsModel.Base.Bytes
import Log4rsModel.Pattern.Format
/-
Byte-level model of the writer stack of `encode/pattern/mod.rs` (lines 153–378):
`MaxWidthWriter`, `LeftAlignWriter`, `RightAlignWriter`, std's `io::Write::write_all` retry loop,
`write!(w, "{}", fill)`, and the six-way composition in `Chunk::encode`.

A writer stack is a value of `W`; the bottom is a capturing sink that accepts, per `write` call,
the number of bytes its acceptance oracle dictates (at least one, at most the buffer), so that
arbitrary short writes of the downstream are covered. `&mut` mutation is a returned new state.
Model file: core only.
-/
namespace Log4rs.Pattern
open Log4rs

/-- what a chunk hands to its writer: a whole `str` (`write_all(s.as_bytes())`, `fmt::Write::write_str`)
or a style call. Rust cannot hand over part of a character: the payload is a `List Char`. -/
inductive Piece where
  | data (cs : List Char)
  | style (s : Style)
  deriving Repr, DecidableEq

/-- what arrives at the bottom writer, byte by byte, style calls in place -/
inductive BEv where
  | byte (b : Nat)
  | style (s : Style)
  deriving Repr, DecidableEq

/-- `BufferedOutput` of `RightAlignWriter` -/
inductive BufOut where
  | data (b : Bytes)
  | style (s : Style)
  deriving Repr, DecidableEq

/-- A writer stack. `right`'s buffer is kept newest-first (`Vec::push` = cons, replayed reversed). -/
inductive W where
  | sink (orc : List Nat) (out : List BEv)
  | maxW (remaining : Nat) (inner : W)
  | left (toFill : Nat) (fill : Char) (inner : W)
  | right (toFill : Nat) (fill : Char) (inner : W) (buf : List BufOut)
  deriving Repr

/-- acceptance oracle of the sink: entry `0` = the whole buffer, `k > 0` = at most `k` bytes; an
exhausted oracle accepts everything. Always between 1 and `len` for a non-empty buffer. -/
def accept (orc : List Nat) (len : Nat) : Nat :=
  match orc with
  | [] => len
  | k :: _ => if k = 0 then len else min k len

/-- the `for` loop of `MaxWidthWriter::write`, relative to the current index: `(end, remaining)`
— `end` is the index of the first lead byte met with `remaining == 0`, or the buffer length -/
def scanEnd : Nat → Bytes → Nat × Nat
  | r, [] => (0, r)
  | r, x :: xs =>
    if isLead x then
      if r = 0 then (0, r)
      else let (e, r') := scanEnd (r - 1) xs; (e + 1, r')
    else let (e, r') := scanEnd r xs; (e + 1, r')

/-- `RightAlignWriter::write`'s push: extend the last `Data` entry or start a new one -/
def pushData : List BufOut → Bytes → List BufOut
  | .data d :: rest, b => .data (d ++ b) :: rest
  | buf, b => .data b :: buf

/-- `io::Write::write` of each layer: new state and the number of bytes reported as written -/
def W.write : W → Bytes → W × Nat
  | .sink orc out, b =>
    let n := accept orc b.length
    (.sink orc.tail (out ++ (b.take n).map BEv.byte), n)
  | .maxW r inner, b =>
    let (e, r') := scanEnd r b
    if e = 0 then (.maxW r inner, b.length)            -- "just act as a sink past this point"
    else
      let (inner', len) := inner.write (b.take e)
      if len = e then (.maxW r' inner', len)
      else (.maxW (r - leads ((b.take e).take len)) inner', len)
  | .left tf f inner, b =>
    let (inner', len) := inner.write b
    (.left (tf - leads (b.take len)) f inner', len)     -- saturating_sub
  | .right tf f inner buf, b =>
    (.right (tf - leads b) f inner (pushData buf b), b.length)

/-- `encode::Write::set_style` of each layer -/
def W.setStyle : W → Style → W
  | .sink orc out, s => .sink orc (out ++ [BEv.style s])
  | .maxW r inner, s => .maxW r (inner.setStyle s)
  | .left tf f inner, s => .left tf f (inner.setStyle s)
  | .right tf f inner buf, s => .right tf f inner (.style s :: buf)

/-- std's default `write_all`: retry with the unwritten rest until the buffer is empty -/
def W.writeAllFuel : Nat → W → Bytes → W
  | 0, w, _ => w
  | fuel + 1, w, b =>
    if b.isEmpty then w
    else
      let (w', n) := w.write b
      W.writeAllFuel fuel w' (b.drop n)

def W.writeAll (w : W) (b : Bytes) : W := W.writeAllFuel b.length w b

/-- `write!(w, "{}", fill)`: one `write_all` of the character's bytes -/
def W.writeFill (w : W) (fill : Char) : W := w.writeAll (utf8Char fill)

def W.writeFills (w : W) (fill : Char) : Nat → W
  | 0 => w
  | n + 1 => W.writeFills (w.writeFill fill) fill n

def replay (w : W) : List BufOut → W
  | [] => w
  | .data b :: rest => replay (w.writeAll b) rest
  | .style s :: rest => replay (w.setStyle s) rest

/-- `LeftAlignWriter::finish` / `RightAlignWriter::finish`: consumes the alignment layer and gives
back the writer below it. In Rust `finish` exists only on the two alignment writers; here it is
the identity on the other shapes, which it never meets: every theorem instantiates the inner
encoder of `chunkEncode` with piece feeding / `encodeNodes`, and `feed_left`, `feed_right`,
`feed_maxW` (PieceLemmas) prove that these hand back the layer they were given. `chunkEncode`
with an arbitrary, shape-breaking `enc` is outside every statement. -/
def W.finish : W → W
  | .left tf f inner => inner.writeFills f tf
  | .right tf f inner buf => replay (inner.writeFills f tf) buf.reverse
  | w => w

/-- dropping a `MaxWidthWriter` at the end of its scope gives back the borrowed writer (identity on
other shapes, never met — see `W.finish`) -/
def W.dropMax : W → W
  | .maxW _ inner => inner
  | w => w

/-- feeding the operations of a chunk, piece by piece -/
def W.feed (w : W) : List Piece → W
  | [] => w
  | .data cs :: rest => W.feed (w.writeAll (utf8 cs)) rest
  | .style s :: rest => W.feed (w.setStyle s) rest

/-- the six-way `match (params.min_width, params.max_width, params.align)` of `Chunk::encode`;
`enc` is `chunk.encode(&mut w, record)` -/
def chunkEncode (p : Params) (enc : W → W) (w : W) : W :=
  match p.minW, p.maxW, p.right with
  | none, none, _ => enc w
  | none, some M, _ => (enc (.maxW M w)).dropMax
  | some m, none, false => (enc (.left m p.fill w)).finish
  | some m, none, true => (enc (.right m p.fill w [])).finish
  | some m, some M, false => (enc (.left m p.fill (.maxW M w))).finish.dropMax
  | some m, some M, true => (enc (.right m p.fill (.maxW M w) [])).finish.dropMax

/-- what reached the bottom of the stack -/
def W.emitted : W → List BEv
  | .sink _ out => out
  | .maxW _ inner => inner.emitted
  | .left _ _ inner => inner.emitted
  | .right _ _ inner _ => inner.emitted

def bytesOf (evs : List BEv) : Bytes :=
  evs.filterMap (fun | .byte b => some b | .style _ => none)

/-- style calls with the byte offset at which they arrived -/
def stylePositions : List BEv → Nat → List (Nat × Style)
  | [], _ => []
  | .byte _ :: rest, pos => stylePositions rest (pos + 1)
  | .style s :: rest, pos => (pos, s) :: stylePositions rest pos

/-- the byte rendering of an operation stream -/
def render (o : Out) : List BEv :=
  o.flatMap (fun | .ch c => (utf8Char c).map BEv.byte | .style s => [BEv.style s])

def opsOf (ps : List Piece) : Out :=
  ps.flatMap (fun | .data cs => ofText cs | .style s => [Op.style s])

/-- A pattern tree as far as the width law is concerned: a leaf is any formatter (or literal text)
with the pieces it writes; `fmt` is `Chunk::Formatted` whose inner chunk runs its children in
order (`{(..)}`; `{m}` = one leaf child; `{h(..)}` = style leaf, children, reset leaf).
`gated` is a profile-dependent group — `FormattedChunk::Debug` (`{D(..)}`, `{debug(..)}`) and
`FormattedChunk::Release` (`{R(..)}`, `{release(..)}`): `Chunk::Formatted` whose inner chunk runs
its children only `if cfg!(debug_assertions)` resp. `if !cfg!(debug_assertions)`; `active` is the
value of that compile-time condition. An inactive group writes nothing, but it is still a
`Chunk::Formatted` with its parameters: the width spec applies to the empty text. -/
inductive Node where
  | leaf (ps : List Piece)
  | fmt (p : Params) (children : List Node)
  | gated (active : Bool) (p : Params) (children : List Node)
  deriving Repr

/-- `{D(..)}` in a build whose `cfg!(debug_assertions)` is `buildDebug` -/
def Node.debugGroup (buildDebug : Bool) (p : Params) (children : List Node) : Node :=
  .gated buildDebug p children

/-- `{R(..)}` in a build whose `cfg!(debug_assertions)` is `buildDebug` -/
def Node.releaseGroup (buildDebug : Bool) (p : Params) (children : List Node) : Node :=
  .gated (!buildDebug) p children

mutual
/-- `Chunk::encode` on the byte-level stack -/
def encodeNode : Node → W → W
  | .leaf ps, w => w.feed ps
  | .fmt p cs, w => chunkEncode p (encodeNodes cs) w
  | .gated true p cs, w => chunkEncode p (encodeNodes cs) w
  | .gated false p _, w => chunkEncode p (fun w' => w') w
def encodeNodes : List Node → W → W
  | [], w => w
  | n :: ns, w => encodeNodes ns (encodeNode n w)
end

mutual
/-- the same tree on operation streams, through `codeFmtOps` -/
def denote : Node → Out
  | .leaf ps => opsOf ps
  | .fmt p cs => codeFmtOps p (denotes cs)
  | .gated true p cs => codeFmtOps p (denotes cs)
  | .gated false p _ => codeFmtOps p []
def denotes : List Node → Out
  | [] => []
  | n :: ns => denote n ++ denotes ns
end

mutual
/-- the statement's law through the tree, on text -/
def specText : Node → List Char
  | .leaf ps => (opsOf ps).text
  | .fmt p cs => specFmt p (specTexts cs)
  | .gated true p cs => specFmt p (specTexts cs)
  | .gated false p _ => specFmt p []
def specTexts : List Node → List Char
  | [] => []
  | n :: ns => specText n ++ specTexts ns
end

def Params.ordered (p : Params) : Bool :=
  match p.minW, p.maxW with
  | some m, some M => m ≤ M
  | _, _ => true

mutual
/-- every spec in the tree has `m ≤ M` when both are given (the statement's side condition);
the children of an inactive group never run, so their specs are not constrained -/
def Node.ordered : Node → Bool
  | .leaf _ => true
  | .fmt p cs => p.ordered && Node.orderedAll cs
  | .gated true p cs => p.ordered && Node.orderedAll cs
  | .gated false p _ => p.ordered
def Node.orderedAll : List Node → Bool
  | [] => true
  | n :: ns => n.ordered && Node.orderedAll ns
end

end Log4rs.Pattern
