import Log4rsModel.Pattern.ParserLemmas
import Log4rsModel.Pattern.AstLemmas
/-
What the parser does on the fragments of a printed AST: fuel-free equations of `args()` / `arg()`,
names, format specs, text and escapes, formatters; then the pieces a printed AST is read as
(`pieceOf`, `piecesOf` — adjacent ordinary characters merge into one `Text` piece) and the argument
loop over printed literal text.
-/
namespace Log4rs.Pattern.Parse

/-- `Parser::args` with the entry fuel -/
def argsL (cc : CharClass) (P : Profile) (d : Nat) (s : List Char) (acc : List (List Piece)) : PR (List (List Piece)) :=
  argsLoop cc P (s.length + 1) d s acc

/-- `Parser::arg` (after its `(`) with the entry fuel -/
def argB (cc : CharClass) (P : Profile) (d : Nat) (s : List Char) (acc : List Piece) : PR (List Piece) :=
  argBody cc P (s.length + 1) d s acc

theorem next_eq (cc : CharClass) (P : Profile) (d : Nat) (s : List Char) :
    nextAt cc P d s = nextWith cc P (fun x => argsL cc P d x []) s := by
  unfold nextAt
  apply nextWith_congr
  intro x hx
  exact argsLoop_fuel_irrel cc P d [] hx (by simp)

def NoParenHead (s : List Char) : Prop := ∀ t, s ≠ ')' :: t

theorem doubledClose_ne (P : Profile) {c : Char} (r : List Char) (hc : c ≠ ')') : doubledClose P c r = none := by
  simp [doubledClose, hc]

theorem doubledClose_noParen (P : Profile) (c : Char) {r : List Char} (hr : NoParenHead r) :
    doubledClose P c r = none := by
  unfold doubledClose
  split
  · unfold doubled
    split
    · rename_i d r'
      split
      · rename_i hd; subst hd; exact absurd rfl (hr r')
      · rfl
    · rfl
  · rfl

/-- the closing parenthesis of an argument (what follows does not start with `)`) -/
theorem argB_close (cc : CharClass) (P : Profile) (d : Nat) (r : List Char) (acc : List Piece) (hr : NoParenHead r) :
    argB cc P d (')' :: r) acc = .ok acc r := by
  unfold argB
  rw [argBody_succ_none cc P _ d ')' r acc (doubledClose_noParen P ')' hr)]
  simp

/-- before the repair of F6a the first `)` always closed -/
theorem argB_close_unfixed (cc : CharClass) (P : Profile) (d : Nat) (hP : P.doubledCloseParen = false) (r : List Char)
    (acc : List Piece) : argB cc P d (')' :: r) acc = .ok acc r := by
  unfold argB
  rw [argBody_succ_none cc P _ d ')' r acc (by simp [doubledClose, hP])]
  simp

/-- repair of F6a: a doubled `))` inside an argument is the piece `Text(")")` -/
theorem argB_dbl (cc : CharClass) (P : Profile) (d : Nat) (hP : P.doubledCloseParen = true) (r : List Char)
    (acc : List Piece) : argB cc P d (')' :: ')' :: r) acc = argB cc P d r (acc ++ [.text [')']]) := by
  unfold argB
  rw [argBody_succ_some cc P _ d ')' (')' :: r) acc r (by simp [doubledClose, hP, doubled])]
  exact argBody_fuel_irrel cc P d _ (by simp; omega) (by simp)

theorem argB_nil (cc : CharClass) (P : Profile) (d : Nat) (acc : List Piece) :
    argB cc P d [] acc = .fail eUnclosedParen [] := by
  simp [argB, argBody]

theorem argsL_nil (cc : CharClass) (P : Profile) (d : Nat) (acc : List (List Piece)) :
    argsL cc P d [] acc = .ok acc [] := by
  simp [argsL, argsLoop]

theorem argsL_other (cc : CharClass) (P : Profile) (d : Nat) (c : Char) (r : List Char) (acc : List (List Piece))
    (hc : c ≠ '(') : argsL cc P d (c :: r) acc = .ok acc (c :: r) := by
  simp [argsL, argsLoop, hc]

/-- `args()` on `( body ) tail` when the body parses to `a` -/
theorem argsL_open (cc : CharClass) (P : Profile) (d : Nat) (hd : d ≠ P.maxDepth) (r : List Char) (acc : List (List Piece))
    (a : List Piece) (r' : List Char) (hb : argB cc P (d + 1) r [] = .ok a r') :
    argsL cc P d ('(' :: r) acc = argsL cc P d r' (acc ++ [a]) := by
  have hs := argBody_within cc P (r.length + 1) (d + 1) r []
  unfold argB at hb
  rw [hb] at hs
  have hlen := List.IsSuffix.length_le hs
  unfold argsL
  rw [argsLoop_cons, if_pos rfl, if_neg hd, show argBody cc P ('(' :: r).length (d + 1) r [] = .ok a r' from hb]
  exact argsLoop_fuel_irrel cc P d _ (Nat.lt_succ_of_le hlen) (Nat.lt_succ_self _)

/-- the two Unicode predicates agree with their ASCII versions on ASCII -/
def CCAscii (cc : CharClass) : Prop :=
  ∀ c : Char, c.toNat < 128 → cc.alpha c = asciiAlpha c ∧ cc.alnum c = asciiAlnum c

def isNameB (alpha alnum : Char → Bool) : List Char → Bool
  | [] => false
  | a :: rest => alpha a && rest.all alnum

/-- `Parser::name` reads exactly `nm` when `nm` is a letter followed by alphanumerics and what
follows does not start with an alphanumeric -/
theorem name_of_isName (cc : CharClass) (P : Profile) (nm : List Char) (t : Char) (tail : List Char)
    (hn : isNameB cc.alpha (nameChar cc P) nm = true) (ht : nameChar cc P t = false) :
    name cc P (nm ++ t :: tail) = (nm, t :: tail) := by
  cases nm with
  | nil => simp [isNameB] at hn
  | cons a rest =>
    simp only [isNameB, Bool.and_eq_true] at hn
    simp only [List.cons_append, name, hn.1, if_true]
    have h1 : List.takeWhile (nameChar cc P) (rest ++ t :: tail) = rest := by
      rw [List.takeWhile_append_of_pos (by simpa using hn.2)]
      simp [List.takeWhile, ht]
    have h2 : List.dropWhile (nameChar cc P) (rest ++ t :: tail) = t :: tail := by
      rw [List.dropWhile_append_of_pos (by simpa using hn.2)]
      simp [List.dropWhile, ht]
    rw [h1, h2]

/-- an ASCII letter, then ASCII letters and digits, and underscores if `us` -/
def asciiName (us : Bool) : List Char → Bool
  | [] => false
  | a :: rest => decide (a.toNat < 128) && asciiAlpha a &&
      rest.all fun c => decide (c.toNat < 128) && (asciiAlnum c || (us && c == '_'))

/-- such a name is a name for every classification that behaves as Rust's on ASCII -/
theorem isName_of_ascii (cc : CharClass) (hcc : CCAscii cc) (P : Profile) (nm : List Char)
    (h : asciiName P.underscoreNames nm = true) : isNameB cc.alpha (nameChar cc P) nm = true := by
  cases nm with
  | nil => cases h
  | cons a rest =>
    simp only [asciiName, Bool.and_eq_true, decide_eq_true_eq, List.all_eq_true, Bool.or_eq_true] at h
    simp only [isNameB, Bool.and_eq_true, List.all_eq_true]
    refine ⟨by rw [(hcc a h.1.1).1]; exact h.1.2, fun c hc => ?_⟩
    obtain ⟨h128, hor⟩ := h.2 c hc
    simp only [nameChar, (hcc c h128).2, Bool.or_eq_true, Bool.and_eq_true]
    exact hor

theorem digitChar_facts : ∀ d : Fin 10,
    Str.isAsciiDigit (digitChar d) = true ∧ Str.digitVal (digitChar d) = d.val ∧
    digitChar d ≠ '<' ∧ digitChar d ≠ '>' := by
  decide

def dstep (a : Nat) (d : Fin 10) : Nat := a * 10 + d.val

theorem digitsValue_eq (ds : Digits) : digitsValue ds = ds.foldl dstep 0 := rfl

theorem foldl_dstep_ge : ∀ (ds : Digits) (a : Nat), a ≤ ds.foldl dstep a
  | [], a => Nat.le_refl a
  | d :: ds, a => by
    have := foldl_dstep_ge ds (dstep a d)
    simp only [List.foldl_cons]
    unfold dstep at this ⊢
    omega

/-- `Parser::integer` reads a printed width back -/
theorem integerLoop_digits (P : Profile) : ∀ (ds : Digits) (cur : Nat) (found : Bool) (t : Char)
    (tail : List Char), Str.isAsciiDigit t = false → ds.foldl dstep cur < 2 ^ P.wordBits →
    integerLoop P (showDigits ds ++ t :: tail) cur found =
      .ok (if found || !ds.isEmpty then some (ds.foldl dstep cur) else none) (t :: tail)
  | [], cur, found, t, tail, ht, _ => by
    simp [showDigits, integerLoop, ht]
  | d :: ds, cur, found, t, tail, ht, hlt => by
    obtain ⟨hd, hv, _⟩ := digitChar_facts d
    simp only [List.foldl_cons] at hlt
    have hge := foldl_dstep_ge ds (dstep cur d)
    have hlt' : cur * 10 + d.val < 2 ^ P.wordBits := Nat.lt_of_le_of_lt hge hlt
    simp only [showDigits, List.map_cons, List.cons_append, integerLoop, hd, if_true, hv, hlt']
    have := integerLoop_digits P ds (cur * 10 + d.val) true t tail ht hlt
    simp only [showDigits] at this
    rw [this]
    simp [dstep]

theorem integer_none (P : Profile) (t : Char) (tail : List Char) (ht : Str.isAsciiDigit t = false) :
    integer P (t :: tail) = .ok none (t :: tail) := by
  simp [integer, integerLoop, ht]

theorem integer_digits (P : Profile) (ds : Digits) (t : Char) (tail : List Char)
    (ht : Str.isAsciiDigit t = false) (hne : ds ≠ []) (hlt : digitsValue ds < 2 ^ P.wordBits) :
    integer P (showDigits ds ++ t :: tail) = .ok (some (digitsValue ds)) (t :: tail) := by
  unfold integer
  rw [integerLoop_digits P ds 0 false t tail ht (by rwa [digitsValue_eq] at hlt)]
  cases ds with
  | nil => exact absurd rfl hne
  | cons d ds => simp [digitsValue_eq]

/-- `integer` on the printed minimum width, followed by the printed maximum width and `}` -/
theorem integer_showMin (P : Profile) (minW maxW : Option Digits) (rest : List Char)
    (h : wfDigits P.wordBits minW = true) :
    integer P (showMin minW ++ (showMax maxW ++ '}' :: rest)) =
      .ok (minW.map digitsValue) (showMax maxW ++ '}' :: rest) := by
  have htail : ∃ t tail, showMax maxW ++ '}' :: rest = t :: tail ∧ Str.isAsciiDigit t = false := by
    cases maxW with
    | none => exact ⟨'}', rest, rfl, by decide⟩
    | some ds => exact ⟨'.', showDigits ds ++ '}' :: rest, rfl, by decide⟩
  obtain ⟨t, tail, ht, hnd⟩ := htail
  rw [ht]
  cases minW with
  | none => simpa [showMin] using integer_none P t tail hnd
  | some ds =>
    obtain ⟨hne, hlt⟩ := wfDigits_some h
    simpa [showMin] using integer_digits P ds t tail hnd hne hlt

/-- the text after fill and alignment starts with a digit, `.` or `}` -/
theorem widthsText_head (minW maxW : Option Digits) (rest : List Char) :
    ∃ x0 X', showMin minW ++ (showMax maxW ++ '}' :: rest) = x0 :: X' ∧ x0 ≠ '<' ∧ x0 ≠ '>' := by
  cases minW with
  | none =>
    cases maxW with
    | none => exact ⟨'}', rest, rfl, by decide, by decide⟩
    | some ds => exact ⟨'.', _, rfl, by decide, by decide⟩
  | some ds =>
    cases ds with
    | nil =>
      cases maxW with
      | none => exact ⟨'}', rest, rfl, by decide, by decide⟩
      | some ds => exact ⟨'.', _, rfl, by decide, by decide⟩
    | cons d ds =>
      obtain ⟨_, _, h1, h2⟩ := digitChar_facts d
      exact ⟨digitChar d, _, rfl, h1, h2⟩

/-- … and so does its second character when a width is given -/
theorem widthsText_second (bits : Nat) (minW maxW : Option Digits) (rest : List Char)
    (hmin : wfDigits bits minW = true) (hmax : wfDigits bits maxW = true)
    (hany : minW.isSome = true ∨ maxW.isSome = true) :
    ∃ x0 x1 X', showMin minW ++ (showMax maxW ++ '}' :: rest) = x0 :: x1 :: X' ∧
      x1 ≠ '<' ∧ x1 ≠ '>' := by
  cases minW with
  | none =>
    cases maxW with
    | none => simp at hany
    | some ds =>
      obtain ⟨hne, _⟩ := wfDigits_some hmax
      cases ds with
      | nil => exact absurd rfl hne
      | cons d ds =>
        obtain ⟨_, _, h1, h2⟩ := digitChar_facts d
        exact ⟨'.', digitChar d, _, rfl, h1, h2⟩
  | some ds =>
    obtain ⟨hne, _⟩ := wfDigits_some hmin
    cases ds with
    | nil => exact absurd rfl hne
    | cons d ds =>
      cases ds with
      | cons d' ds' =>
        obtain ⟨_, _, h1, h2⟩ := digitChar_facts d'
        exact ⟨digitChar d, digitChar d', _, rfl, h1, h2⟩
      | nil =>
        cases maxW with
        | none => exact ⟨digitChar d, '}', rest, rfl, by decide, by decide⟩
        | some ds => exact ⟨digitChar d, '.', _, rfl, by decide, by decide⟩

/-- `parameters` once fill and alignment are read: the two printed widths -/
theorem parameters_widths (P : Profile) (r : List Char) (minW maxW : Option Digits) (rest : List Char)
    (hr : (alignOf (fillLookahead r).2).2 = showMin minW ++ (showMax maxW ++ '}' :: rest))
    (hmin : wfDigits P.wordBits minW = true) (hmax : wfDigits P.wordBits maxW = true) :
    parameters P (':' :: r) =
      .ok { fill := (fillLookahead r).1, right := (alignOf (fillLookahead r).2).1,
            minW := minW.map digitsValue, maxW := maxW.map digitsValue } ('}' :: rest) := by
  rw [parameters_colon, hr, integer_showMin P minW maxW rest hmin]
  cases maxW with
  | none => rfl
  | some ds =>
    obtain ⟨hne, hlt⟩ := wfDigits_some hmax
    simp only [PR.bind, showMax, List.cons_append, if_true]
    rw [integer_digits P ds '}' rest (by decide) hne hlt]
    rfl

/-- `Parser::parameters` reads a printed format spec back -/
theorem parameters_show (P : Profile) (spec : Option FormatSpec) (rest : List Char)
    (h : wfSpec P.wordBits spec = true) :
    parameters P (showSpec spec ++ '}' :: rest) = .ok (paramsOf spec) ('}' :: rest) := by
  cases spec with
  | none => simp [showSpec, parameters, paramsOf]
  | some s =>
    obtain ⟨fill, align, minW, maxW⟩ := s
    simp only [wfSpec, Bool.and_eq_true, Bool.or_eq_true] at h
    obtain ⟨⟨⟨⟨hfa, hany⟩, hmin⟩, hmax⟩, _⟩ := h
    obtain ⟨x0, X', hX, hx1, hx2⟩ := widthsText_head minW maxW rest
    -- fill and alignment are read back, and the widths are what follows them
    have hread : fillLookahead (showFill fill ++ (showAlign align ++
          (showMin minW ++ (showMax maxW ++ '}' :: rest)))) =
          (fill.getD ' ', showAlign align ++ (showMin minW ++ (showMax maxW ++ '}' :: rest))) ∧
        alignOf (showAlign align ++ (showMin minW ++ (showMax maxW ++ '}' :: rest))) =
          (align.getD false, showMin minW ++ (showMax maxW ++ '}' :: rest)) := by
      cases align with
      | none =>
        have hfill : fill = none := by
          cases fill with
          | none => rfl
          | some f => simp at hfa
        subst hfill
        obtain ⟨y0, y1, Y, hY, hy1, hy2⟩ :=
          widthsText_second P.wordBits minW maxW rest hmin hmax (by simpa using hany)
        constructor
        · simp only [showFill, showAlign, List.nil_append, hY]
          simp [fillLookahead, hy1, hy2]
        · simp only [showAlign, List.nil_append, hX]
          simp [alignOf, hx1, hx2]
      | some a =>
        refine ⟨?_, by cases a <;> rfl⟩
        cases fill with
        | none => cases a <;> simp [showFill, showAlign, hX, fillLookahead, hx1, hx2]
        | some f => cases a <;> rfl
    have := parameters_widths P _ minW maxW rest (by rw [hread.1, hread.2]) hmin hmax
    rw [hread.1, hread.2] at this
    simpa [showSpec, paramsOf, FormatSpec.params] using this

/-- empty, or starting with one of the five special characters -/
def StartsSpecial (s : List Char) : Prop :=
  match s with
  | [] => True
  | h :: _ => isSpecial h = true

def nonSpecial (c : Char) : Bool := !isSpecial c

theorem takeWhile_nonSpecial (t s : List Char) (ht : t.all nonSpecial = true) (hs : StartsSpecial s) :
    (t ++ s).takeWhile (fun x => !isSpecial x) = t ∧ (t ++ s).dropWhile (fun x => !isSpecial x) = s := by
  have ht' : ∀ x ∈ t, (!isSpecial x) = true := by
    intro x hx; exact List.all_eq_true.mp ht x hx
  constructor
  · rw [List.takeWhile_append_of_pos ht']
    cases s with
    | nil => simp
    | cons h s' => simp only [StartsSpecial] at hs; simp [List.takeWhile, hs]
  · rw [List.dropWhile_append_of_pos ht']
    cases s with
    | nil => simp
    | cons h s' => simp only [StartsSpecial] at hs; simp [List.dropWhile, hs]

theorem not_special {c : Char} (h : isSpecial c = false) :
    c ≠ '{' ∧ c ≠ '}' ∧ c ≠ '(' ∧ c ≠ ')' ∧ c ≠ '\\' := by
  simp only [isSpecial, Bool.or_eq_false_iff, decide_eq_false_iff_not] at h
  exact ⟨h.1.1.1.1, h.1.1.1.2, h.1.1.2, h.1.2, h.2⟩

/-- `Parser::text`: a run of ordinary characters up to the next special character -/
theorem next_text (cc : CharClass) (P : Profile) (d : Nat) (c : Char) (t s : List Char)
    (hc : isSpecial c = false) (ht : t.all nonSpecial = true) (hs : StartsSpecial s) :
    nextAt cc P d (c :: (t ++ s)) = .ok (some (.text (c :: t))) s := by
  obtain ⟨h1, h2, h3, h4, h5⟩ := not_special hc
  obtain ⟨htk, hdr⟩ := takeWhile_nonSpecial t s ht hs
  rw [next_eq cc P d]
  simp only [nextWith, h1, h2, h3, h4, h5, if_false, textPiece, htk, hdr]

theorem is_special {c : Char} (h : isSpecial c = true) :
    c = '{' ∨ c = '}' ∨ c = '(' ∨ c = ')' ∨ c = '\\' := by
  simp only [isSpecial, Bool.or_eq_true, decide_eq_true_eq] at h
  rcases h with (((h | h) | h) | h) | h
  · exact Or.inl h
  · exact Or.inr (Or.inl h)
  · exact Or.inr (Or.inr (Or.inl h))
  · exact Or.inr (Or.inr (Or.inr (Or.inl h)))
  · exact Or.inr (Or.inr (Or.inr (Or.inr h)))

/-- a doubled special character is the character -/
theorem next_doubled (cc : CharClass) (P : Profile) (d : Nat) (c : Char) (rest : List Char) (hc : isSpecial c = true) :
    nextAt cc P d (c :: c :: rest) = .ok (some (.text [c])) rest := by
  rw [next_eq cc P d]
  rcases is_special hc with h | h | h | h | h <;> subst h <;> simp [nextWith, doubled, isSpecial]

/-- a backslash-escaped special character is the character -/
theorem next_backslash (cc : CharClass) (P : Profile) (d : Nat) (c : Char) (rest : List Char) (hc : isSpecial c = true) :
    nextAt cc P d ('\\' :: c :: rest) = .ok (some (.text [c])) rest := by
  rw [next_eq cc P d]
  simp [nextWith, hc]

theorem specTail_head (spec : Option FormatSpec) (rest : List Char) :
    ∃ t tl, showSpec spec ++ '}' :: rest = t :: tl ∧ (t = ':' ∨ t = '}') := by
  cases spec with
  | none => exact ⟨'}', rest, rfl, Or.inr rfl⟩
  | some s => exact ⟨':', _, rfl, Or.inl rfl⟩

theorem cc_syntax (cc : CharClass) (hcc : CCAscii cc) :
    cc.alnum ':' = false ∧ cc.alnum '}' = false ∧ cc.alnum '(' = false ∧ cc.alpha '(' = false ∧
    cc.alpha '{' = false := by
  refine ⟨?_, ?_, ?_, ?_, ?_⟩
  · rw [(hcc ':' (by decide)).2]; decide
  · rw [(hcc '}' (by decide)).2]; decide
  · rw [(hcc '(' (by decide)).2]; decide
  · rw [(hcc '(' (by decide)).1]; decide
  · rw [(hcc '{' (by decide)).1]; decide

/-- a name does not start with `{`: `{` in front of a name is not the escape `{{` -/
theorem doubled_brace_name (cc : CharClass) (hcc : CCAscii cc) (P : Profile) {nm : List Char} (tail : List Char)
    (hnm : isNameB cc.alpha (nameChar cc P) nm = true) : doubled '{' (nm ++ tail) = none := by
  cases nm with
  | nil => simp [isNameB] at hnm
  | cons a r =>
    simp only [isNameB, Bool.and_eq_true] at hnm
    have : a ≠ '{' := by
      intro h
      subst h
      rw [(cc_syntax cc hcc).2.2.2.2] at hnm
      exact absurd hnm.1 (by simp)
    simp [doubled, this]

/-- the `'{'` branch of `next` on `{ name args spec } rest`, given what `name` and `args` do -/
theorem next_formatter (cc : CharClass) (P : Profile) (d : Nat) (nm tail : List Char) (args : List (List Piece))
    (spec : Option FormatSpec) (rest : List Char)
    (hhead : doubled '{' (nm ++ tail) = none)
    (hname : name cc P (nm ++ tail) = (nm, tail))
    (hargs : argsL cc P d tail [] = .ok args (showSpec spec ++ '}' :: rest))
    (hspec : wfSpec P.wordBits spec = true) :
    nextAt cc P d ('{' :: (nm ++ tail)) = .ok (some (.arg nm args (paramsOf spec))) rest := by
  rw [next_eq cc P d]
  simp only [nextWith, if_true, hhead, argumentWith, hname, hargs, parameters_show P spec rest hspec,
    closeBrace]

/-- a named formatter: `nm` is a letter followed by alphanumerics, the tail starts with `:`, `}` or `(` -/
theorem next_named (cc : CharClass) (hcc : CCAscii cc) (P : Profile) (d : Nat) (nm : List Char) (t : Char)
    (tl : List Char) (args : List (List Piece)) (spec : Option FormatSpec) (rest : List Char)
    (hnm : isNameB cc.alpha (nameChar cc P) nm = true) (ht : t = ':' ∨ t = '}' ∨ t = '(')
    (hargs : argsL cc P d (t :: tl) [] = .ok args (showSpec spec ++ '}' :: rest))
    (hspec : wfSpec P.wordBits spec = true) :
    nextAt cc P d ('{' :: (nm ++ t :: tl)) = .ok (some (.arg nm args (paramsOf spec))) rest := by
  obtain ⟨h1, h2, h3, _⟩ := cc_syntax cc hcc
  have htn : nameChar cc P t = false := by
    rcases ht with h | h | h <;> subst h <;> simp [nameChar, h1, h2, h3]
  exact next_formatter cc P d nm (t :: tl) args spec rest (doubled_brace_name cc hcc P _ hnm)
    (name_of_isName cc P nm t tl hnm htn) hargs hspec

/-- the unnamed formatter `{( … ) … }` -/
theorem next_unnamed (cc : CharClass) (hcc : CCAscii cc) (P : Profile) (d : Nat) (tl : List Char)
    (args : List (List Piece)) (spec : Option FormatSpec) (rest : List Char)
    (hargs : argsL cc P d ('(' :: tl) [] = .ok args (showSpec spec ++ '}' :: rest))
    (hspec : wfSpec P.wordBits spec = true) :
    nextAt cc P d ('{' :: '(' :: tl) = .ok (some (.arg [] args (paramsOf spec))) rest := by
  obtain ⟨_, _, _, h4, _⟩ := cc_syntax cc hcc
  have := next_formatter cc P d [] ('(' :: tl) args spec rest (by simp [doubled])
    (by simp [name, h4]) hargs hspec
  simpa using this

/-- `args()` stops at the format spec / closing brace -/
theorem argsL_done (cc : CharClass) (P : Profile) (d : Nat) (spec : Option FormatSpec) (rest : List Char)
    (acc : List (List Piece)) :
    argsL cc P d (showSpec spec ++ '}' :: rest) acc = .ok acc (showSpec spec ++ '}' :: rest) := by
  obtain ⟨t, tl, h, ht⟩ := specTail_head spec rest
  rw [h]
  apply argsL_other
  rcases ht with h | h <;> subst h <;> decide

theorem isName_leaf (cc : CharClass) (hcc : CCAscii cc) (P : Profile) (hus : P.underscoreNames = true)
    (k : LeafKind) (long : Bool) : isNameB cc.alpha (nameChar cc P) (leafName k long) = true :=
  isName_of_ascii cc hcc P _ (by rw [hus]; cases k <;> cases long <;> decide)

theorem isName_date (cc : CharClass) (hcc : CCAscii cc) (P : Profile) (long : Bool) :
    isNameB cc.alpha (nameChar cc P) (dateName long) = true :=
  isName_of_ascii cc hcc P _ (by cases P.underscoreNames <;> cases long <;> decide)

theorem isName_mdc (cc : CharClass) (hcc : CCAscii cc) (P : Profile) (long : Bool) :
    isNameB cc.alpha (nameChar cc P) (mdcName long) = true :=
  isName_of_ascii cc hcc P _ (by cases P.underscoreNames <;> cases long <;> decide)

theorem isName_group (cc : CharClass) (hcc : CCAscii cc) (P : Profile) (k : GroupKind) (long : Bool)
    (hk : k ≠ .align) : isNameB cc.alpha (nameChar cc P) (groupName k long) = true :=
  isName_of_ascii cc hcc P _ (by
    cases k
    · exact absurd rfl hk
    all_goals cases P.underscoreNames <;> cases long <;> decide)

/-- pending ordinary text becomes one `Text` piece -/
def flushText : List Char → List Piece
  | [] => []
  | c :: t => [.text (c :: t)]

/-- pieces of literal text (pending ordinary characters in `pre`) -/
def litPieces : List Char → List Lit → List Piece
  | pre, [] => flushText pre
  | pre, l :: ls =>
    if l.esc = .plain then litPieces (pre ++ [l.c]) ls
    else flushText pre ++ .text [l.c] :: litPieces [] ls

/-- an ordinary character written as itself (it merges with its neighbours) -/
def plainChar : Pat → Option Char
  | .lit l => if l.esc = .plain then some l.c else none
  | _ => none

def zonePieces : Option Bool → List (List Piece)
  | none => []
  | some z => [[.text (zoneName z)]]

def dateArgPieces : Option (List Lit × Option Bool) → List (List Piece)
  | none => []
  | some (f, z) => litPieces [] f :: zonePieces z

def dfltPieces : Option (List Lit) → List (List Piece)
  | none => []
  | some d => [litPieces [] d]

mutual
/-- the piece `next` produces for an escape or a formatter -/
def pieceOf : Pat → Piece
  | .lit l => .text [l.c]
  | .leaf k long spec => .arg (leafName k long) [] (paramsOf spec)
  | .date long args spec => .arg (dateName long) (dateArgPieces args) (paramsOf spec)
  | .mdc long key dflt spec => .arg (mdcName long) (litPieces [] key :: dfltPieces dflt) (paramsOf spec)
  | .group k long body spec => .arg (groupName k long) [piecesOf [] body] (paramsOf spec)
/-- the pieces of a pattern list, with pending ordinary characters `pre` -/
def piecesOf : List Char → List Pat → List Piece
  | pre, [] => flushText pre
  | pre, p :: ps =>
    match plainChar p with
    | some c => piecesOf (pre ++ [c]) ps
    | none => flushText pre ++ pieceOf p :: piecesOf [] ps
end

theorem pieceOf_lit (l : Lit) : pieceOf (.lit l) = .text [l.c] := by rw [pieceOf]
theorem pieceOf_leaf (k long spec) :
    pieceOf (.leaf k long spec) = .arg (leafName k long) [] (paramsOf spec) := by rw [pieceOf]
theorem pieceOf_date (long args spec) :
    pieceOf (.date long args spec) = .arg (dateName long) (dateArgPieces args) (paramsOf spec) := by rw [pieceOf]
theorem pieceOf_mdc (long key dflt spec) :
    pieceOf (.mdc long key dflt spec) =
      .arg (mdcName long) (litPieces [] key :: dfltPieces dflt) (paramsOf spec) := by rw [pieceOf]
theorem pieceOf_group (k long body spec) :
    pieceOf (.group k long body spec) = .arg (groupName k long) [piecesOf [] body] (paramsOf spec) := by
  rw [pieceOf]
theorem piecesOf_nil (pre : List Char) : piecesOf pre [] = flushText pre := by rw [piecesOf]
theorem piecesOf_cons (pre : List Char) (p : Pat) (ps : List Pat) :
    piecesOf pre (p :: ps) =
      match plainChar p with
      | some c => piecesOf (pre ++ [c]) ps
      | none => flushText pre ++ pieceOf p :: piecesOf [] ps := by
  rw [piecesOf]

theorem plainChar_some {p : Pat} {c : Char} (h : plainChar p = some c) :
    ∃ l, p = .lit l ∧ l.esc = .plain ∧ l.c = c := by
  cases p with
  | lit l =>
    by_cases he : l.esc = .plain
    · simp [plainChar, he] at h; exact ⟨l, rfl, he, h⟩
    · simp [plainChar, he] at h
  | leaf k long spec => simp [plainChar] at h
  | date long args spec => simp [plainChar] at h
  | mdc long key dflt spec => simp [plainChar] at h
  | group k long body spec => simp [plainChar] at h

theorem startsSpecial_cons {h : Char} {s : List Char} (hh : isSpecial h = true) : StartsSpecial (h :: s) := hh

/-- one iteration of `arg()`'s loop when `next` yields a piece: the next character does not close
the argument — it is not `)`, or (repair of F6a) it is the first of a doubled `))` -/
theorem argB_step (cc : CharClass) (P : Profile) (d : Nat) (c : Char) (r : List Char) (acc : List Piece)
    (hc : c = ')' → P.doubledCloseParen = true ∧ ∃ t, r = ')' :: t) (p : Piece) (r' : List Char)
    (hn : nextAt cc P d (c :: r) = .ok (some p) r') :
    argB cc P d (c :: r) acc = argB cc P d r' (acc ++ [p]) := by
  by_cases h : c = ')'
  · obtain ⟨hP, t, rfl⟩ := hc h
    subst h
    rw [next_doubled cc P d ')' t (by decide)] at hn
    cases hn
    exact argB_dbl cc P d hP r' acc
  · have hs := nextAt_within cc P d (c :: r)
    rw [hn] at hs
    unfold argB
    rw [argBody_succ_none cc P _ d c r acc (doubledClose_ne P r h), if_neg h,
      show nextWith cc P (fun x => argsLoop cc P (c :: r).length d x []) (c :: r) = .ok (some p) r' from hn]
    exact argBody_fuel_irrel cc P d _ hs.2 (Nat.lt_succ_self _)

/-- pending ordinary text `pre` in front of a special character becomes one `Text` piece -/
theorem argB_flush (cc : CharClass) (P : Profile) (d : Nat) (pre s : List Char) (acc : List Piece)
    (hpre : pre.all nonSpecial = true) (hs : StartsSpecial s) :
    argB cc P d (pre ++ s) acc = argB cc P d s (acc ++ flushText pre) := by
  cases pre with
  | nil => simp [flushText]
  | cons c t =>
    simp only [List.all_cons, Bool.and_eq_true] at hpre
    have hc : isSpecial c = false := by simpa [nonSpecial] using hpre.1
    simpa [flushText] using
      argB_step cc P d c (t ++ s) acc (fun h => absurd h (not_special hc).2.2.2.1) _ _ (next_text cc P d c t s hc hpre.2 hs)

/-- a run of ordinary characters as a whole argument: one `Text` piece, none when the run is empty -/
theorem argB_plain (cc : CharClass) (P : Profile) (d : Nat) (t more : List Char) (acc : List Piece)
    (ht : t.all nonSpecial = true) (hm : NoParenHead more) :
    argB cc P d (t ++ ')' :: more) acc = .ok (acc ++ flushText t) more := by
  rw [argB_flush cc P d t (')' :: more) acc ht (startsSpecial_cons (by decide)), argB_close cc P d more _ hm]

/-- a printed escape starts with a special character, and with `)` only as the doubled `))` -/
theorem showLit_head (inArg : Bool) (l : Lit) (rest : List Char) (h : wfLit inArg l = true) (he : l.esc ≠ .plain) :
    ∃ hd tl, showLit l ++ rest = hd :: tl ∧ isSpecial hd = true ∧ (hd = ')' → ∃ t, tl = ')' :: t) := by
  cases hesc : l.esc with
  | plain => exact absurd hesc he
  | doubled =>
    exact ⟨l.c, l.c :: rest, by simp [showLit, hesc], wfLit_escaped h he, fun hc => ⟨rest, by rw [hc]⟩⟩
  | backslash => exact ⟨'\\', l.c :: rest, by simp [showLit, hesc], by decide, fun hc => absurd hc (by decide)⟩

theorem next_escape (cc : CharClass) (P : Profile) (d : Nat) (inArg : Bool) (l : Lit) (rest : List Char)
    (h : wfLit inArg l = true) (he : l.esc ≠ .plain) :
    nextAt cc P d (showLit l ++ rest) = .ok (some (.text [l.c])) rest := by
  have hs := wfLit_escaped h he
  cases hesc : l.esc with
  | plain => exact absurd hesc he
  | doubled => simpa [showLit, hesc] using next_doubled cc P d l.c rest hs
  | backslash => simpa [showLit, hesc] using next_backslash cc P d l.c rest hs

theorem all_nonSpecial_snoc {pre : List Char} {c : Char} (hp : pre.all nonSpecial = true)
    (hc : isSpecial c = false) : (pre ++ [c]).all nonSpecial = true := by
  simp [List.all_append, hp, nonSpecial, hc]

/-- the argument loop over printed literal text -/
theorem argB_lits (cc : CharClass) (P : Profile) (d : Nat) (hP : P.doubledCloseParen = true) :
    ∀ (ls : List Lit) (pre more : List Char) (acc : List Piece),
    ls.all (wfLit true) = true → pre.all nonSpecial = true → NoParenHead more →
    argB cc P d (pre ++ (showLits ls ++ ')' :: more)) acc = .ok (acc ++ litPieces pre ls) more
  | [], pre, more, acc, _, hpre, hm => by
    simpa [showLits, litPieces] using argB_plain cc P d pre more acc hpre hm
  | l :: ls, pre, more, acc, hwf, hpre, hm => by
    simp only [List.all_cons, Bool.and_eq_true] at hwf
    by_cases he : l.esc = .plain
    · have hc := wfLit_plain hwf.1 he
      have ih := argB_lits cc P d hP ls (pre ++ [l.c]) more acc hwf.2 (all_nonSpecial_snoc hpre hc) hm
      simpa [showLits, showLit, he, litPieces] using ih
    · obtain ⟨hd, tl, hshape, hsp, hcl⟩ := showLit_head true l (showLits ls ++ ')' :: more) hwf.1 he
      have hn := next_escape cc P d true l (showLits ls ++ ')' :: more) hwf.1 he
      have ih := argB_lits cc P d hP ls [] more (acc ++ flushText pre ++ [.text [l.c]]) hwf.2 (by simp) hm
      simp only [showLits, litPieces, he, if_false, List.append_assoc]
      rw [hshape] at hn ⊢
      rw [argB_flush cc P d pre _ acc hpre (startsSpecial_cons hsp), argB_step cc P d hd tl _ (fun h => ⟨hP, hcl h⟩) _ _ hn]
      simpa using ih

/-- printed literal text as a whole argument -/
theorem argB_litArg (cc : CharClass) (P : Profile) (d : Nat) (hP : P.doubledCloseParen = true) (ls : List Lit)
    (hls : ls.all (wfLit true) = true) (tail : List Char) (htail : NoParenHead tail) :
    argB cc P d (showLits ls ++ ')' :: tail) [] = .ok (litPieces [] ls) tail := by
  simpa using argB_lits cc P d hP ls [] tail [] hls (by simp) htail

end Log4rs.Pattern.Parse
