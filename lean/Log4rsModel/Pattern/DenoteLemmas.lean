import Log4rsModel.Pattern.AstLemmas
import Log4rsModel.Pattern.EncodeLemmas
import Log4rsModel.Pattern.TextLemmas
/-
C09, meaning side: the text of the direct translation `chunksOf` is the denotation `denotePats`,
its style calls are `stylesPats`, and the date formats it renders are `datesPats`.
-/
namespace Log4rs.Pattern.Parse

theorem ordered_of_orderedWidths (p : Params) (h : orderedWidths p = true) : p.ordered = true := by
  unfold orderedWidths at h
  unfold Params.ordered
  cases hm : p.minW <;> cases hM : p.maxW <;> simp_all

theorem wfSpec_ordered {bits : Nat} {spec : Option FormatSpec} (h : wfSpec bits spec = true) :
    (paramsOf spec).ordered = true := by
  cases spec with
  | none => rfl
  | some s =>
    simp only [wfSpec, Bool.and_eq_true] at h
    exact ordered_of_orderedWidths _ h.2

/-- the writer stack's effect on the text is the documented format spec (C10), when `m ≤ M` -/
theorem text_codeFmt_spec {bits : Nat} (spec : Option FormatSpec) (o : Out) (h : wfSpec bits spec = true) :
    (codeFmtOps (paramsOf spec) o).text = applySpec spec o.text := by
  rw [codeFmtOps_text_eq_spec _ _ (wfSpec_ordered h)]
  cases spec with
  | none => simp [applySpec, paramsOf, specFmt]
  | some s => rfl

theorem text_nil : Out.text ([] : Out) = [] := rfl
theorem styles_nil : Out.styles ([] : Out) = [] := rfl

theorem text_wrapHighlight (lvl : Nat) (o : Out) : (wrapHighlight lvl o).text = o.text := by
  unfold wrapHighlight
  cases highlightStyle lvl <;> simp [Out.text, List.filterMap_append]

theorem text_groupWrap (r : Record) (g : GroupKind) (o : Out) : (groupWrap r g o).text = o.text := by
  cases g <;> first | rfl | exact text_wrapHighlight _ _

theorem styles_wrapHighlight (lvl : Nat) (o : Out) :
    (wrapHighlight lvl o).styles =
      match highlightStyle lvl with
      | some s => s :: o.styles ++ [Style.plain]
      | none => o.styles := by
  unfold wrapHighlight
  cases highlightStyle lvl
  · rfl
  · exact styles_bracket _ _ o

theorem leafTextPure_leaf (env : Env) (r : Record) (k : LeafKind) :
    leafTextPure env r k.leaf = leafValue env r k := by
  cases k <;> simp [LeafKind.leaf, leafTextPure, leafText, leafValue, unknown3]
  · cases r.module <;> rfl
  · cases r.file <;> rfl
  · cases r.line <;> rfl
  · cases env.threadName <;> rfl

theorem leafTextPure_mdc (env : Env) (r : Record) (key : List Lit) (dflt : Option (List Lit)) :
    leafTextPure env r (.mdc (litChars key) (dfltChars dflt)) = mdcValue env key dflt := by
  simp only [leafTextPure, leafText, mdcValue]
  cases mdcGet env.mdc (litChars key) with
  | some v => rfl
  | none => cases dflt <;> rfl

theorem styles_dateChunkOf (B : Build) (env : Env) (r : Record) (args spec) :
    (opsChunk env r (dateChunkOf B args spec)).styles = [] := by
  unfold dateChunkOf
  split
  · rw [opsChunk_error, styles_ofText]
  · rw [opsChunk_leaf, styles_codeFmtOps, styles_ofText]

mutual
theorem text_chunkOf (B : Build) (bits : Nat) (env : Env) (r : Record) :
    ∀ (p : Pat) (inArg : Bool), wfPat bits inArg p = true → (∀ f ∈ allDatesPat p, B.dateOk f = true) →
      (opsChunk env r (chunkOf B p)).text = denotePat env r p
  | .lit l, _, _, _ => by rw [chunkOf_lit, opsChunk_text, denotePat_lit, text_ofText]
  | .leaf k long spec, inArg, h, _ => by
    rw [wfPat_leaf] at h
    rw [chunkOf_leaf, opsChunk_leaf, denotePat_leaf, text_codeFmt_spec spec _ h, text_ofText,
      leafTextPure_leaf]
  | .date long args spec, inArg, h, hD => by
    rw [wfPat_date] at h
    simp only [Bool.and_eq_true] at h
    rw [allDatesPat_date] at hD
    rw [chunkOf_date, dateChunkOf_ok B args spec (hD _ List.mem_cons_self), opsChunk_leaf, denotePat_date,
      text_codeFmt_spec spec _ h.2, text_ofText]
    rfl
  | .mdc long key dflt spec, inArg, h, _ => by
    rw [wfPat_mdc] at h
    simp only [Bool.and_eq_true] at h
    rw [chunkOf_mdc, opsChunk_leaf, denotePat_mdc, text_codeFmt_spec spec _ h.2, text_ofText,
      leafTextPure_mdc]
  | .group k long body spec, inArg, h, hD => by
    rw [wfPat_group] at h
    simp only [Bool.and_eq_true] at h
    rw [allDatesPat_group] at hD
    have ih := text_chunksOf B bits env r body true h.1 hD
    rw [chunkOf_group, opsChunk_group, denotePat_group, text_codeFmt_spec spec _ h.2, text_groupWrap]
    split
    · rw [ih]
    · rfl
theorem text_chunksOf (B : Build) (bits : Nat) (env : Env) (r : Record) :
    ∀ (ps : List Pat) (inArg : Bool), wfPats bits inArg ps = true →
      (∀ f ∈ allDatesPats ps, B.dateOk f = true) →
      (opsList env r (chunksOf B ps)).text = denotePats env r ps
  | [], _, _, _ => by rw [chunksOf_nil, opsList_nil, denotePats_nil]; rfl
  | p :: ps, inArg, h, hD => by
    rw [wfPats_cons] at h
    simp only [Bool.and_eq_true] at h
    rw [allDatesPats_cons] at hD
    rw [chunksOf_cons, opsList_cons, denotePats_cons, text_append,
      text_chunkOf B bits env r p inArg h.1 (fun f hf => hD f (List.mem_append_left _ hf)),
      text_chunksOf B bits env r ps inArg h.2 (fun f hf => hD f (List.mem_append_right _ hf))]
end

mutual
theorem styles_chunkOf (B : Build) (env : Env) (r : Record) :
    ∀ (p : Pat), (opsChunk env r (chunkOf B p)).styles = stylesPat env r p
  | .lit l => by rw [chunkOf_lit, opsChunk_text, styles_ofText, stylesPat_lit]
  | .leaf k long spec => by rw [chunkOf_leaf, opsChunk_leaf, styles_codeFmtOps, styles_ofText, stylesPat_leaf]
  | .date long args spec => by rw [chunkOf_date, styles_dateChunkOf, stylesPat_date]
  | .mdc long key dflt spec => by rw [chunkOf_mdc, opsChunk_leaf, styles_codeFmtOps, styles_ofText, stylesPat_mdc]
  | .group k long body spec => by
    have ih := styles_chunksOf B env r body
    rw [chunkOf_group, opsChunk_group, styles_codeFmtOps, stylesPat_group]
    cases k
    · exact ih
    · rw [show groupOn env .highlight = true from rfl, if_pos rfl]
      show (wrapHighlight r.level _).styles = _
      rw [styles_wrapHighlight, ih]
      cases highlightStyle r.level <;> rfl
    · by_cases hd : env.debugBuild = true <;> simp [groupOn, groupWrap, hd, ih, styles_nil]
    · by_cases hd : env.debugBuild = true <;> simp [groupOn, groupWrap, hd, ih, styles_nil]
theorem styles_chunksOf (B : Build) (env : Env) (r : Record) :
    ∀ (ps : List Pat), (opsList env r (chunksOf B ps)).styles = stylesPats env r ps
  | [] => by rw [chunksOf_nil, opsList_nil, stylesPats_nil]; rfl
  | p :: ps => by
    rw [chunksOf_cons, opsList_cons, stylesPats_cons, styles_append, styles_chunkOf B env r p,
      styles_chunksOf B env r ps]
end

mutual
theorem rendered_chunkOf (B : Build) (env : Env) : ∀ (p : Pat), (∀ f ∈ allDatesPat p, B.dateOk f = true) →
    renderedTimes env (chunkOf B p) = datesPat env p
  | .lit l, _ => by rw [chunkOf_lit, renderedTimes, datesPat_lit]
  | .leaf k long spec, _ => by
    rw [chunkOf_leaf, datesPat_leaf]
    cases k <;> simp only [LeafKind.leaf] <;> rw [renderedTimes] <;> (intros; contradiction)
  | .date long args spec, hD => by
    rw [allDatesPat_date] at hD
    rw [chunkOf_date, dateChunkOf_ok B args spec (hD _ List.mem_cons_self), renderedTimes, datesPat_date]
  | .mdc long key dflt spec, _ => by
    rw [chunkOf_mdc, datesPat_mdc, renderedTimes]
    intros; contradiction
  | .group k long body spec, hD => by
    rw [allDatesPat_group] at hD
    have ih := rendered_chunksOf B env body hD
    rw [chunkOf_group, renderedTimes_group, datesPat_group, ih]
theorem rendered_chunksOf (B : Build) (env : Env) : ∀ (ps : List Pat),
    (∀ f ∈ allDatesPats ps, B.dateOk f = true) → renderedTimesL env (chunksOf B ps) = datesPats env ps
  | [], _ => by rw [chunksOf_nil, renderedTimesL, datesPats_nil]
  | p :: ps, hD => by
    rw [allDatesPats_cons] at hD
    rw [chunksOf_cons, renderedTimesL, datesPats_cons,
      rendered_chunkOf B env p (fun f hf => hD f (List.mem_append_left _ hf)),
      rendered_chunksOf B env ps (fun f hf => hD f (List.mem_append_right _ hf))]
end

end Log4rs.Pattern.Parse
