import Log4rsModel.Pattern.ParseStepLemmas
import Log4rsModel.Pattern.EncodeLemmas
import Log4rsModel.Pattern.ChunkTableLemmas
/-
C09, meaning side: compiling and encoding the pieces `piecesOf` of an AST gives the same outcome as
encoding its direct translation `chunksOf`.
-/
namespace Log4rs.Pattern.Parse

theorem seqOut_ok_nil (x : Outcome Unit Out) : seqOut (.ok []) x = x := by
  cases x <;> simp [seqOut]

theorem seqOut_ok_ok (a b : Out) : seqOut (.ok a) (.ok b) = .ok (a ++ b) := rfl

theorem seqOut_ok_append (a b : Out) (x : Outcome Unit Out) :
    seqOut (.ok (a ++ b)) x = seqOut (.ok a) (seqOut (.ok b) x) := by
  cases x <;> simp [seqOut]

theorem encChunk_text (env : Env) (r : Record) (s : List Char) : encChunk env r (.text s) = .ok (ofText s) := by
  rw [encChunk]

/-- pending text in front of pieces -/
theorem flush_meaning (B : Build) (env : Env) (r : Record) (pre : List Char) (X : List Piece) :
    encList env r (compileL B (flushText pre ++ X)) =
      seqOut (.ok (ofText pre)) (encList env r (compileL B X)) := by
  cases pre with
  | nil => simp [flushText, ofText, seqOut_ok_nil]
  | cons c t =>
    simp only [flushText, List.cons_append, List.nil_append]
    rw [compileL_cons, compile_text, encList_cons, encChunk_text]

theorem encChunk_group_congr (env : Env) (r : Record) (k : GroupKind) (cs cs' : List Chunk) (p : Params)
    (h : encList env r cs = encList env r cs') :
    encChunk env r (.group k cs p) = encChunk env r (.group k cs' p) := by
  cases k <;> simp only [encChunk, h]

theorem compile_leafName (B : Build) (k : LeafKind) (long : Bool) (p : Params) :
    compile B (.arg (leafName k long) [] p) = .leaf k.leaf p := by
  have : leafOfName (leafName k long) = some k.leaf := by cases k <;> cases long <;> decide
  rw [compile_leafOfName B _ _ this]
  rfl

theorem compile_groupName (B : Build) (k : GroupKind) (long : Bool) (a : List Piece) (p : Params) :
    compile B (.arg (groupName k long) [a] p) = .group k (compileL B a) p := by
  have : groupOfName (groupName k long) = some k := by cases k <;> cases long <;> decide
  rw [compile_groupOfName B _ _ this]

theorem dateFormatOf_flush (pre : List Char) (X : List Piece) :
    dateFormatOf (flushText pre ++ X) = pre ++ dateFormatOf X := by
  cases pre <;> simp [flushText, dateFormatOf]

theorem dateFormatOf_litPieces : ∀ (ls : List Lit) (pre : List Char),
    dateFormatOf (litPieces pre ls) = pre ++ litChars ls
  | [], pre => by
    simpa [litPieces, litChars, dateFormatOf] using dateFormatOf_flush pre []
  | l :: ls, pre => by
    by_cases he : l.esc = .plain
    · simp [litPieces, he, dateFormatOf_litPieces ls (pre ++ [l.c]), litChars]
    · simp [litPieces, he, dateFormatOf_flush, dateFormatOf, dateFormatOf_litPieces ls [], litChars]

theorem dateFormatArg_pieces (args : Option (List Lit × Option Bool)) :
    dateFormatArg (dateArgPieces args) = (dateRequest args).1 := by
  cases args with
  | none => rfl
  | some fz =>
    obtain ⟨f, z⟩ := fz
    cases z <;> simp [dateArgPieces, dateFormatArg, dateRequest, dateFormatOf_litPieces]

theorem compile_date (B : Build) (long : Bool) (args : Option (List Lit × Option Bool))
    (spec : Option FormatSpec) :
    compile B (.arg (dateName long) (dateArgPieces args) (paramsOf spec)) = dateChunkOf B args spec := by
  rw [compile_arg]
  have hn : (dateName long = cs!"d" || dateName long = cs!"date") = true := by cases long <;> rfl
  rw [if_pos hn]
  have hlen : ¬ (dateArgPieces args).length > 2 := by
    cases args with
    | none => simp [dateArgPieces]
    | some fz => obtain ⟨f, z⟩ := fz; cases z <;> simp [dateArgPieces, zonePieces]
  unfold dateChunk dateChunkOf
  simp only [hlen, if_false, dateFormatArg_pieces]
  split
  · rfl
  · cases args with
    | none => simp [dateArgPieces, dateRequest]
    | some fz =>
      obtain ⟨f, z⟩ := fz
      cases z with
      | none => simp [dateArgPieces, zonePieces, dateRequest]
      | some z =>
        cases z <;> cases hB : B.tzWholeArg <;>
          simp [dateArgPieces, zonePieces, dateRequest, tzOf, hB, timezoneOf, timezoneOfWhole, plainTextOf,
            plainTextLoop, zoneName]

theorem plainTextLoop_flush (inv pre : List Char) (X : List Piece) :
    plainTextLoop inv (flushText pre ++ X) =
      match plainTextLoop inv X with
      | .ok rest => .ok (pre ++ rest)
      | .error e => .error e := by
  cases pre with
  | nil => simp [flushText]; cases plainTextLoop inv X <;> rfl
  | cons c t => simp [flushText, plainTextLoop]; cases plainTextLoop inv X <;> rfl

theorem plainTextLoop_litPieces (inv : List Char) : ∀ (ls : List Lit) (pre : List Char),
    plainTextLoop inv (litPieces pre ls) = .ok (pre ++ litChars ls)
  | [], pre => by
    have := plainTextLoop_flush inv pre []
    simpa [litPieces, litChars, plainTextLoop] using this
  | l :: ls, pre => by
    by_cases he : l.esc = .plain
    · simp [litPieces, he, plainTextLoop_litPieces inv ls (pre ++ [l.c]), litChars]
    · simp [litPieces, he, plainTextLoop_flush, plainTextLoop, plainTextLoop_litPieces inv ls [], litChars]

theorem litPieces_ne_nil : ∀ (ls : List Lit) (pre : List Char), (pre ≠ [] ∨ ls ≠ []) → litPieces pre ls ≠ []
  | [], pre, h => by
    rcases h with h | h
    · cases pre with
      | nil => exact absurd rfl h
      | cons c t => simp [litPieces, flushText]
    · exact absurd rfl h
  | l :: ls, pre, _ => by
    by_cases he : l.esc = .plain
    · simp only [litPieces, he, if_true]
      exact litPieces_ne_nil ls (pre ++ [l.c]) (Or.inl (by simp))
    · simp [litPieces, he]

/-- the repaired `plain_text` on the pieces of printed literal text: the whole text -/
theorem plainTextOf_litPieces (inv : List Char) (ls : List Lit) (hne : ls.isEmpty = false) :
    plainTextOf inv (litPieces [] ls) = .ok (litChars ls) := by
  have hnn : litPieces [] ls ≠ [] := litPieces_ne_nil ls [] (Or.inr (by intro h; subst h; simp at hne))
  unfold plainTextOf
  split
  · rename_i h; exact absurd h hnn
  · simpa using plainTextLoop_litPieces inv ls []

/-- … and with the repair of `C09/mdc-empty-argument` also of an empty one -/
theorem mdcArg_litPieces (B : Build) (hB : B.mdcWhole = true) (hE : B.mdcEmptyOk = true) (inv : List Char)
    (ls : List Lit) : mdcArg B inv (litPieces [] ls) = .ok (litChars ls) := by
  cases ls with
  | nil => simp [mdcArg, hE, litPieces, flushText, litChars]
  | cons l ls =>
    have hnn : litPieces [] (l :: ls) ≠ [] := litPieces_ne_nil (l :: ls) [] (Or.inr (by simp))
    have hne : (litPieces [] (l :: ls)).isEmpty = false := by
      cases h : litPieces [] (l :: ls) with
      | nil => exact absurd h hnn
      | cons a b => rfl
    simp only [mdcArg, hne, Bool.and_false, Bool.false_eq_true, if_false, mdcArgText, hB, if_true]
    exact plainTextOf_litPieces inv (l :: ls) rfl

theorem compile_mdc (B : Build) (hB : B.mdcWhole = true) (hE : B.mdcEmptyOk = true) (long : Bool) (key : List Lit)
    (dflt : Option (List Lit)) (p : Params) :
    compile B (.arg (mdcName long) (litPieces [] key :: dfltPieces dflt) p) =
      .leaf (.mdc (litChars key) (dfltChars dflt)) p := by
  have hn : mdcName long = cs!"X" ∨ mdcName long = cs!"mdc" := by
    cases long
    · exact Or.inl rfl
    · exact Or.inr rfl
  rw [compile_mdcName B _ hn]
  cases dflt with
  | none => rw [dfltPieces, mdcChunk_one, mdcArg_litPieces B hB hE]; rfl
  | some d => rw [dfltPieces, mdcChunk_two, mdcArg_litPieces B hB hE, mdcArg_litPieces B hB hE]; rfl

mutual
/-- compiling the piece of an escape / formatter encodes like its direct translation -/
theorem enc_pieceOf (B : Build) (hB : B.mdcWhole = true) (hE : B.mdcEmptyOk = true) (env : Env) (r : Record) :
    ∀ (p : Pat), encChunk env r (compile B (pieceOf p)) = encChunk env r (chunkOf B p)
  | .lit l => by rw [pieceOf_lit, compile_text, chunkOf_lit]
  | .leaf k long spec => by rw [pieceOf_leaf, compile_leafName, chunkOf_leaf]
  | .date long args spec => by rw [pieceOf_date, compile_date, chunkOf_date]
  | .mdc long key dflt spec => by rw [pieceOf_mdc, chunkOf_mdc, compile_mdc B hB hE long key dflt _]
  | .group k long body spec => by
    rw [pieceOf_group, compile_groupName, chunkOf_group]
    apply encChunk_group_congr
    rw [meaning_piecesOf B hB hE env r body []]
    exact seqOut_ok_nil _
/-- … and so do the pieces of a pattern list (pending text `pre` first) -/
theorem meaning_piecesOf (B : Build) (hB : B.mdcWhole = true) (hE : B.mdcEmptyOk = true) (env : Env) (r : Record) :
    ∀ (ps : List Pat) (pre : List Char),
      encList env r (compileL B (piecesOf pre ps)) =
        seqOut (.ok (ofText pre)) (encList env r (chunksOf B ps))
  | [], pre => by
    rw [piecesOf_nil, chunksOf_nil]
    have := flush_meaning B env r pre []
    simpa [compileL_nil] using this
  | p :: ps, pre => by
    rw [piecesOf_cons, chunksOf_cons, encList_cons]
    cases hpc : plainChar p with
    | some c =>
      obtain ⟨l, hl, _, hc⟩ := plainChar_some hpc
      subst hl
      simp only []
      rw [meaning_piecesOf B hB hE env r ps (pre ++ [c]), chunkOf_lit, encChunk_text, hc,
        ofText_append, seqOut_ok_append]
    | none =>
      simp only []
      rw [flush_meaning, compileL_cons, encList_cons, enc_pieceOf B hB hE env r p,
        meaning_piecesOf B hB hE env r ps []]
      simp [ofText, seqOut_ok_nil]
end

theorem compile_pieceOf (B : Build) (hB : B.mdcWhole = true) (hE : B.mdcEmptyOk = true) (bits : Nat) (env : Env) (r : Record) :
    ∀ (p : Pat) (inArg : Bool), wfPat bits inArg p = true → plainChar p = none →
      encChunk env r (compile B (pieceOf p)) = encChunk env r (chunkOf B p) :=
  fun p _ _ _ => enc_pieceOf B hB hE env r p

end Log4rs.Pattern.Parse
