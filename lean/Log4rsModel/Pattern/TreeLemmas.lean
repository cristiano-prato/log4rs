import Log4rsModel.Pattern.PieceLemmas
/-
Pattern trees: a subtree hands the writer it is given one piece stream (`repiece`), whose operation
stream is the tree's `codeFmtOps` denotation; with m ≤ M everywhere its text is the statement's
law. Core only.
-/
namespace Log4rs.Pattern
open Log4rs

theorem bytesOf_append (a b : List BEv) : bytesOf (a ++ b) = bytesOf a ++ bytesOf b :=
  List.filterMap_append

theorem bytesOf_map_byte (b : Bytes) : bytesOf (b.map BEv.byte) = b := by
  induction b with
  | nil => rfl
  | cons x xs ih => exact congrArg (x :: ·) ih

theorem bytesOf_render (o : Out) : bytesOf (render o) = utf8 o.text := by
  induction o with
  | nil => rfl
  | cons x xs ih =>
    cases x with
    | ch c =>
      rw [text_cons_ch, utf8_cons, ← ih]
      exact (bytesOf_append _ _).trans (congrArg (· ++ _) (bytesOf_map_byte _))
    | style s => exact ih

mutual
/-- the piece stream a subtree hands to the writer it is given -/
def repiece : Node → List Piece
  | .leaf ps => ps
  | .fmt p cs => fmtPieces p (repieces cs)
  | .gated true p cs => fmtPieces p (repieces cs)
  | .gated false p _ => fmtPieces p []
def repieces : List Node → List Piece
  | [] => []
  | n :: ns => repiece n ++ repieces ns
end

theorem denotes_append (a b : List Node) : denotes (a ++ b) = denotes a ++ denotes b := by
  induction a with
  | nil => rfl
  | cons n ns ih => rw [List.cons_append, denotes, denotes, ih, List.append_assoc]

theorem denotes_singleton (n : Node) : denotes [n] = denote n := by
  rw [denotes, denotes, List.append_nil]

mutual
theorem encodeNode_feed : ∀ (n : Node) (w : W), encodeNode n w = w.feed (repiece n)
  | .leaf _, _ => rfl
  | .fmt p cs, w => chunkEncode_feed p (repieces cs) (encodeNodes cs) (encodeNodes_feed cs) w
  | .gated true p cs, w => chunkEncode_feed p (repieces cs) (encodeNodes cs) (encodeNodes_feed cs) w
  | .gated false p _, w => chunkEncode_feed p [] id (fun _ => rfl) w
theorem encodeNodes_feed : ∀ (ns : List Node) (w : W), encodeNodes ns w = w.feed (repieces ns)
  | [], _ => rfl
  | n :: ns, w =>
    (congrArg (encodeNodes ns) (encodeNode_feed n w)).trans
      ((encodeNodes_feed ns _).trans (feed_append w _ _).symm)
end

mutual
theorem opsOf_repiece : ∀ (n : Node), opsOf (repiece n) = denote n
  | .leaf _ => rfl
  | .fmt p cs => (opsOf_fmtPieces p _).trans (congrArg (codeFmtOps p) (opsOf_repieces cs))
  | .gated true p cs => (opsOf_fmtPieces p _).trans (congrArg (codeFmtOps p) (opsOf_repieces cs))
  | .gated false p _ => opsOf_fmtPieces p []
theorem opsOf_repieces : ∀ (ns : List Node), opsOf (repieces ns) = denotes ns
  | [] => rfl
  | n :: ns => by rw [repieces, opsOf_append, opsOf_repiece n, opsOf_repieces ns]; rfl
end

mutual
theorem denote_text_eq_spec : ∀ (n : Node), n.ordered = true → (denote n).text = specText n
  | .leaf _, _ => rfl
  | .fmt p cs, h =>
    have h := Bool.and_eq_true_iff.1 h
    (codeFmtOps_text_eq_spec p _ h.1).trans (congrArg (specFmt p) (denotes_text_eq_spec cs h.2))
  | .gated true p cs, h =>
    have h := Bool.and_eq_true_iff.1 h
    (codeFmtOps_text_eq_spec p _ h.1).trans (congrArg (specFmt p) (denotes_text_eq_spec cs h.2))
  | .gated false p _, h => codeFmtOps_text_eq_spec p [] h
theorem denotes_text_eq_spec : ∀ (ns : List Node), Node.orderedAll ns = true →
    (denotes ns).text = specTexts ns
  | [], _ => rfl
  | n :: ns, h =>
    have h := Bool.and_eq_true_iff.1 h
    by rw [denotes, text_append, denote_text_eq_spec n h.1, denotes_text_eq_spec ns h.2]; rfl
end

theorem emitted_encodeNodes (forest : List Node) (orc : List Nat) (out : List BEv) :
    (encodeNodes forest (W.sink orc out)).emitted = out ++ render (denotes forest) := by
  rw [encodeNodes_feed]
  obtain ⟨orc', h⟩ := feed_sink (repieces forest) orc out
  rw [h, opsOf_repieces]; rfl

/-- … hence the bytes on the wire are the UTF-8 of the text of the forest's denotation -/
theorem bytesOf_encodeNodes (forest : List Node) (orc : List Nat) :
    bytesOf (encodeNodes forest (W.sink orc [])).emitted = utf8 (denotes forest).text := by
  rw [emitted_encodeNodes, List.nil_append, bytesOf_render]

end Log4rs.Pattern
