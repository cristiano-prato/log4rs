import Log4rsModel.Pattern.TextLemmas
import Log4rsModel.Pattern.WriteAllLemmas
/-
Whole piece streams through the writer layers: `MaxWidthWriter` truncates the stream, the alignment
writers count it (and buffer it), `finish` pads; the six-way composition of `Chunk::encode` over
any writer is feeding that writer one piece stream (`fmtPieces`); a sink receives its rendering.
Core only.
-/
namespace Log4rs.Pattern
open Log4rs

/-- number of characters a piece stream hands to its writer -/
def chars (ps : List Piece) : Nat := (opsOf ps).text.length

theorem opsOf_nil : opsOf [] = [] := rfl

theorem opsOf_cons_data (cs : List Char) (ps : List Piece) :
    opsOf (Piece.data cs :: ps) = ofText cs ++ opsOf ps := rfl

theorem opsOf_cons_style (s : Style) (ps : List Piece) :
    opsOf (Piece.style s :: ps) = Op.style s :: opsOf ps := rfl

theorem opsOf_append (a b : List Piece) : opsOf (a ++ b) = opsOf a ++ opsOf b :=
  List.flatMap_append

theorem chars_nil : chars [] = 0 := rfl

theorem chars_cons_data (cs : List Char) (ps : List Piece) :
    chars (Piece.data cs :: ps) = cs.length + chars ps := by
  rw [chars, opsOf_cons_data, text_append, text_ofText, List.length_append]; rfl

theorem chars_cons_style (s : Style) (ps : List Piece) :
    chars (Piece.style s :: ps) = chars ps := rfl

theorem chars_append (a b : List Piece) : chars (a ++ b) = chars a + chars b := by
  rw [chars, opsOf_append, text_append, List.length_append]; rfl

theorem feed_append (w : W) (a b : List Piece) : w.feed (a ++ b) = (w.feed a).feed b := by
  induction a generalizing w with
  | nil => rfl
  | cons x xs ih => cases x <;> exact ih _

def truncPieces : Nat → List Piece → List Piece
  | _, [] => []
  | r, .data cs :: rest => .data (cs.take r) :: truncPieces (r - cs.length) rest
  | r, .style s :: rest => .style s :: truncPieces r rest

theorem truncOps_ofText_append (r : Nat) (cs : List Char) (o : Out) :
    truncOps r (ofText cs ++ o) = ofText (cs.take r) ++ truncOps (r - cs.length) o := by
  induction cs generalizing r with
  | nil => rw [List.take_nil]; rfl
  | cons c cs ih =>
    cases r with
    | zero => rw [Nat.zero_sub]; exact (ih 0).trans (by rw [Nat.zero_sub]; rfl)
    | succ r => rw [List.length_cons, Nat.add_sub_add_right]; exact congrArg (Op.ch c :: ·) (ih r)

theorem opsOf_truncPieces (r : Nat) (ps : List Piece) :
    opsOf (truncPieces r ps) = truncOps r (opsOf ps) := by
  induction ps generalizing r with
  | nil => cases r <;> rfl
  | cons p ps ih =>
    cases p with
    | data cs => rw [truncPieces, opsOf_cons_data, opsOf_cons_data, truncOps_ofText_append, ih]
    | style s => rw [truncPieces, opsOf_cons_style, opsOf_cons_style, ih, truncOps]

theorem truncPieces_append (r : Nat) (a b : List Piece) :
    truncPieces r (a ++ b) = truncPieces r a ++ truncPieces (r - chars a) b := by
  induction a generalizing r with
  | nil => rfl
  | cons p ps ih =>
    cases p with
    | data cs => rw [List.cons_append, truncPieces, truncPieces, ih, chars_cons_data, Nat.sub_sub]; rfl
    | style s => rw [List.cons_append, truncPieces, truncPieces, ih, chars_cons_style]; rfl

theorem feed_maxW (ps : List Piece) (r : Nat) (w : W) :
    (W.maxW r w).feed ps = W.maxW (r - chars ps) (w.feed (truncPieces r ps)) := by
  induction ps generalizing r w with
  | nil => rfl
  | cons p ps ih =>
    cases p with
    | data cs =>
      rw [W.feed, writeAll_maxW, cut_utf8, leads_utf8, ih, chars_cons_data, Nat.sub_sub]; rfl
    | style s => exact ih r _

theorem feed_left (ps : List Piece) (tf : Nat) (f : Char) (w : W) :
    (W.left tf f w).feed ps = W.left (tf - chars ps) f (w.feed ps) := by
  induction ps generalizing tf w with
  | nil => rfl
  | cons p ps ih =>
    cases p with
    | data cs => rw [W.feed, writeAll_left, leads_utf8, ih, chars_cons_data, Nat.sub_sub]; rfl
    | style s => exact ih tf _

/-- `RightAlignWriter`'s buffer on the level of characters (newest first), mirroring `pushData`;
an empty `str` never reaches `write` -/
def pushP : List Piece → List Piece → List Piece
  | qs, [] => qs
  | qs, .data cs :: rest =>
    pushP (if cs = [] then qs else
      match qs with
      | .data d :: qs' => .data (d ++ cs) :: qs'
      | _ => .data cs :: qs) rest
  | qs, .style s :: rest => pushP (.style s :: qs) rest

def bufOfPieces (qs : List Piece) : List BufOut :=
  qs.map (fun | .data cs => BufOut.data (utf8 cs) | .style s => BufOut.style s)

theorem pushData_bufOfPieces (qs : List Piece) (cs : List Char) :
    pushData (bufOfPieces qs) (utf8 cs) =
      bufOfPieces (match qs with
        | .data d :: qs' => .data (d ++ cs) :: qs'
        | _ => .data cs :: qs) := by
  cases qs with
  | nil => rfl
  | cons q qs =>
    cases q with
    | data d => exact congrArg (BufOut.data · :: bufOfPieces qs) (utf8_append d cs).symm
    | style s => rfl

theorem feed_right (ps : List Piece) (tf : Nat) (f : Char) (w : W) (qs : List Piece) :
    (W.right tf f w (bufOfPieces qs)).feed ps =
      W.right (tf - chars ps) f w (bufOfPieces (pushP qs ps)) := by
  induction ps generalizing tf qs with
  | nil => rfl
  | cons p ps ih =>
    cases p with
    | data cs =>
      simp only [W.feed, pushP]
      rw [chars_cons_data, ← Nat.sub_sub]
      by_cases hc : cs = []
      · subst hc; exact ih tf qs
      · rw [if_neg hc, writeAll_right _ (mt (utf8_eq_nil cs).1 hc), leads_utf8, pushData_bufOfPieces]
        exact ih _ _
    | style s => exact ih tf (.style s :: qs)

theorem opsOf_reverse_pushP (qs ps : List Piece) :
    opsOf (pushP qs ps).reverse = opsOf qs.reverse ++ opsOf ps := by
  induction ps generalizing qs with
  | nil => exact (List.append_nil _).symm
  | cons p ps ih =>
    cases p with
    | data cs =>
      simp only [pushP]
      rw [ih, opsOf_cons_data, ← List.append_assoc]
      congr 1
      by_cases hc : cs = []
      · subst hc; exact (List.append_nil _).symm
      · rw [if_neg hc]
        cases qs with
        | nil => exact (List.append_nil _)
        | cons q qs =>
          cases q <;>
            simp only [List.reverse_cons, opsOf_append, opsOf_cons_data, opsOf_cons_style, opsOf_nil,
              ofText_append, List.append_assoc, List.append_nil]
    | style s =>
      simp only [pushP]
      rw [ih, List.reverse_cons, opsOf_append, List.append_assoc]; rfl

theorem replay_bufOfPieces (w : W) (qs : List Piece) : replay w (bufOfPieces qs) = w.feed qs := by
  induction qs generalizing w with
  | nil => rfl
  | cons q qs ih => cases q <;> exact ih _

theorem bufOfPieces_reverse (qs : List Piece) : (bufOfPieces qs).reverse = bufOfPieces qs.reverse :=
  List.map_reverse.symm

/-- the padding as a piece stream: one `write!(w, "{}", fill)` per missing character -/
def padPieces (fill : Char) (n : Nat) : List Piece := List.replicate n (Piece.data [fill])

theorem writeFills_eq (w : W) (f : Char) (n : Nat) : w.writeFills f n = w.feed (padPieces f n) := by
  induction n generalizing w with
  | zero => rfl
  | succ n ih =>
    rw [W.writeFills, padPieces, List.replicate_succ, W.feed, utf8_singleton]
    exact ih _

theorem opsOf_padPieces (f : Char) (n : Nat) : opsOf (padPieces f n) = ofText (fills f n) := by
  induction n with
  | zero => rfl
  | succ n ih => exact congrArg (Op.ch f :: ·) ih

/-- what `Chunk::encode` with parameters `p` hands to the writer it was given, as a piece stream,
when its inner chunk hands over `ps` -/
def fmtPieces (p : Params) (ps : List Piece) : List Piece :=
  let padded : List Piece := match p.minW with
    | none => ps
    | some m =>
      let pad := padPieces p.fill (m - chars ps)
      if p.right then pad ++ (pushP [] ps).reverse else ps ++ pad
  match p.maxW with
  | none => padded
  | some M => truncPieces M padded

theorem opsOf_fmtPieces (p : Params) (ps : List Piece) :
    opsOf (fmtPieces p ps) = codeFmtOps p (opsOf ps) := by
  have hrev : opsOf (pushP [] ps).reverse = opsOf ps := opsOf_reverse_pushP [] ps
  unfold fmtPieces codeFmtOps
  cases p.minW <;> cases p.maxW
  · rfl
  · exact opsOf_truncPieces _ ps
  all_goals cases p.right <;>
    simp only [opsOf_truncPieces, opsOf_append, opsOf_padPieces, hrev, if_true, if_false,
      Bool.false_eq_true] <;> rfl

theorem chunkEncode_feed (p : Params) (ps : List Piece) (enc : W → W)
    (henc : ∀ w, enc w = w.feed ps) (w : W) :
    chunkEncode p enc w = w.feed (fmtPieces p ps) := by
  have hright (tf f w') : (W.right tf f w' []).feed ps =
      W.right (tf - chars ps) f w' (bufOfPieces (pushP [] ps)) := feed_right ps tf f w' []
  unfold chunkEncode fmtPieces
  cases p.minW <;> cases p.maxW
  · exact henc w
  · exact (congrArg W.dropMax ((henc _).trans (feed_maxW ps _ w)))
  all_goals cases p.right <;>
    simp only [henc, feed_maxW, feed_left, hright, W.finish, W.dropMax, writeFills_eq,
      bufOfPieces_reverse, replay_bufOfPieces, ← feed_append, truncPieces_append, if_true, if_false,
      Bool.false_eq_true]

theorem render_ofText (cs : List Char) : render (ofText cs) = (utf8 cs).map BEv.byte := by
  induction cs with
  | nil => rfl
  | cons c cs ih =>
    rw [utf8_cons, List.map_append, ← ih]; rfl

theorem render_append (a b : Out) : render (a ++ b) = render a ++ render b :=
  List.flatMap_append

theorem feed_sink (ps : List Piece) (orc : List Nat) (out : List BEv) :
    ∃ orc', (W.sink orc out).feed ps = W.sink orc' (out ++ render (opsOf ps)) := by
  induction ps generalizing orc out with
  | nil => exact ⟨orc, congrArg (W.sink orc) (List.append_nil out).symm⟩
  | cons p ps ih =>
    cases p with
    | data cs =>
      obtain ⟨o1, h1⟩ := writeAll_sink (utf8 cs) orc out
      obtain ⟨o2, h2⟩ := ih o1 (out ++ (utf8 cs).map BEv.byte)
      exact ⟨o2, by
        rw [W.feed, h1, h2, opsOf_cons_data, render_append, render_ofText, List.append_assoc]⟩
    | style s =>
      obtain ⟨o2, h2⟩ := ih orc (out ++ [BEv.style s])
      exact ⟨o2, h2.trans (by rw [List.append_assoc]; rfl)⟩

end Log4rs.Pattern
