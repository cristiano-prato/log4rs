import Log4rsModel.Pattern.Writers
/-
Operation streams and the width law on text: what `codeFmtOps` does to the text of a stream, for
all m and M, and that this is `specFmt` when m ≤ M. Core only.
-/
namespace Log4rs.Pattern
open Log4rs

theorem text_nil : Out.text [] = [] := rfl

theorem text_append (a b : Out) : Out.text (a ++ b) = Out.text a ++ Out.text b :=
  List.filterMap_append

theorem text_cons_ch (c : Char) (o : Out) : Out.text (Op.ch c :: o) = c :: Out.text o := rfl

theorem text_cons_style (s : Style) (o : Out) : Out.text (Op.style s :: o) = Out.text o := rfl

theorem text_ofText (cs : List Char) : Out.text (ofText cs) = cs := by
  induction cs with
  | nil => rfl
  | cons c cs ih => exact congrArg (c :: ·) ih

theorem ofText_append (a b : List Char) : ofText (a ++ b) = ofText a ++ ofText b :=
  List.map_append

theorem text_truncOps (M : Nat) (o : Out) : (truncOps M o).text = o.text.take M := by
  induction o generalizing M with
  | nil => cases M <;> rfl
  | cons x xs ih =>
    cases x with
    | style s => rw [truncOps, text_cons_style, text_cons_style, ih]
    | ch c =>
      cases M with
      | zero => rw [truncOps, ih]; rfl
      | succ M => rw [truncOps, text_cons_ch, text_cons_ch, ih, List.take_succ_cons]

theorem styles_append (a b : Out) : Out.styles (a ++ b) = Out.styles a ++ Out.styles b :=
  List.filterMap_append

/-- a stream between an opening and a closing style call, as a highlight group emits it -/
theorem styles_bracket (s t : Style) (o : Out) :
    Out.styles (Op.style s :: o ++ [Op.style t]) = s :: Out.styles o ++ [t] :=
  congrArg (s :: ·) (styles_append o [Op.style t])

theorem styles_ofText (cs : List Char) : Out.styles (ofText cs) = [] := by
  induction cs with
  | nil => rfl
  | cons c cs ih => exact ih

theorem styles_truncOps (M : Nat) (o : Out) : (truncOps M o).styles = o.styles := by
  induction o generalizing M with
  | nil => cases M <;> rfl
  | cons x xs ih =>
    cases x with
    | style s => rw [truncOps]; exact congrArg (s :: ·) (ih M)
    | ch c => cases M <;> rw [truncOps] <;> exact ih _

/-- a format spec never drops, duplicates or reorders style calls -/
theorem styles_codeFmtOps (p : Params) (o : Out) : (codeFmtOps p o).styles = o.styles := by
  unfold codeFmtOps
  cases p.minW <;> cases p.maxW
  · rfl
  · exact styles_truncOps _ o
  all_goals cases p.right <;>
    simp only [styles_truncOps, styles_append, styles_ofText, List.append_nil, List.nil_append,
      if_true, if_false, Bool.false_eq_true]

theorem length_fills (f : Char) (n : Nat) : (fills f n).length = n := List.length_replicate

theorem take_fills (f : Char) (n k : Nat) : (fills f n).take k = fills f (min k n) :=
  List.take_replicate

/-- the second stage of `specFmt`: fill up to `m` characters on the chosen side -/
def padTo (f : Char) (right : Bool) (m : Nat) (t : List Char) : List Char :=
  if right then fills f (m - t.length) ++ t else t ++ fills f (m - t.length)

theorem length_padTo (f : Char) (right : Bool) (m : Nat) (t : List Char) :
    (padTo f right m t).length = max m t.length := by
  unfold padTo
  cases right
  · rw [if_neg Bool.false_ne_true, List.length_append, length_fills, Nat.add_comm, Nat.sub_add_eq_max]
  · rw [if_pos rfl, List.length_append, length_fills, Nat.sub_add_eq_max]

theorem padTo_of_le (f : Char) (right : Bool) {m : Nat} {t : List Char} (h : m ≤ t.length) :
    padTo f right m t = t := by
  unfold padTo
  rw [Nat.sub_eq_zero_of_le h]
  cases right
  · exact List.append_nil t
  · rfl

/-- cutting to `M ≥ m` after padding to `m` is padding after cutting, on either side: a text of `M`
or more characters is not padded at all, a shorter one is not cut, padded or not -/
theorem take_padTo (f : Char) (right : Bool) {m M : Nat} (t : List Char) (h : m ≤ M) :
    (padTo f right m t).take M = padTo f right m (t.take M) := by
  by_cases hn : M ≤ t.length
  · rw [padTo_of_le f right (Nat.le_trans h hn),
      padTo_of_le f right (by rw [List.length_take, Nat.min_eq_left hn]; exact h)]
  · have hl : t.length ≤ M := Nat.le_of_not_le hn
    rw [List.take_of_length_le hl]
    exact List.take_of_length_le (by rw [length_padTo]; exact Nat.max_le.2 ⟨h, hl⟩)

/-- left alignment with M ≤ m: the padding is cut too, i.e. the minimum width is clamped to M -/
theorem take_padTo_left_clamp (f : Char) {m M : Nat} (t : List Char) (h : M ≤ m) :
    (padTo f false m t).take M = padTo f false M (t.take M) := by
  unfold padTo
  rw [if_neg Bool.false_ne_true, if_neg Bool.false_ne_true]
  by_cases hn : M ≤ t.length
  · rw [List.take_append_of_le_length hn, List.length_take, Nat.min_eq_left hn, Nat.sub_self]
    exact (List.append_nil _).symm
  · have hl : t.length ≤ M := Nat.le_of_not_le hn
    rw [List.take_append, List.take_of_length_le hl, take_fills,
      Nat.min_eq_left (Nat.sub_le_sub_right h _)]

theorem Params.le_of_ordered {p : Params} {m M : Nat} (h : p.ordered = true) (hm : p.minW = some m)
    (hM : p.maxW = some M) : m ≤ M := by
  unfold Params.ordered at h
  rw [hm, hM] at h
  exact of_decide_eq_true h

/-- the first stage of `codeFmtOps` (padding the uncut stream) on text -/
theorem text_padded (p : Params) (o : Out) :
    Out.text (match p.minW with
      | none => o
      | some m =>
        if p.right then ofText (fills p.fill (m - o.text.length)) ++ o
        else o ++ ofText (fills p.fill (m - o.text.length))) =
      specFmt { p with maxW := none } o.text := by
  unfold specFmt
  cases p.minW with
  | none => rfl
  | some m =>
    cases p.right
    · exact (text_append _ _).trans (congrArg (o.text ++ ·) (text_ofText _))
    · exact (text_append _ _).trans (congrArg (· ++ o.text) (text_ofText _))

/-- text of `codeFmtOps`, for all m and M: pad the *uncut* text to m, then keep M characters -/
theorem codeFmtOps_text (p : Params) (o : Out) :
    (codeFmtOps p o).text =
      (match p.maxW with
       | none => specFmt { p with maxW := none } o.text
       | some M => (specFmt { p with maxW := none } o.text).take M) := by
  unfold codeFmtOps
  cases p.maxW with
  | none => exact text_padded p o
  | some M => exact (text_truncOps M _).trans (congrArg (List.take M) (text_padded p o))

theorem codeFmtOps_text_eq_spec (p : Params) (o : Out) (h : p.ordered = true) :
    (codeFmtOps p o).text = specFmt p o.text := by
  rw [codeFmtOps_text]
  unfold specFmt
  cases hM : p.maxW with
  | none => rfl
  | some M =>
    cases hm : p.minW with
    | none => rfl
    | some m => exact take_padTo p.fill p.right o.text (Params.le_of_ordered h hm hM)

theorem codeFmtOps_text_length_le (p : Params) (o : Out) (M : Nat) (hM : p.maxW = some M) :
    (codeFmtOps p o).text.length ≤ M := by
  rw [codeFmtOps_text, hM]
  exact List.length_take_le M _

end Log4rs.Pattern
