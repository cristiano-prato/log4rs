import Log4rsModel.Pattern.Writers
/-
The byte-level writer model, one buffer at a time: the cut of `MaxWidthWriter::write`, progress of
`write`, std's `write_all` loop, and what one `write_all` does to each layer, for an arbitrary
writer below. Core only.
-/
namespace Log4rs.Pattern
open Log4rs

/-- the bytes one `MaxWidthWriter::write` call passes on: everything before the first lead byte
met with an exhausted budget -/
def cut : Nat → Bytes → Bytes
  | _, [] => []
  | r, x :: xs =>
    if isLead x then (if r = 0 then [] else x :: cut (r - 1) xs) else x :: cut r xs

theorem cut_cons_cont {x : Nat} (hx : isLead x = false) (r : Nat) (xs : Bytes) :
    cut r (x :: xs) = x :: cut r xs := by
  rw [cut, hx]; rfl

theorem cut_zero_cons_lead {x : Nat} (hx : isLead x = true) (xs : Bytes) : cut 0 (x :: xs) = [] := by
  rw [cut, hx]; rfl

theorem cut_succ_cons_lead {x : Nat} (hx : isLead x = true) (r : Nat) (xs : Bytes) :
    cut (r + 1) (x :: xs) = x :: cut r xs := by
  rw [cut, hx]; rfl

theorem scanEnd_eq (r : Nat) (b : Bytes) : scanEnd r b = ((cut r b).length, r - leads (cut r b)) := by
  induction b generalizing r with
  | nil => rfl
  | cons x xs ih =>
    cases hx : isLead x with
    | false =>
      rw [scanEnd, hx, if_neg Bool.false_ne_true, ih, cut_cons_cont hx, leads_cons_cont hx]; rfl
    | true =>
      cases r with
      | zero => rw [cut_zero_cons_lead hx, scanEnd, hx]; rfl
      | succ r =>
        rw [scanEnd, hx, if_pos rfl, if_neg (Nat.succ_ne_zero r), Nat.add_sub_cancel, ih,
          cut_succ_cons_lead hx, leads_cons_lead hx, Nat.add_sub_add_right]; rfl

theorem cut_prefix (r : Nat) (b : Bytes) : b.take (cut r b).length = cut r b := by
  induction b generalizing r with
  | nil => rfl
  | cons x xs ih =>
    cases hx : isLead x with
    | false => rw [cut_cons_cont hx, List.length_cons, List.take_succ_cons, ih]
    | true =>
      cases r with
      | zero => rw [cut_zero_cons_lead hx]; rfl
      | succ r => rw [cut_succ_cons_lead hx, List.length_cons, List.take_succ_cons, ih]

theorem take_cut (r : Nat) (b : Bytes) {n : Nat} (hn : n ≤ (cut r b).length) :
    (cut r b).take n = b.take n := by
  rw [← cut_prefix r b, List.take_take, Nat.min_eq_left hn]

theorem cut_length_le (r : Nat) (b : Bytes) : (cut r b).length ≤ b.length := by
  rw [← cut_prefix]; exact List.length_take_le' _ _

theorem leads_cut_le (r : Nat) (b : Bytes) : leads (cut r b) ≤ r := by
  induction b generalizing r with
  | nil => exact Nat.zero_le r
  | cons x xs ih =>
    cases hx : isLead x with
    | false => rw [cut_cons_cont hx, leads_cons_cont hx]; exact ih r
    | true =>
      cases r with
      | zero => rw [cut_zero_cons_lead hx]; exact Nat.le_refl 0
      | succ r => rw [cut_succ_cons_lead hx, leads_cons_lead hx]; exact Nat.succ_le_succ (ih r)

/-- a non-empty buffer with an empty cut: the budget is exhausted (and the buffer starts a
character) — the "act as a sink" branch -/
theorem cut_eq_nil (r : Nat) (b : Bytes) (hb : b ≠ []) (h : cut r b = []) : r = 0 := by
  cases b with
  | nil => exact absurd rfl hb
  | cons x xs =>
    cases hx : isLead x with
    | false => rw [cut_cons_cont hx] at h; exact absurd h (List.cons_ne_nil _ _)
    | true =>
      cases r with
      | zero => rfl
      | succ r => rw [cut_succ_cons_lead hx] at h; exact absurd h (List.cons_ne_nil _ _)

/-- re-offering the unwritten rest after a short write cuts at the same place -/
theorem cut_drop (r : Nat) (b : Bytes) (n : Nat) (hn : n ≤ (cut r b).length) :
    cut (r - leads ((cut r b).take n)) (b.drop n) = (cut r b).drop n := by
  induction b generalizing r n with
  | nil => rw [List.drop_nil]; exact (List.drop_nil).symm
  | cons x xs ih =>
    cases n with
    | zero => rfl
    | succ n =>
      cases hx : isLead x with
      | false =>
        rw [cut_cons_cont hx] at hn ⊢
        rw [List.take_succ_cons, leads_cons_cont hx]
        exact ih r n (Nat.le_of_succ_le_succ hn)
      | true =>
        cases r with
        | zero => rw [cut_zero_cons_lead hx] at hn; exact absurd hn (Nat.not_succ_le_zero n)
        | succ r =>
          rw [cut_succ_cons_lead hx] at hn ⊢
          rw [List.take_succ_cons, leads_cons_lead hx, Nat.add_sub_add_right]
          exact ih r n (Nat.le_of_succ_le_succ hn)

theorem cut_cont_append (r : Nat) (t rest : Bytes) (ht : ∀ b ∈ t, isLead b = false) :
    cut r (t ++ rest) = t ++ cut r rest := by
  induction t with
  | nil => rfl
  | cons x xs ih =>
    rw [List.cons_append, cut_cons_cont (ht x List.mem_cons_self),
      ih (fun b hb => ht b (List.mem_cons_of_mem _ hb))]; rfl

/-- scanning whole characters with budget `r` stops exactly after the first `r` of them -/
theorem cut_utf8 (r : Nat) (cs : List Char) : cut r (utf8 cs) = utf8 (cs.take r) := by
  induction cs generalizing r with
  | nil => cases r <;> rfl
  | cons c cs ih =>
    obtain ⟨h, t, e, hl, hc, _⟩ := utf8Char_shape c
    cases r with
    | zero => rw [utf8_cons, e, List.cons_append, cut_zero_cons_lead hl]; rfl
    | succ r =>
      rw [List.take_succ_cons, utf8_cons, utf8_cons, e, List.cons_append, cut_succ_cons_lead hl,
        cut_cont_append r t _ hc, ih]; rfl

/-- when the next piece starts a character (whole `str`s do), cutting a concatenation is cutting
piece by piece with the running budget -/
theorem cut_append (r : Nat) (a b : Bytes) (hb : b = [] ∨ ∃ x xs, b = x :: xs ∧ isLead x = true) :
    cut r (a ++ b) = cut r a ++ cut (r - leads a) b := by
  induction a generalizing r with
  | nil => rfl
  | cons x xs ih =>
    cases hx : isLead x with
    | false => rw [List.cons_append, cut_cons_cont hx, cut_cons_cont hx, leads_cons_cont hx, ih r]; rfl
    | true =>
      cases r with
      | zero =>
        rw [List.cons_append, cut_zero_cons_lead hx, cut_zero_cons_lead hx, Nat.zero_sub]
        rcases hb with rfl | ⟨y, ys, rfl, hy⟩
        · rfl
        · exact (cut_zero_cons_lead hy ys).symm
      | succ r =>
        rw [List.cons_append, cut_succ_cons_lead hx, cut_succ_cons_lead hx, leads_cons_lead hx,
          Nat.add_sub_add_right, ih r]; rfl

theorem write_left (tf : Nat) (f : Char) (w : W) (b : Bytes) :
    (W.left tf f w).write b =
      (W.left (tf - leads (b.take (w.write b).2)) f (w.write b).1, (w.write b).2) := rfl

/-- normal form of `MaxWidthWriter::write` (both branches of `if len == end` agree) -/
theorem write_maxW (r : Nat) (w : W) (b : Bytes) :
    (W.maxW r w).write b =
      if cut r b = [] then (W.maxW r w, b.length)
      else (W.maxW (r - leads ((cut r b).take (w.write (cut r b)).2)) (w.write (cut r b)).1,
            (w.write (cut r b)).2) := by
  simp only [W.write, scanEnd_eq, cut_prefix, List.length_eq_zero_iff]
  split
  · rfl
  · split
    · rename_i h; rw [h, List.take_length]
    · rfl

theorem accept_bounds (orc : List Nat) (len : Nat) (h : 1 ≤ len) :
    1 ≤ accept orc len ∧ accept orc len ≤ len := by
  unfold accept
  split
  · exact ⟨h, Nat.le_refl _⟩
  · split
    · exact ⟨h, Nat.le_refl _⟩
    · exact ⟨Nat.le_min.2 ⟨Nat.pos_of_ne_zero ‹_›, h⟩, Nat.min_le_right _ _⟩

theorem write_progress (w : W) : ∀ (b : Bytes), b ≠ [] →
    1 ≤ (w.write b).2 ∧ (w.write b).2 ≤ b.length := by
  induction w with
  | sink orc out => exact fun b hb => accept_bounds orc b.length (List.length_pos_iff.2 hb)
  | maxW r inner ih =>
    intro b hb
    rw [write_maxW]
    split
    · exact ⟨List.length_pos_iff.2 hb, Nat.le_refl _⟩
    · rename_i he
      exact ⟨(ih _ he).1, Nat.le_trans (ih _ he).2 (cut_length_le r b)⟩
  | left tf f inner ih => exact ih
  | right tf f inner buf _ => exact fun b hb => ⟨List.length_pos_iff.2 hb, Nat.le_refl _⟩

theorem writeAll_nil (w : W) : w.writeAll [] = w := rfl

theorem writeAllFuel_succ (fuel : Nat) (w : W) (b : Bytes) (hb : b ≠ []) :
    W.writeAllFuel (fuel + 1) w b = W.writeAllFuel fuel (w.write b).1 (b.drop (w.write b).2) := by
  cases b with
  | nil => exact absurd rfl hb
  | cons _ _ => rfl

theorem length_drop_le {b : Bytes} {n f : Nat} (hn : 1 ≤ n) (h : b.length ≤ f + 1) :
    (b.drop n).length ≤ f := by
  rw [List.length_drop]
  exact Nat.le_trans (Nat.sub_le_sub_left hn _) (Nat.sub_le_of_le_add h)

/-- enough fuel is as good as any other amount: every turn consumes at least one byte -/
theorem writeAllFuel_irrel : ∀ (f1 f2 : Nat) (w : W) (b : Bytes), b.length ≤ f1 → b.length ≤ f2 →
    W.writeAllFuel f1 w b = W.writeAllFuel f2 w b := by
  intro f1
  induction f1 with
  | zero =>
    intro f2 w b h1 _
    cases List.eq_nil_of_length_eq_zero (Nat.le_zero.1 h1)
    cases f2 <;> rfl
  | succ f1 ih =>
    intro f2 w b h1 h2
    by_cases hb : b = []
    · subst hb; cases f2 <;> rfl
    · cases f2 with
      | zero => exact absurd (List.eq_nil_of_length_eq_zero (Nat.le_zero.1 h2)) hb
      | succ f2 =>
        have hp := (write_progress w b hb).1
        rw [writeAllFuel_succ _ _ _ hb, writeAllFuel_succ _ _ _ hb]
        exact ih _ _ _ (length_drop_le hp h1) (length_drop_le hp h2)

/-- one turn of std's `write_all` loop -/
theorem writeAll_cons (w : W) (b : Bytes) (hb : b ≠ []) :
    w.writeAll b = (w.write b).1.writeAll (b.drop (w.write b).2) := by
  obtain ⟨n, hn⟩ := Nat.exists_eq_succ_of_ne_zero (mt List.eq_nil_of_length_eq_zero hb)
  unfold W.writeAll
  rw [hn, writeAllFuel_succ _ _ _ hb]
  exact writeAllFuel_irrel _ _ _ _ (length_drop_le (write_progress w b hb).1 (Nat.le_of_eq hn))
    (Nat.le_refl _)

/-- induction along the turns of the loop: a property of `w.writeAll b` follows from the empty
buffer and from one turn (`writeAll_nil`, `writeAll_cons`) -/
theorem writeAll_induction {motive : W → Bytes → Prop} (nil : ∀ w, motive w [])
    (turn : ∀ w b, b ≠ [] → motive (w.write b).1 (b.drop (w.write b).2) → motive w b)
    (w : W) (b : Bytes) : motive w b := by
  suffices ∀ n w b, b.length ≤ n → motive w b from this _ w b (Nat.le_refl _)
  intro n
  induction n with
  | zero => intro w b h; cases List.eq_nil_of_length_eq_zero (Nat.le_zero.1 h); exact nil w
  | succ n ih =>
    intro w b h
    by_cases hb : b = []
    · subst hb; exact nil w
    · exact turn w b hb (ih _ _ (length_drop_le (write_progress w b hb).1 h))

/-- what one `write_all` does to a `MaxWidthWriter`, whatever sits below it and however short its
writes are: the cut goes down as one `write_all`, the budget drops by the characters offered.
The loops of the two layers turn in step: induction on the loop of the writer below. -/
theorem writeAll_maxW (b : Bytes) (r : Nat) (w : W) :
    (W.maxW r w).writeAll b = W.maxW (r - leads b) (w.writeAll (cut r b)) := by
  generalize hc : cut r b = c
  induction w, c using writeAll_induction generalizing r b with
  | nil w =>
    by_cases hb : b = []
    · subst hb; rfl
    · cases cut_eq_nil r b hb hc
      rw [writeAll_cons _ b hb, write_maxW, if_pos hc, List.drop_length, Nat.zero_sub]; rfl
  | turn w c hne ih =>
    subst hc
    have hb : b ≠ [] := fun h => hne (by rw [h]; rfl)
    have hp := write_progress w _ hne
    rw [writeAll_cons _ b hb, write_maxW, if_neg hne, writeAll_cons w _ hne,
      ih _ _ (cut_drop r b _ hp.2)]
    rw [take_cut r b hp.2, Nat.sub_sub, leads_take_add_drop]

theorem writeAll_left (b : Bytes) (tf : Nat) (f : Char) (w : W) :
    (W.left tf f w).writeAll b = W.left (tf - leads b) f (w.writeAll b) := by
  induction w, b using writeAll_induction generalizing tf with
  | nil w => rfl
  | turn w b hb ih =>
    rw [writeAll_cons _ b hb, writeAll_cons w b hb, write_left, ih, Nat.sub_sub, leads_take_add_drop]

theorem writeAll_right (b : Bytes) (hb : b ≠ []) (tf : Nat) (f : Char) (w : W) (buf : List BufOut) :
    (W.right tf f w buf).writeAll b = W.right (tf - leads b) f w (pushData buf b) := by
  rw [writeAll_cons _ b hb]
  show W.writeAll _ (b.drop b.length) = _
  rw [List.drop_length]; rfl

theorem writeAll_sink (b : Bytes) (orc : List Nat) (out : List BEv) :
    ∃ orc', (W.sink orc out).writeAll b = W.sink orc' (out ++ b.map BEv.byte) := by
  generalize hw : W.sink orc out = w
  induction w, b using writeAll_induction generalizing orc out with
  | nil w => exact ⟨orc, by rw [← hw, List.map_nil, List.append_nil]; rfl⟩
  | turn w b hb ih =>
    subst hw
    obtain ⟨orc', h⟩ := ih orc.tail (out ++ (b.take (accept orc b.length)).map BEv.byte) rfl
    refine ⟨orc', (writeAll_cons _ b hb).trans (h.trans ?_)⟩
    rw [List.append_assoc, ← List.map_append]
    exact congrArg (fun x => W.sink orc' (out ++ List.map BEv.byte x)) (List.take_append_drop _ b)

end Log4rs.Pattern
