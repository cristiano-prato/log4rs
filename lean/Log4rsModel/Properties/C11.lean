import Log4rsModel.Pattern.ParserLemmas
import Log4rsModel.Pattern.EncodeLemmas
import Log4rsModel.Pattern.ChunkTableLemmas
/-
C11 — Any pattern string is safe: no panic, errors surface as `{ERROR: …}` markers.

Only property theorems and examples live here; helpers are in `Pattern/ParserLemmas.lean`,
`Pattern/ChunkLemmas.lean`, `Pattern/ChunkTableLemmas.lean` and `Pattern/EncodeLemmas.lean`. All statements quantify over every string over the full Unicode
alphabet (`List Char`), every character classification `cc`, every record and environment.

The model follows the repaired code (defaults of `Profile` and `Build`): F3 — an overflowing width
is `{ERROR: width too large}` (commit 67091ff, `Profile.widthCheck`); F4 — a date format whose
trial rendering fails is `{ERROR: invalid date format …}` at construction
(commits 73e36b9 + ea62e36, `Build.dateCheck`). The no-panic statements are FULL theorems for that model.
The behaviour before the repairs stays selectable (`Profile.unfixed64`, `dateCheck := false`) and
the negative witnesses survive as `…_unfixed`.

The construction-time check is the trial rendering of commit ea62e36 (`Build.current`: the build
asks chrono the same question as the encode), so the encode theorem is unconditional. The
intermediate items-scan repair (73e36b9) and its `%#z` residue are kept as `…_items_scan` /
`…_unfixed` theorems. Modelling assumption behind `Env.strftimeOk : format → Bool`: chrono's
render verdict depends on the format only (not on zone or instant); the driver checks it on the
harness' facts in every case.
-/
namespace Log4rs.Pattern.Parse

/-- The parser terminates: the fixed fuel `input.length + 1` is never exhausted (`err ()` is the
model's out-of-fuel answer), for every string, character classification and profile. -/
theorem C11_parse_total (cc : CharClass) (P : Profile) (s : List Char) : parse cc P s ≠ .err () := by
  intro h
  have := parseLoop_spec cc P (s.length + 1) s (Nat.lt_succ_self _)
  rw [show parseLoop cc P (s.length + 1) s = .err () from h] at this
  exact this

/-- The reason: every piece `next` produces consumes at least one character, and `next` answers
`None` only at the end of the input. -/
theorem C11_next_consumes (cc : CharClass) (P : Profile) (s : List Char) :
    match next cc P s with
    | .ok (some _) r => r <:+ s ∧ r.length < s.length
    | .ok none r => s = [] ∧ r = []
    | .fail _ _ => False
    | .panic _ => True
    | .fuel => False := by
  have h := next_within cc P s
  revert h
  cases next cc P s with
  | ok o r => cases o <;> exact id
  | fail e r => exact id
  | panic w => exact fun _ => trivial
  | fuel => exact id

/-- Appendix A fuel convention for the fuelled functions: any fuel ≥ `input.length + 1` gives the
result of the entry point's fuel. -/
theorem C11_fuel_mono (cc : CharClass) (P : Profile) (fuel d : Nat) (s : List Char)
    (h : fuel ≥ s.length + 1) :
    (∀ acc, argsLoop cc P fuel d s acc = argsLoop cc P (s.length + 1) d s acc) ∧
    (∀ acc, argBody cc P fuel d s acc = argBody cc P (s.length + 1) d s acc) :=
  ⟨fun acc => argsLoop_fuel_mono cc P fuel d s acc h, fun acc => argBody_fuel_mono cc P fuel d s acc h⟩

/-- FULL: `PatternEncoder::new` cannot panic on any string whatsoever, in any build profile and
word size — for the current code (`widthCheck`, the repair of F3). -/
theorem C11_parse_no_panic (cc : CharClass) (P : Profile) (hfix : P.widthCheck = true)
    (s : List Char) (w : String) : parse cc P s ≠ .panic w :=
  parse_ne_panic cc P s (intSafe_of_widthCheck P hfix s) w

/-- … and neither can the chunk construction on top of it. -/
theorem C11_new_no_panic (cc : CharClass) (P : Profile) (B : Build) (hfix : P.widthCheck = true)
    (s : List Char) : ∃ cs, newEncoder cc P B s = .ok cs := by
  unfold newEncoder
  cases hp : parse cc P s with
  | ok a => exact ⟨_, rfl⟩
  | err e => cases e; exact absurd hp (C11_parse_total cc P s)
  | panic w => exact absurd hp (C11_parse_no_panic cc P hfix s w)

/-- the default profile is the repaired code -/
example : Profile.debug64.widthCheck = true ∧ Profile.release64.widthCheck = true := ⟨rfl, rfl⟩

/-- An absurd width is surfaced as an error marker; the text around it still renders. -/
theorem C11_width_too_large_witness :
    parse asciiClass Profile.debug64 cs!"a{m:99999999999999999999}b" =
      .ok [.text ['a'], .error cs!"width too large", .text ['b']] := by rfl

/-- Before the repair (also without it): no panic when every digit run fits the word size … -/
theorem C11_parse_no_panic_partial_unfixed (cc : CharClass) (P : Profile) (s : List Char)
    (h : digitRunsFit P s = true) (w : String) : parse cc P s ≠ .panic w :=
  parse_ne_panic cc P s (intSafe_of_digitRunsFit P s h) w

/-- … or when overflow checks are off (the width then wrapped: `C11_F3_release_wraps_unfixed`). -/
theorem C11_parse_no_panic_wrapping_unfixed (cc : CharClass) (P : Profile) (s : List Char)
    (h : P.overflowChecks = false) (w : String) : parse cc P s ≠ .panic w :=
  parse_ne_panic cc P s (intSafe_of_wrapping P h s) w

/-- the unconditional statement over ALL profiles, including the unrepaired one (false: F3) -/
def C11_parse_no_panic_all_profiles : Prop :=
  ∀ (cc : CharClass) (P : Profile) (s : List Char) (w : String), parse cc P s ≠ .panic w

/-- F3 (historical): before commit 67091ff `{m:99999999999999999999}` panicked in
`Parser::integer` under overflow checks. -/
theorem C11_F3_witness_panics_unfixed :
    (parse asciiClass Profile.unfixed64 cs!"{m:99999999999999999999}").isPanic = true := by decide +kernel

theorem C11_parse_no_panic_all_profiles_false_unfixed : ¬ C11_parse_no_panic_all_profiles := by
  intro h
  have hw := C11_F3_witness_panics_unfixed
  cases hp : parse asciiClass Profile.unfixed64 cs!"{m:99999999999999999999}" with
  | ok a => rw [hp] at hw; cases hw
  | err e => rw [hp] at hw; cases hw
  | panic w => exact h _ _ _ w hp

/-- F3 (historical), release profile: no panic, but `2^64 + 1` silently became the width 1. -/
theorem C11_F3_release_wraps_unfixed :
    parse asciiClass Profile.unfixedRelease64 cs!"{m:18446744073709551617}" =
      .ok [.arg ['m'] [] { minW := some 1 }] := by rfl

/-- Encoding a chunk list cannot panic when chrono accepts every date format the encode renders;
it then yields exactly the operation stream `opsList`. -/
theorem C11_encode_no_panic_of_rendered_ok (env : Env) (r : Record) (cs : List Chunk)
    (h : ∀ x ∈ renderedTimesL env cs, env.strftimeOk x.1 = true) :
    encList env r cs = .ok (opsList env r cs) ∧ ∀ w, encList env r cs ≠ .panic w := by
  have := encList_eq_ops env r cs h
  exact ⟨this, fun w hw => by rw [this] at hw; cases hw⟩

/-- Any build whose construction-time check implies renderability (general form). -/
theorem C11_encode_no_panic_of_check (B : Build) (hfix : B.dateCheck = true) (env : Env)
    (hr : ∀ fmt, B.dateOk fmt = true → env.strftimeOk fmt = true) (r : Record) (pieces : List Piece) :
    encList env r (compileL B pieces) = .ok (opsList env r (compileL B pieces)) ∧
      ∀ w, encList env r (compileL B pieces) ≠ .panic w := by
  apply C11_encode_no_panic_of_rendered_ok
  intro x hx
  exact hr x.1 (times_compileL B hfix pieces x (rendered_sub_timesL env _ x hx))

/-- FULL, unconditional: encoding ANY record with the chunks the current code (`Build.current`:
trial rendering at construction, commit ea62e36) compiles from ANY pieces cannot panic. -/
theorem C11_encode_no_panic (env : Env) (r : Record) (pieces : List Piece) :
    encList env r (compileL (Build.current env) pieces) =
        .ok (opsList env r (compileL (Build.current env) pieces)) ∧
      ∀ w, encList env r (compileL (Build.current env) pieces) ≠ .panic w :=
  C11_encode_no_panic_of_check (Build.current env) rfl env (fun _ h => h) r pieces

/-- with an infallible sink the encoder never returns an error either -/
theorem C11_encode_never_err (env : Env) (r : Record) (cs : List Chunk) (e : Unit) :
    encList env r cs ≠ .err e := encList_ne_err env r cs e

/-- FULL, end to end, unconditional: constructing an encoder from any string whatsoever and encoding
any record with it is `ok` — no panic, no abort, no error (current code: `widthCheck` of the
profile, `Build.current`). -/
theorem C11_run_no_panic (cc : CharClass) (P : Profile) (hw : P.widthCheck = true) (env : Env)
    (r : Record) (s : List Char) : ∃ o, run cc P (Build.current env) env r s = .ok o := by
  obtain ⟨cs, hcs⟩ := C11_new_no_panic cc P (Build.current env) hw s
  unfold run
  rw [hcs]
  unfold newEncoder at hcs
  cases hp : parse cc P s with
  | ok pieces =>
    rw [hp] at hcs
    simp only [omap, Outcome.ok.injEq] at hcs
    subst hcs
    exact ⟨_, (C11_encode_no_panic env r pieces).1⟩
  | err e => rw [hp] at hcs; simp [omap] at hcs
  | panic w => rw [hp] at hcs; simp [omap] at hcs

/-- the statement over ALL builds, including the one before the repair of F4 (false) -/
def C11_encode_no_panic_all_builds : Prop :=
  ∀ (cc : CharClass) (P : Profile) (B : Build) (env : Env) (r : Record) (s : List Char) (w : String),
    B.renderOk = env.strftimeOk → run cc P B env r s ≠ .panic w

/-- F4 (historical): before commit 73e36b9 `{d(%Q)}` constructed fine and panicked at encode as
soon as chrono rejects `%Q`. -/
theorem C11_F4_witness_panics_unfixed (B : Build) (hB : B.dateCheck = false) (env : Env) (r : Record)
    (h : env.strftimeOk cs!"%Q" = false) :
    (run asciiClass Profile.debug64 B env r cs!"{d(%Q)}").isPanic = true := by
  have hp : parse asciiClass Profile.debug64 cs!"{d(%Q)}" = .ok [.arg ['d'] [[.text cs!"%Q"]] {}] := by rfl
  have hn : newEncoder asciiClass Profile.debug64 B cs!"{d(%Q)}" = .ok [.leaf (.time cs!"%Q" false) {}] := by
    simp only [newEncoder, hp, omap, compileL_cons, compileL_nil]
    rw [compile_dateName B _ (Or.inl rfl), dateChunk_noZone B [[.text cs!"%Q"]] {} (Nat.le_refl 1) (Or.inl hB)]
    rfl
  simp [run, hn, encList, encChunk, leafText, h, omap, Outcome.isPanic]

theorem C11_encode_no_panic_all_builds_false_unfixed : ¬ C11_encode_no_panic_all_builds := by
  intro hfull
  let B : Build := { renderOk := fun _ => false, dateCheck := false }
  let env : Env :=
    { strftimeOk := fun _ => false, dateText := fun _ _ => [], threadName := none,
      threadId := 0, pid := 0, mdc := [], debugBuild := true }
  let r : Record := { level := 3, message := [], target := [] }
  have hw := C11_F4_witness_panics_unfixed B rfl env r rfl
  cases hp : run asciiClass Profile.debug64 B env r cs!"{d(%Q)}" with
  | ok a => rw [hp] at hw; cases hw
  | err e => rw [hp] at hw; cases hw
  | panic w => exact hfull _ _ _ _ _ _ w rfl hp

/-- The intermediate repair 73e36b9 (historical, `itemsScan`): the `StrftimeItems` scan — no panic
given that chrono's item parser and renderer agree … -/
theorem C11_encode_no_panic_items_scan (B : Build) (hfix : B.dateCheck = true) (hs : B.itemsScan = true)
    (env : Env) (hr : ∀ fmt, B.itemsOk fmt = true → env.strftimeOk fmt = true)
    (r : Record) (pieces : List Piece) : ∀ w, encList env r (compileL B pieces) ≠ .panic w :=
  (C11_encode_no_panic_of_check B hfix env (fun f h => hr f (by simpa [Build.dateOk, hs] using h)) r pieces).2

/-- … which they do not on the parse-only `%#z`: it passes the scan and cannot be rendered, so
`{d(%#z)}` still panicked at encode (the residue closed by ea62e36). -/
theorem C11_items_scan_residue_panics_unfixed (B : Build) (hfix : B.dateCheck = true) (hs : B.itemsScan = true)
    (hi : B.itemsOk cs!"%#z" = true) (env : Env) (r : Record) (h : env.strftimeOk cs!"%#z" = false) :
    (run asciiClass Profile.debug64 B env r cs!"{d(%#z)}").isPanic = true := by
  have hp : parse asciiClass Profile.debug64 cs!"{d(%#z)}" = .ok [.arg ['d'] [[.text cs!"%#z"]] {}] := by rfl
  have hn : newEncoder asciiClass Profile.debug64 B cs!"{d(%#z)}" = .ok [.leaf (.time cs!"%#z" false) {}] := by
    have hok : B.dateOk cs!"%#z" = true := by simp only [Build.dateOk, hs, if_true, hi]
    simp only [newEncoder, hp, omap, compileL_cons, compileL_nil]
    rw [compile_dateName B _ (Or.inl rfl), dateChunk_noZone B [[.text cs!"%#z"]] {} (Nat.le_refl 1) (Or.inr hok)]
    rfl
  simp [run, hn, encList, encChunk, leafText, h, omap, Outcome.isPanic]

/-- With the trial rendering the same pattern is an error marker at construction. -/
theorem C11_invalid_date_format_witness (env : Env) (h : env.strftimeOk cs!"%#z" = false) :
    newEncoder asciiClass Profile.debug64 (Build.current env) cs!"x{d(%#z)}y" =
      .ok [.text ['x'], .error cs!"invalid date format `%#z`", .text ['y']] := by
  have hp : parse asciiClass Profile.debug64 cs!"x{d(%#z)}y" =
      .ok [.text ['x'], .arg ['d'] [[.text cs!"%#z"]] {}, .text ['y']] := by rfl
  simp only [newEncoder, hp, omap, compileL_cons, compileL_nil, compile_text]
  rw [compile_dateName _ _ (Or.inl rfl),
    dateChunk_bad (Build.current env) rfl [[.text cs!"%#z"]] {} (Nat.le_succ 1) h]
  rfl

/-- A top-level `Error` chunk between `pre` and `post`: the encode result is the rendering of
`pre`, then the marker `{ERROR: e}`, then the rendering of `post` — and it is `ok` exactly when
`pre` and `post` render (`seqOut` propagates a panic of either side). -/
theorem C11_error_surfaces (env : Env) (r : Record) (pre post : List Chunk) (e : List Char) :
    encList env r (pre ++ .error e :: post) =
      seqOut (encList env r pre) (seqOut (.ok (ofText (errorMarker e))) (encList env r post)) := by
  rw [encList_append, encList_cons]
  simp [encChunk]

/-- In particular, when it is `ok`, the text starts with the text of `pre` followed by
`{ERROR: ` e `}`. -/
theorem C11_error_surfaces_text (env : Env) (r : Record) (pre post : List Chunk) (e : List Char)
    (res : Out) (h : encList env r (pre ++ .error e :: post) = .ok res) :
    ∃ o o', encList env r pre = .ok o ∧ encList env r post = .ok o' ∧
      res.text = o.text ++ (cs!"{ERROR: " ++ e ++ ['}']) ++ o'.text := by
  rw [C11_error_surfaces] at h
  cases hpre : encList env r pre with
  | ok o =>
    cases hpost : encList env r post with
    | ok o' =>
      rw [hpre, hpost] at h
      simp only [seqOut, Outcome.ok.injEq] at h
      subst h
      refine ⟨o, o', rfl, rfl, ?_⟩
      simp [text_append, text_ofText, errorMarker, errOpen]
    | err x => rw [hpre, hpost] at h; simp [seqOut] at h
    | panic w => rw [hpre, hpost] at h; simp [seqOut] at h
  | err x => rw [hpre] at h; simp [seqOut] at h
  | panic w => rw [hpre] at h; simp [seqOut] at h

/-- Nested errors too: an `Error` chunk inside a group renders its marker through the group's
format spec like any other text. -/
theorem C11_error_surfaces_nested (env : Env) (r : Record) (e : List Char) (p : Params) :
    encChunk env r (.group .align [.error e] p) = .ok (codeFmtOps p (ofText (errorMarker e))) := by
  simp [encChunk, encList, omap]

/-! ## every class of malformation yields an `Error` piece / chunk -/

/-- a lone `}` -/
theorem C11_error_kinds_unmatched_close (cc : CharClass) (P : Profile) (r : List Char)
    (h : doubled '}' r = none) :
    next cc P ('}' :: r) = .ok (some (.error cs!"unmatched '}'")) r := by
  simp [next, nextAt, nextWith, h, eUnmatchedClose]

/-- a lone `(` outside a formatter -/
theorem C11_error_kinds_unexpected_open_paren (cc : CharClass) (P : Profile) (r : List Char)
    (h : doubled '(' r = none) :
    next cc P ('(' :: r) = .ok (some (.error cs!"unexpected '('")) r := by
  simp [next, nextAt, nextWith, h, eUnexpectedOpenParen]

/-- a lone `)` -/
theorem C11_error_kinds_unexpected_close_paren (cc : CharClass) (P : Profile) (r : List Char)
    (h : doubled ')' r = none) :
    next cc P (')' :: r) = .ok (some (.error cs!"unexpected ')'")) r := by
  simp [next, nextAt, nextWith, h, eUnexpectedCloseParen]

/-- a backslash not followed by one of the five special characters -/
theorem C11_error_kinds_unexpected_backslash (cc : CharClass) (P : Profile) (r : List Char)
    (h : ∀ d t, r = d :: t → isSpecial d = false) :
    next cc P ('\\' :: r) = .ok (some (.error cs!"unexpected '\\'")) r := by
  cases r with
  | nil => simp [next, nextAt, nextWith, eUnexpectedBackslash]
  | cons d t => simp [next, nextAt, nextWith, h d t rfl, eUnexpectedBackslash]

/-- a formatter that is not followed by `}`: the piece is replaced by the error and the rest of
the input is swallowed -/
theorem C11_error_kinds_expected_close (piece : Piece) (s : List Char) (h : ∀ t, s ≠ '}' :: t) :
    closeBrace piece s = .ok (some (.error cs!"expected '}'")) [] := by
  unfold closeBrace
  split
  · rename_i c r
    split
    · rename_i hc; subst hc; exact absurd rfl (h r)
    · rfl
  · rfl

/-- an unclosed `(` or an argument nested deeper than `MAX_DEPTH`: `arg()` fails only with nothing
left of the input — at its end with the text `unclosed '('`, or, at any nesting depth `d`, after
swallowing the rest with the text `nesting too deep` … -/
theorem C11_error_kinds_unclosed_paren (cc : CharClass) (P : Profile) (f d : Nat) (s : List Char)
    (acc : List Piece) (e r : List Char) (h : argBody cc P f d s acc = .fail e r) :
    (e = cs!"unclosed '('" ∨ e = cs!"nesting too deep") ∧ r = [] := (args_body_fail cc P f).2 d s acc e r h

/-- the limit itself (commit c25fac2): with `MAX_DEPTH` arguments open, one more `(` swallows the
rest of the input and `args()` fails with `nesting too deep`, whatever follows -/
theorem C11_error_kinds_nesting_too_deep (cc : CharClass) (P : Profile) (f : Nat) (r : List Char)
    (acc : List (List Piece)) :
    argsLoop cc P (f + 1) P.maxDepth ('(' :: r) acc = .fail cs!"nesting too deep" [] := by
  rw [argsLoop]; simp [eNestingTooDeep]

/-- … and since nothing is left, the `}` is missing too: what the user sees for an unclosed
parenthesis and for a pattern nested too deep is `{ERROR: expected '}'}` (neither the
`unclosed '('` nor the `nesting too deep` text ever reaches the output). -/
theorem C11_error_kinds_unclosed_paren_surfaces (cc : CharClass) (P : Profile)
    (F : List Char → PR (List (List Piece))) (r e : List Char)
    (h : F (name cc P r).2 = .fail e []) :
    argumentWith cc P F r = .ok (some (.error cs!"expected '}'")) [] := by
  simp [argumentWith, h, closeBrace, eExpectedClose]

/-- an explicit width that does not fit `usize` (repair of F3): the piece is the error, the rest
of the number is swallowed and parsing continues after it -/
theorem C11_error_kinds_width_too_large (P : Profile) (hfix : P.widthCheck = true) (c : Char)
    (r : List Char) (cur : Nat) (found : Bool) (hc : Str.isAsciiDigit c = true)
    (hbig : ¬ cur * 10 + Str.digitVal c < 2 ^ P.wordBits) :
    integerLoop P (c :: r) cur found = .fail cs!"width too large" (r.dropWhile Str.isAsciiDigit) := by
  simp [integerLoop, hc, hbig, hfix, eWidthTooLarge]

/-- … and `argument()` turns a failed `parameters()` into the error piece -/
theorem C11_error_kinds_width_too_large_surfaces (cc : CharClass) (P : Profile)
    (F : List Char → PR (List (List Piece))) (r r2 r3 e : List Char) (args : List (List Piece))
    (h : F (name cc P r).2 = .ok args r2) (hp : parameters P r2 = .fail e ('}' :: r3)) :
    argumentWith cc P F r = .ok (some (.error e)) r3 := by
  simp [argumentWith, h, hp, closeBrace]

/-- a date format chrono's item parser rejects (repair of F4): an error chunk at construction,
whatever the time zone argument says -/
theorem C11_error_kinds_invalid_date_format (B : Build) (hfix : B.dateCheck = true)
    (args : List (List Piece)) (p : Params) (hlen : args.length ≤ 2)
    (hbad : B.dateOk (dateFormatArg args) = false) :
    compile B (.arg ['d'] args p) = .error (cs!"invalid date format `" ++ dateFormatArg args ++ ['`']) ∧
    compile B (.arg cs!"date" args p) = .error (cs!"invalid date format `" ++ dateFormatArg args ++ ['`']) := by
  constructor
  · rw [compile_dateName B _ (Or.inl rfl), dateChunk_bad B hfix args p hlen hbad]; rfl
  · rw [compile_dateName B _ (Or.inr rfl), dateChunk_bad B hfix args p hlen hbad]; rfl

/-- unknown formatter name -/
theorem C11_error_kinds_unknown_formatter (B : Build) (n : List Char) (args : List (List Piece)) (p : Params)
    (h1 : n ≠ cs!"d") (h2 : n ≠ cs!"date") (h3 : groupOfName n = none) (h4 : leafOfName n = none)
    (h5 : n ≠ cs!"X") (h6 : n ≠ cs!"mdc") :
    compile B (.arg n args p) = .error (cs!"unknown formatter `" ++ n ++ ['`']) := by
  rw [compile_arg]; simp [h1, h2, h3, h4, h5, h6, eUnknownFormatter]

/-- arguments given to a formatter that takes none -/
theorem C11_error_kinds_unexpected_arguments (B : Build) (n : List Char) (k : Leaf) (a : List Piece)
    (args : List (List Piece)) (p : Params) (hk : leafOfName n = some k) :
    compile B (.arg n (a :: args) p) = .error cs!"unexpected arguments" := by
  rw [compile_leafOfName B n k hk]; rfl

/-- `h`, `D`, `R` and the unnamed formatter with a number of arguments other than one -/
theorem C11_error_kinds_exactly_one (B : Build) (n : List Char) (g : GroupKind) (args : List (List Piece))
    (p : Params) (hg : groupOfName n = some g) (hlen : args.length ≠ 1) :
    compile B (.arg n args p) = .error cs!"expected exactly one argument" := by
  rw [compile_groupOfName B n g hg]
  match args, hlen with
  | [], _ => rfl
  | [a], h => exact absurd rfl h
  | a :: b :: t, _ => rfl

/-- more than two arguments to `d` / `X` -/
theorem C11_error_kinds_at_most_two (B : Build) (a b c : List Piece) (args : List (List Piece)) (p : Params) :
    compile B (.arg ['d'] (a :: b :: c :: args) p) = .error cs!"expected at most two arguments" ∧
    compile B (.arg cs!"date" (a :: b :: c :: args) p) = .error cs!"expected at most two arguments" ∧
    compile B (.arg ['X'] (a :: b :: c :: args) p) = .error cs!"expected at most two arguments" ∧
    compile B (.arg cs!"mdc" (a :: b :: c :: args) p) = .error cs!"expected at most two arguments" := by
  refine ⟨?_, ?_, ?_, ?_⟩
  · rw [compile_dateName B _ (Or.inl rfl), dateChunk_many B (a :: b :: c :: args) p (Nat.le_add_left 3 args.length)]; rfl
  · rw [compile_dateName B _ (Or.inr rfl), dateChunk_many B (a :: b :: c :: args) p (Nat.le_add_left 3 args.length)]; rfl
  · rw [compile_mdcName B _ (Or.inl rfl), mdcChunk_many B (a :: b :: c :: args) p (Nat.le_add_left 3 args.length)]; rfl
  · rw [compile_mdcName B _ (Or.inr rfl), mdcChunk_many B (a :: b :: c :: args) p (Nat.le_add_left 3 args.length)]; rfl

/-- a time zone whose FIRST piece is text other than `utc` / `local` (the date format itself being
acceptable) — the code before commit 40f09cf (`tzWholeArg = false`) -/
theorem C11_error_kinds_bad_timezone (B : Build) (hB : B.tzWholeArg = false) (n : List Char)
    (hn : n = cs!"d" ∨ n = cs!"date") (fmt : List Piece) (z : List Char) (rest : List Piece)
    (p : Params) (hf : B.dateCheck = false ∨ B.dateOk (dateFormatOf fmt) = true)
    (h1 : z ≠ cs!"utc") (h2 : z ≠ cs!"local") :
    compile B (.arg n [fmt, .text z :: rest] p) = .error (cs!"invalid timezone `" ++ z ++ ['`']) := by
  rw [compile_dateName B n hn, dateChunk_zone B fmt _ p hf]
  simp [tzOf, hB, timezoneOf, h1, h2, eInvalidTimezoneNamed]

/-- an empty time zone argument, or one that does not START with text -/
theorem C11_error_kinds_invalid_timezone (B : Build) (hB : B.tzWholeArg = false) (n : List Char)
    (hn : n = cs!"d" ∨ n = cs!"date") (fmt : List Piece) (p : Params)
    (hf : B.dateCheck = false ∨ B.dateOk (dateFormatOf fmt) = true) :
    compile B (.arg n [fmt, []] p) = .error cs!"invalid timezone" ∧
    (∀ m a q rest, compile B (.arg n [fmt, .arg m a q :: rest] p) = .error cs!"invalid timezone") ∧
    (∀ e rest, compile B (.arg n [fmt, .error e :: rest] p) = .error cs!"invalid timezone") := by
  refine ⟨?_, ?_, ?_⟩ <;> intros <;>
    (rw [compile_dateName B n hn, dateChunk_zone B fmt _ p hf]
     simp [tzOf, hB, timezoneOf, eInvalidTimezone])

/-! ### FINDING `C11/timezone-junk-accepted` (repaired by commit 40f09cf): the zone argument was judged by its
first piece only -/

/-- the statement's clause "invalid time zones … are surfaced", at the level of `From<Piece>`: a
zone argument that is not — read whole — the text `utc` or `local` yields an error chunk -/
def C11_invalid_timezone_surfaces (B : Build) : Prop :=
  ∀ (n : List Char) (fmt z : List Piece) (p : Params), (n = cs!"d" ∨ n = cs!"date") →
    (B.dateCheck = false ∨ B.dateOk (dateFormatOf fmt) = true) → zoneArgValid z = false →
    ∃ e, compile B (.arg n [fmt, z] p) = .error e

/-- FALSE before the repair (`tzWholeArg = false`): `(utc}x)` — pieces `utc`, the syntax error `unmatched '}'`, `x` — is
accepted as `utc`, the error piece was dropped. -/
theorem C11_invalid_timezone_surfaces_false (B : Build) (hB : B.tzWholeArg = false)
    (hf : B.dateCheck = false ∨ B.dateOk cs!"%Y" = true) : ¬ C11_invalid_timezone_surfaces B := by
  intro h
  obtain ⟨e, he⟩ := h ['d'] [.text cs!"%Y"] [.text cs!"utc", .error cs!"unmatched '}'", .text ['x']] {}
    (Or.inl rfl) (by simpa [dateFormatOf] using hf) (by decide)
  rw [compile_dateName B _ (Or.inl rfl), dateChunk_zone B _ _ _ (by simpa [dateFormatOf] using hf)] at he
  simp [tzOf, hB, timezoneOf] at he

/-- … end to end: `{d(%Y)(utc}x)}` constructs a plain UTC date chunk, no marker anywhere. -/
theorem C11_timezone_junk_witness (B : Build) (hB : B.tzWholeArg = false) (hs : B.itemsScan = false)
    (h : B.renderOk cs!"%Y" = true) :
    newEncoder asciiClass Profile.debug64 B cs!"{d(%Y)(utc}x)}" = .ok [.leaf (.time cs!"%Y" true) {}] := by
  have hp : parse asciiClass Profile.debug64 cs!"{d(%Y)(utc}x)}" =
      .ok [.arg ['d'] [[.text cs!"%Y"], [.text cs!"utc", .error cs!"unmatched '}'", .text ['x']]] {}] := by rfl
  simp only [newEncoder, hp, omap, compileL_cons, compileL_nil]
  rw [compile_dateName B _ (Or.inl rfl),
    dateChunk_zone B _ _ _ (Or.inr (by simp [dateFormatOf, Build.dateOk, hs, h]))]
  simp [tzOf, hB, timezoneOf, dateFormatOf]

/-- PARTIAL (before the repair): the clause holds when the FIRST piece of the argument already is not
the text `utc` / `local`. -/
theorem C11_invalid_timezone_surfaces_partial (B : Build) (hB : B.tzWholeArg = false) (n : List Char)
    (hn : n = cs!"d" ∨ n = cs!"date") (fmt z : List Piece) (p : Params)
    (hf : B.dateCheck = false ∨ B.dateOk (dateFormatOf fmt) = true)
    (h1 : ∀ rest, z ≠ .text cs!"utc" :: rest) (h2 : ∀ rest, z ≠ .text cs!"local" :: rest) :
    ∃ e, compile B (.arg n [fmt, z] p) = .error e := by
  rw [compile_dateName B n hn, dateChunk_zone B fmt z p hf]
  cases z with
  | nil => exact ⟨eInvalidTimezone, by simp [tzOf, hB, timezoneOf]⟩
  | cons q rest =>
    cases q with
    | text t =>
      have ht1 : t ≠ cs!"utc" := fun h => h1 rest (by rw [h])
      have ht2 : t ≠ cs!"local" := fun h => h2 rest (by rw [h])
      exact ⟨eInvalidTimezoneNamed t, by simp [tzOf, hB, timezoneOf, ht1, ht2]⟩
    | arg m a q' => exact ⟨eInvalidTimezone, by simp [tzOf, hB, timezoneOf]⟩
    | error e => exact ⟨eInvalidTimezone, by simp [tzOf, hB, timezoneOf]⟩

/-- With the repair (`tzWholeArg`: the argument read whole through `plain_text`) the clause
holds in full; a syntax error inside the argument surfaces as itself. -/
theorem C11_invalid_timezone_surfaces_repaired (B : Build) (hB : B.tzWholeArg = true) :
    C11_invalid_timezone_surfaces B := by
  intro n fmt z p hn hf hz
  rw [compile_dateName B n hn, dateChunk_zone B fmt z p hf]
  unfold zoneArgValid at hz
  simp only [tzOf, hB, if_true, timezoneOfWhole]
  cases hpt : plainTextOf eInvalidTimezone z with
  | error e => exact ⟨e, rfl⟩
  | ok t =>
    rw [hpt] at hz
    simp only [Bool.or_eq_false_iff, decide_eq_false_iff_not] at hz
    exact ⟨eInvalidTimezoneNamed t, by simp [hz.1, hz.2]⟩

/-- MDC without a key, with a formatter inside the key, or with a syntax error inside the key
(repaired `plain_text`: anywhere in the argument); an EMPTY key was `invalid MDC key` before the
repair of `C09/mdc-empty-argument` (`mdcEmptyOk = false`) and is the empty string since -/
theorem C11_error_kinds_mdc_key (B : Build) (hfix : B.mdcWhole = true) (p : Params) :
    compile B (.arg ['X'] [] p) = .error cs!"missing MDC key" ∧
    (B.mdcEmptyOk = false → compile B (.arg ['X'] [[]] p) = .error cs!"invalid MDC key") ∧
    (B.mdcEmptyOk = true → compile B (.arg ['X'] [[]] p) = .leaf (.mdc [] []) p) ∧
    (∀ t n a q more, compile B (.arg ['X'] [.text t :: .arg n a q :: more] p) = .error cs!"invalid MDC key") ∧
    (∀ t e more, compile B (.arg ['X'] [.text t :: .error e :: more] p) = .error e) := by
  have hc : ∀ args, compile B (.arg ['X'] args p) = mdcChunk B args p :=
    fun args => compile_mdcName B _ (Or.inl rfl) args p
  refine ⟨?_, ?_, ?_, ?_, ?_⟩
  · rw [hc, mdcChunk_nil]; rfl
  · intro hE; rw [hc, mdcChunk_one, mdcArg_nil B hfix, hE]; rfl
  · intro hE; rw [hc, mdcChunk_one, mdcArg_nil B hfix, hE]; rfl
  · intro t n a q more; rw [hc, mdcChunk_one, mdcArg_cons B hfix]; rfl
  · intro t e more; rw [hc, mdcChunk_one, mdcArg_cons B hfix]; rfl

/-- MDC with a formatter inside the default; an EMPTY default was `invalid MDC default` before the
repair of `C09/mdc-empty-argument` and is the empty string since -/
theorem C11_error_kinds_mdc_default (B : Build) (hfix : B.mdcWhole = true) (k : List Char) (p : Params) :
    (B.mdcEmptyOk = false → compile B (.arg ['X'] [[.text k], []] p) = .error cs!"invalid MDC default") ∧
    (B.mdcEmptyOk = true → compile B (.arg ['X'] [[.text k], []] p) = .leaf (.mdc k []) p) ∧
    (∀ n a q rest, compile B (.arg ['X'] [[.text k], .arg n a q :: rest] p) =
      .error cs!"invalid MDC default") := by
  have hc : ∀ d, compile B (.arg ['X'] [[.text k], d] p) =
      match mdcArg B eInvalidMdcDefault d with
      | .error e => .error e
      | .ok dflt => .leaf (.mdc k dflt) p := by
    intro d
    rw [compile_mdcName B _ (Or.inl rfl), mdcChunk_two, mdcArg_cons B hfix]
    simp only [plainTextLoop, List.append_nil]
    cases mdcArg B eInvalidMdcDefault d <;> rfl
  refine ⟨?_, ?_, ?_⟩
  · intro hE; rw [hc, mdcArg_nil B hfix, hE]; rfl
  · intro hE; rw [hc, mdcArg_nil B hfix, hE]; rfl
  · intro n a q rest; rw [hc, mdcArg_cons B hfix]; rfl

/-! ## examples (tests on samples, and non-vacuity of the hypotheses) -/

/-- the hypothesis of the historical partial theorem -/
example : digitRunsFit Profile.unfixed64 cs!"{d(%Y-%m-%d)} {l:>5.10} {m}{n}" = true := by decide +kernel
example : digitRunsFit Profile.unfixed64 cs!"{m:18446744073709551615}" = true := by decide +kernel
example : digitRunsFit Profile.unfixed64 cs!"{m:18446744073709551616}" = false := by decide +kernel

def exampleBuild : Build := { renderOk := fun f => f != cs!"%Q" }

/-- end-to-end samples of the error classes (tests): text before the error is kept -/
example : parse asciiClass Profile.debug64 cs!"a}b" =
    .ok [.text ['a'], .error cs!"unmatched '}'", .text ['b']] := by rfl
example : parse asciiClass Profile.debug64 cs!"a{m" = .ok [.text ['a'], .error cs!"expected '}'"] := by rfl
example : parse asciiClass Profile.debug64 cs!"{l}{m(x}tail" =
    .ok [.arg ['l'] [] {}, .error cs!"expected '}'"] := by rfl
example : newEncoder asciiClass Profile.debug64 exampleBuild cs!"{x}" =
    .ok [.error cs!"unknown formatter `x`"] := by rfl
example : newEncoder asciiClass Profile.debug64 exampleBuild cs!"{d(%Y)(cet)}" =
    .ok [.error cs!"invalid timezone `cet`"] := by rfl
example : newEncoder asciiClass Profile.debug64 exampleBuild cs!"{d(%Q)(cet)}" =
    .ok [.error cs!"invalid date format `%Q`"] := by rfl
example : newEncoder asciiClass Profile.debug64 exampleBuild cs!"{h(a)(b)}" =
    .ok [.error cs!"expected exactly one argument"] := by rfl
example : newEncoder asciiClass Profile.debug64 exampleBuild cs!"{m:.99999999999999999999}" =
    .ok [.error cs!"width too large"] := by rfl

end Log4rs.Pattern.Parse
