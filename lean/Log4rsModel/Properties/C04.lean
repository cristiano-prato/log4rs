import Log4rsModel.Rolling.LemmasConc
/-
C04 — File appender: acknowledged records are visible, whole, ordered, not interleaved.
Model: `Rolling/BufWriter.lean` (std BufWriter, capacity 1024), `Rolling/File.lean`
(FileAppender, sequential histories, the lock machine). Specification: `Rolling/Spec.lean`.

Assumption of the concurrent part, stated once: `parking_lot::Mutex` gives mutual exclusion and
the guard spans encode + flush as in `FileAppender::append` (that is how `stepThread` is
written). A guard narrowed in the code is not visible to these theorems; it is looked for by the
harness's multi-thread exploration with the critical-section amplifier.
-/
namespace Log4rs.Rolling
open FileAppender

/-- Once `append` has returned, the complete encoded record is on disk behind what was there and
nothing is left in the buffer — for every chunking the encoder may use (no slice, empty slices,
1023/1024/1025-byte slices, many slices; since 9f38f0b the record reaches the BufWriter as one
slice, `C04_append_visible_unfixed` is the same fact for the slice-by-slice code before it). -/
theorem C04_append_visible (w : BufFile) (r : Rec) (hq : w.buf = []) :
    (append w r).disk = w.disk ++ encBytes r ∧ (append w r).buf = [] := by
  simp [append_disk, hq]

/-- the same for the code before 9f38f0b, where every slice of the encoder went through the spill
rule on its own -/
theorem C04_append_visible_unfixed (w : BufFile) (r : Rec) (hq : w.buf = []) :
    (encodeUnfixed w r).flush.disk = w.disk ++ encBytes r ∧ (encodeUnfixed w r).flush.buf = [] := by
  have := BufFile.logical_foldl_writeAll r w
  simp only [BufFile.logical] at this
  simp [encodeUnfixed, encBytes, this, hq]

/-- Only the bytes matter: two chunkings of the same record leave the same file. -/
theorem C04_chunking_irrelevant (w : BufFile) (r₁ r₂ : Rec) (hq : w.buf = [])
    (h : encBytes r₁ = encBytes r₂) : append w r₁ = append w r₂ := by
  have h1 := C04_append_visible w r₁ hq
  have h2 := C04_append_visible w r₂ hq
  cases h₁ : append w r₁; cases h₂ : append w r₂
  simp_all

/-- After any sequence of appends the file is exactly what open left there followed by the whole
records in call order. -/
theorem C04_history_concat (m : OpenMode) (pre : Option Bytes) (rs : List Rec) :
    (runOps m (build m pre) (rs.map Op.append)).disk = openContent m pre ++ rs.flatMap encBytes ∧
    (runOps m (build m pre) (rs.map Op.append)).buf = [] :=
  runOps_appends m rs (build m pre) rfl

/-- Observed after every single call, for every history of appends and restarts in both modes:
what another reader sees is what the statement says (`Spec.expectedTrace`): append mode keeps
everything ahead of the new records, truncate mode discards at open time only. -/
theorem C04_trace_eq_spec (m : OpenMode) (pre : Option Bytes) (ops : List Op) :
    trace m (build m pre) ops = Spec.expectedTrace m pre ops :=
  trace_eq_fileTrace m ops (build m pre) rfl

theorem C04_open_modes (c : Bytes) :
    openContent .append (some c) = c ∧ openContent .append none = [] ∧
    (∀ pre, openContent .truncate pre = []) := ⟨rfl, rfl, fun _ => rfl⟩


/-- Several handles, failing encoders, external truncation — the repaired crate, BOTH open modes.
For every history of appends through any number of `FileAppender`s on the same path, encoders that
fail after any number of slices, foreign `O_APPEND` writes between them, external truncations of the
file to length 0, further appenders being built, and restarts: after every single operation the file
is the plain concatenation, in call order, of what the last open/truncation left, the whole
acknowledged records and the foreign appends since — nothing acknowledged or foreign is overwritten or
cut, no hole appears, and a failed append leaves no trace. Every descriptor `build` opens has
`O_APPEND` (`truncateUsesAppendFlag = true`: since the repair truncate mode opens with `append(true)`
and truncates explicitly), so the kernel puts every write at the current end of the file — that
placement is the modelled assumption, the per-descriptor offset of a handle without the flag is
modelled too (`Handles.commit`, `writeAt`) and is what makes the unrepaired variant fail below. -/
theorem C04_multi_trace_eq_spec (m : OpenMode) (pre : Option Bytes) (ops : List MOp)
    (hv : validOps 1 ops = true) :
    Handles.traceV true m (Handles.init m pre true) ops = Spec.expectedTraceM m pre ops :=
  Handles.traceV_eq_fileTraceM true m (Or.inr rfl) ops _ (Handles.init_quiet m pre true)
    (Handles.init_allAppend m pre true (Or.inr rfl)) hv

/-- the model the driver runs against the crate (`Handles.trace`, default flags) is that repaired
variant, so the same holds of it: all modes, full strength -/
theorem C04_multi_trace_eq_spec_default (m : OpenMode) (pre : Option Bytes) (ops : List MOp)
    (hv : validOps 1 ops = true) :
    Handles.trace m (Handles.init m pre) ops = Spec.expectedTraceM m pre ops := by
  rw [Handles.trace_eq_traceV]
  exact C04_multi_trace_eq_spec m pre ops hv

/-- The crate before the repair (`truncateUsesAppendFlag = false`): the same statement restricted,
visibly, to append mode — the only mode in which its descriptors had `O_APPEND`. -/
theorem C04_multi_trace_eq_spec_unfixed_partial (pre : Option Bytes) (ops : List MOp)
    (hv : validOps 1 ops = true) :
    Handles.traceV false .append (Handles.init .append pre false) ops = Spec.expectedTraceM .append pre ops :=
  Handles.traceV_eq_fileTraceM false .append (Or.inl rfl) ops _ (Handles.init_quiet .append pre false)
    (Handles.init_allAppend .append pre false (Or.inl rfl)) hv

/-- … and the full statement is FALSE of the crate before the repair (former finding
`C04/seq-truncate-private-offset`): a truncate-mode appender acknowledges `[1,2,3]`, the file is
truncated from outside, the appender acknowledges `[4]` — which lands at the stale offset 3 behind a
hole of three NUL bytes instead of being the file. -/
theorem C04_truncate_private_offset_unfixed :
    ¬ (∀ (m : OpenMode) (pre : Option Bytes) (ops : List MOp), validOps 1 ops = true →
        Handles.traceV false m (Handles.init m pre false) ops = Spec.expectedTraceM m pre ops) := by
  intro h
  have := h .truncate none [.append 0 [[1, 2, 3]] none, .truncate, .append 0 [[4]] none] (by decide)
  revert this
  decide

/-- the other faces of the same defect, as tests on samples of the unrepaired variant: a second
truncate-mode appender (configuration reload overlap) — the older appender's next record `[3]`
overwrites the second byte of the newer one's acknowledged `[2,2]`; a foreign `>>` append `[7,7]` is
overwritten by the appender's next record `[5]`. The repaired variant keeps everything. -/
theorem C04_truncate_private_offset_overwrites_unfixed :
    Handles.traceV false .truncate (Handles.init .truncate none false)
      [.append 0 [[1]] none, .build, .append 1 [[2, 2]] none, .append 0 [[3]] none] = [[1], [], [2, 2], [2, 3]] ∧
    Handles.traceV true .truncate (Handles.init .truncate none true)
      [.append 0 [[1]] none, .build, .append 1 [[2, 2]] none, .append 0 [[3]] none] = [[1], [], [2, 2], [2, 2, 3]] ∧
    Handles.traceV false .truncate (Handles.init .truncate none false)
      [.append 0 [[1]] none, .foreign [7, 7], .append 0 [[5]] none] = [[1], [1, 7, 7], [1, 5, 7]] ∧
    Handles.traceV true .truncate (Handles.init .truncate none true)
      [.append 0 [[1]] none, .foreign [7, 7], .append 0 [[5]] none] = [[1], [1, 7, 7], [1, 7, 7, 5]] := by
  decide

/-- The former defect (`C04/seq-encoder-error-torn`, repaired by 9f38f0b), as a test on a sample of
the historical semantics `traceUnfixed`: an encoder that failed after its first slice left that
slice in the BufWriter, and the appender's next record carried it into the file — `[1]` of the
failed record `[1][2]` in front of `[3]`. -/
theorem C04_encoder_error_tears_unfixed (m : OpenMode) :
    Handles.traceUnfixed m (Handles.init m none) [.append 0 [[1], [2]] (some 1), .append 0 [[3]] none] = [[], [1, 3]] ∧
    Handles.trace m (Handles.init m none) [.append 0 [[1], [2]] (some 1), .append 0 [[3]] none] = [[], [3]] := by
  cases m <;> decide

/-- Every state any scheduler can reach from the start of `progs` (the per-thread lists of
appends) satisfies:
* lock free ⇒ nothing is buffered and the file is `initial ++` the committed records, whole, in
  commit order;
* the commit log is a merge of the threads' sequences: restricted to thread `j` it is exactly what
  `j` has had acknowledged (plus the record `j` has flushed but not yet returned from), every entry
  belongs to a thread, and what a thread has acknowledged is a prefix of its program — so nothing is
  lost, duplicated or reordered;
* lock held by thread `h` ⇒ `h` is inside `append` for the record `r` at the head of its remaining
  program, and the file is the committed whole records followed by a prefix of THAT record's bytes
  (while `h` is writing `r`), or exactly the committed records, `r` being the last of them (once `h`
  has flushed) — never a mixture, never bytes of another thread's record. -/
theorem C04_schedule_serial (m : OpenMode) (pre : Option Bytes) (progs : List (List Rec)) (sched : List Nat) :
    let s := runSched (CState.init m pre progs) sched
    (s.holder = none → s.w.buf = [] ∧ s.w.disk = openContent m pre ++ s.committed) ∧
    (∀ j t, s.threads[j]? = some t →
        ∃ p, progs[j]? = some p ∧ t.acked <+: p ∧
          (s.logOf j = t.acked ∨ ∃ r, t.pc = .flushed r ∧ s.logOf j = t.acked ++ [r])) ∧
    (∀ e ∈ s.log, e.1 < progs.length) ∧
    (∀ h, s.holder = some h → ∃ t r tl, s.threads[h]? = some t ∧ t.todo = r :: tl ∧
        ((∃ dn rest q, t.pc = .writing r dn rest ∧ q <+: encBytes r ∧
            s.w.disk = openContent m pre ++ s.committed ++ q) ∨
         (t.pc = .flushed r ∧ s.w.disk = openContent m pre ++ s.committed))) := by
  intro s
  have inv : CInv progs (openContent m pre) s := (CInv.init m pre progs).run sched
  have rng : LogRange progs.length s := (LogRange.init m pre progs).run sched
  refine ⟨?_, ?_, rng.2, ?_⟩
  · intro hh
    have lk := inv.lockOk
    simp only [LockOk, hh] at lk
    exact ⟨lk.2.1, lk.2.2⟩
  · intro j t ht
    obtain ⟨⟨p, hp1, hp2⟩, hl⟩ := inv.threadsOk j t ht
    refine ⟨p, hp1, ⟨t.todo, hp2⟩, ?_⟩
    cases hpc : t.pc with
    | idle => simp only [hpc] at hl; exact Or.inl hl
    | writing r dn rest => simp only [hpc] at hl; exact Or.inl hl.1
    | flushed r => simp only [hpc] at hl; exact Or.inr ⟨r, rfl, hl.1⟩
  · intro h hh
    have lk := inv.lockOk
    simp only [LockOk, hh] at lk
    obtain ⟨t, ht, _, hbody⟩ := lk
    obtain ⟨_, hl⟩ := inv.threadsOk h t ht
    cases hpc : t.pc with
    | idle => simp [hpc] at hbody
    | writing r dn rest =>
      simp only [hpc] at hbody hl
      obtain ⟨q, hq1, hq2⟩ := hbody
      obtain ⟨tl, htl⟩ := hl.2.1
      refine ⟨t, r, tl, ht, htl, Or.inl ⟨dn, rest, q, hpc, ?_, hq1⟩⟩
      refine ⟨s.w.buf ++ rest.flatten, ?_⟩
      have hfl : encBytes r = (dn ++ rest).flatten := by rw [← hl.2.2]; simp
      rw [← List.append_assoc, hq2, hfl]
      simp
    | flushed r =>
      simp only [hpc] at hbody hl
      obtain ⟨tl, htl⟩ := hl.2
      exact ⟨t, r, tl, ht, htl, Or.inr ⟨hpc, hbody.2⟩⟩

/-- In particular: when all threads have finished, the file is `initial ++` a merge of all the
threads' programs, each thread's records in its own order. -/
theorem C04_quiescent_all_done (m : OpenMode) (pre : Option Bytes) (progs : List (List Rec)) (sched : List Nat)
    (hdone : ∀ (j : Nat) (t : Thread), (runSched (CState.init m pre progs) sched).threads[j]? = some t →
      t.todo = [] ∧ t.pc = Pc.idle) :
    let s := runSched (CState.init m pre progs) sched
    s.w.disk = openContent m pre ++ s.committed ∧ ∀ j p, progs[j]? = some p → s.logOf j = p := by
  intro s
  have inv : CInv progs (openContent m pre) s := (CInv.init m pre progs).run sched
  have rng : LogRange progs.length s := (LogRange.init m pre progs).run sched
  have hfree : s.holder = none := by
    cases hh : s.holder with
    | none => rfl
    | some h =>
      have lk := inv.lockOk
      simp only [LockOk, hh] at lk
      obtain ⟨t, ht, _, hbody⟩ := lk
      have := (hdone h t ht).2
      simp [this] at hbody
  have lk := inv.lockOk
  simp only [LockOk, hfree] at lk
  refine ⟨lk.2.2, ?_⟩
  intro j p hp
  have hj : j < s.threads.length := by
    rw [rng.1]
    exact (List.getElem?_eq_some_iff.mp hp).1
  have ht : s.threads[j]? = some s.threads[j] := List.getElem?_eq_getElem hj
  obtain ⟨⟨p', hp1, hp2⟩, hl⟩ := inv.threadsOk j _ ht
  have hd := hdone j _ ht
  rw [hp] at hp1
  have : p' = p := (Option.some.inj hp1).symm
  subst this
  simp only [hd.2] at hl
  rw [hd.1] at hp2
  simpa [CState.logOf, hl] using hp2

/-! ### non-vacuity (tests on samples, not proofs of the property) -/

/-- two appenders on one path and a foreign writer in between: everything is kept, in call order -/
example :
    Handles.trace .append (Handles.init .append (some [0]))
      [.append 0 [[1]] none, .build, .append 0 [[2]] none, .foreign [7, 7], .append 1 [[3]] none, .append 0 [[4]] none]
      = [[0, 1], [0, 1], [0, 1, 2], [0, 1, 2, 7, 7], [0, 1, 2, 7, 7, 3], [0, 1, 2, 7, 7, 3, 4]] := by
  decide

/-- every branch of the spill rule is reachable (slice-by-slice code): fill exactly, spill, write-through -/
example : (encodeUnfixed (build .append (some [1, 2])) [List.replicate 1000 7, List.replicate 24 8, [9]]).flush.disk.length = 1027 := by
  rw [(C04_append_visible_unfixed _ _ rfl).1]
  simp only [build_disk, openContent, Option.getD, encBytes, List.flatten_cons, List.flatten_nil, List.length_append,
    List.length_replicate, List.length_cons, List.length_nil]

/-- a record larger than the buffer is written through in one piece -/
example : (append (build .append (some [1, 2])) [List.replicate 1000 7, List.replicate 24 8, [9]]).disk.length = 1027 := by
  rw [(C04_append_visible _ _ rfl).1]
  simp only [build_disk, openContent, Option.getD, encBytes, List.flatten_cons, List.flatten_nil, List.length_append,
    List.length_replicate, List.length_cons, List.length_nil]

/-- two threads, records of 1500 and 3 bytes; the scheduler switches to thread 1 while thread 0
is inside the critical section (thread 1's picks are skipped: it is blocked on the lock) -/
example :
    let s := runSched (CState.init .truncate none [[[List.replicate 1500 1]], [[[2, 2, 2]]]]) [0, 1, 0, 1, 1, 0, 1, 0, 1, 1, 1, 1]
    s.holder = none ∧ s.w.disk = List.replicate 1500 1 ++ [2, 2, 2] ∧ s.log.map (·.1) = [0, 1] := by
  decide +kernel

/-- the same programs under another schedule commit in the other order -/
example :
    let s := runSched (CState.init .truncate none [[[List.replicate 1500 1]], [[[2, 2, 2]]]]) [1, 0, 1, 0, 1, 1, 0, 0, 0, 0]
    s.holder = none ∧ s.w.disk = [2, 2, 2] ++ List.replicate 1500 1 ∧ s.log.map (·.1) = [1, 0] := by
  decide +kernel

end Log4rs.Rolling
