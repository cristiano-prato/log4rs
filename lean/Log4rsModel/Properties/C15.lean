import Log4rsModel.Reconfig.LemmasSwap
import Log4rsModel.Reconfig.LemmasReloader
import Log4rsModel.Reconfig.LemmasFacade
import Log4rsModel.Reconfig.LemmasSpecTrace
/-
C15 — Runtime reconfiguration is atomic; the file reloader keeps the last good config.
Only property theorems and non-vacuity examples live here; helpers are in Reconfig/Lemmas*.lean.
Every `C15_*` theorem is about the code as it is now (model flags `codeFixed`,
`setConfigSerialised`, `initStatsBeforeRead` all true) or about the current executable Spec;
`Hist_C15_*` theorems are about the variants before the three fixes and are not counted.

Part (a) is about the machine of Reconfig/Swap.lean: any number of `log` calls stepping in any
order against one store holding ONE snapshot (tree + appender table), with `set_config` swaps
anywhere in between, including inside a delivery (`LoadMode.once` is the code), and about
Reconfig/Facade.lean: `set_config` as two writes under a lock, records gated by the facade.
Part (b) is about `runOnce` of Reconfig/Reloader.lean, the mirror of `ConfigReloader::run_once`.
-/
namespace Log4rs.Reconfig

/-- `SharedLogger::new` turns appender names into indices of the table it builds in the same
value: every snapshot is well-formed by construction, for every configuration -/
theorem C15_snapshot_wellformed (c : MiniCfg) : (mkSnapshot c).WF := by
  intro t i hi
  simp only [mkSnapshot] at hi ⊢
  rw [List.mem_filterMap] at hi
  obtain ⟨a, _, ha⟩ := hi
  exact nameIdx_lt ha

/-- `SharedLogger::new` with its panic (`appender_map[name]` on an unknown name) made explicit:
whenever it returns, the snapshot is well-formed; on every configuration `Config::build` can
produce (`c.valid`) it does return, and it returns `mkSnapshot c`; and it panics exactly on a
configuration that names an appender missing from the table — nothing is silently dropped -/
theorem C15_snapshot_construction (c : MiniCfg) :
    (∀ s, mkSnapshotO c = .ok s → s.WF) ∧
    (c.valid = true → mkSnapshotO c = .ok (mkSnapshot c)) ∧
    (mkSnapshotO c ≠ .ok (mkSnapshot c) → ∃ why, mkSnapshotO c = .panic why) := by
  refine ⟨?_, ?_, ?_⟩
  · intro s hs
    unfold mkSnapshotO at hs
    split at hs
    · cases hs; exact C15_snapshot_wellformed c
    · cases hs
  · intro hv
    simp only [MiniCfg.valid, Bool.and_eq_true] at hv
    unfold mkSnapshotO
    rw [if_pos]
    rw [Bool.and_eq_true]
    exact ⟨hv.1.1.2, hv.1.2⟩
  · intro h
    unfold mkSnapshotO at h ⊢
    split
    · rename_i hc; rw [if_pos hc] at h; exact absurd rfl h
    · exact ⟨_, rfl⟩

/-- … and resolving those indices in the snapshot's own table gives back exactly the configured
appenders (tagged with the snapshot), or nothing when the level gate is closed -/
theorem C15_snapshot_prescribes_names (c : MiniCfg) (hv : c.valid = true) (t : Target) (l : Level) :
    prescribed (mkSnapshot c) t l =
      if (c.effective t).1 ≥ l then (c.effective t).2.map (fun n => (c.tag, n)) else [] := by
  simp only [prescribed, mkSnapshot, Snapshot.route]
  split
  · rename_i h
    simp only [h, if_true]
    exact resolve_names c.tag c.table _ _ _ (c.effective_mem hv t)
  · rename_i h
    simp only [h, if_false]
    rfl

/-- (a) Atomicity, for every interleaving. Start from any consistent system state, let any list of
events happen — steps of any number of concurrent or nested `log` calls, in any order, with any
number of `set_config` swaps at any position, including between "enter `append`" and "return from
`append`" of a delivery (the re-entrant case). Then for every `log` call:
* it has not panicked;
* the deliveries it has made *so far* are a prefix of what the one snapshot it loaded prescribes;
* once it has finished, its deliveries are exactly what that one snapshot prescribes —
  entirely one configuration, never a mixture. -/
theorem C15_snapshot_atomic (sys : Sys) (hsys : sys.Inv) (evs : List Event) (hev : ∀ e ∈ evs, e.WF) :
    ∀ th ∈ (sys.run .once evs).threads,
      th.isPanicked = false ∧
      (∀ s, th.atLoad = some s → ∃ rest, th.out ++ rest = prescribed s th.target th.level) ∧
      (th.isDone = true → ∃ s, th.atLoad = some s ∧ th.out = prescribed s th.target th.level) := by
  intro th hth
  have hinv := (Sys.run_inv sys hsys evs hev).2 th hth
  refine ⟨hinv.not_panicked, fun s hs => (hinv.pre hs).2, fun hd => ?_⟩
  obtain ⟨s, h1, _, h2⟩ := hinv.of_done hd
  exact ⟨s, h1, h2⟩

/-- the ghost field `atLoad` means what it says: the step a call takes from `init` is the `load`,
and it records the value the store holds at that very moment -/
theorem C15_load_reads_store (mode : LoadMode) (store : Snapshot) (tid : Nat) (th : Thread)
    (h : th.atLoad = none) (s : Snapshot) (hs : (th.step mode store tid).1.atLoad = some s) :
    s = store := by
  obtain ⟨_, _, hat, _⟩ := Thread.step_cases mode store tid th
  rcases hat with hat | ⟨_, hat⟩
  · rw [hat, h] at hs; cases hs
  · rw [hat] at hs; exact (Option.some.inj hs).symm

/-- general form: a call ends up routed under the snapshot the store held when it was spawned or
under one stored later -/
theorem C15_routed_under_loaded (sys : Sys) (hsys : sys.Inv)
    (t : Target) (l : Level) (evs : List Event) (hev : ∀ e ∈ evs, e.WF) :
    let sys1 := sys.apply .once (.spawn t l)
    ∀ th, (sys1.run .once evs).threads[sys.threads.length]? = some th → th.isDone = true →
      ∃ s, (s = sys.store ∨ Event.swap s ∈ evs) ∧ th.out = prescribed s t l := by
  intro sys1 th hth hdone
  -- along the run the call keeps its target and level, and whatever it loads is the store of
  -- that moment: the initial one or one stored by a later swap
  obtain ⟨th', hth', htl, hat⟩ := Sys.run_thread .once sys.threads.length
    (fun s => s = sys.store ∨ Event.swap s ∈ evs)
    (fun th => (th.target = t ∧ th.level = l) ∧ ∀ s, th.atLoad = some s → s = sys.store ∨ Event.swap s ∈ evs)
    (fun th store hP hI => by
      obtain ⟨h1, h2, h3, _⟩ := Thread.step_cases .once store sys.threads.length th
      refine ⟨⟨h1.trans hI.1.1, h2.trans hI.1.2⟩, fun s hs => ?_⟩
      rcases h3 with h3 | ⟨_, h3⟩
      · exact hI.2 s (h3 ▸ hs)
      · rw [h3] at hs; cases hs; exact hP)
    evs sys1 { target := t, level := l } (Or.inl rfl) (fun s hs => Or.inr hs)
    (by simp [sys1, Sys.apply]) ⟨⟨rfl, rfl⟩, nofun⟩
  rw [hth] at hth'; cases hth'
  have hinv1 : sys1.Inv := Sys.apply_inv sys hsys (.spawn t l) trivial
  have hinv := (Sys.run_inv sys1 hinv1 evs hev).2 th (List.mem_of_getElem? hth)
  obtain ⟨s, h1, _, h2⟩ := hinv.of_done hdone
  exact ⟨s, hat s h1, by rw [h2, htl.1, htl.2]⟩

theorem C15_after_swap_new (sys : Sys) (hsys : sys.Inv) (new : Snapshot) (hnew : new.WF)
    (t : Target) (l : Level) (evs : List Event) (hev : ∀ e ∈ evs, e.WF) :
    let sys1 := (sys.apply .once (.swap new)).apply .once (.spawn t l)
    ∀ th, (sys1.run .once evs).threads[sys.threads.length]? = some th → th.isDone = true →
      ∃ s, (s = new ∨ Event.swap s ∈ evs) ∧ th.out = prescribed s t l := by
  intro sys1 th hth hdone
  exact C15_routed_under_loaded (sys.apply .once (.swap new)) (Sys.apply_inv sys hsys (.swap new) hnew)
    t l evs hev th hth hdone

/-- … and when nobody swaps again, it is the new configuration and nothing else -/
theorem C15_after_swap_only_new (sys : Sys) (hsys : sys.Inv) (new : Snapshot) (hnew : new.WF)
    (t : Target) (l : Level) (evs : List Event) (hev : ∀ e ∈ evs, e.WF)
    (hno : ∀ s, Event.swap s ∉ evs) :
    let sys1 := (sys.apply .once (.swap new)).apply .once (.spawn t l)
    ∀ th, (sys1.run .once evs).threads[sys.threads.length]? = some th → th.isDone = true →
      th.out = prescribed new t l := by
  intro sys1 th hth hdone
  obtain ⟨s, hs, hout⟩ := C15_after_swap_new sys hsys new hnew t l evs hev th hth hdone
  rcases hs with rfl | hs
  · exact hout
  · exact absurd hs (hno s)

/-- "entirely under the old configuration or entirely under the new one": one `set_config(new)`
somewhere — anywhere — in the interleaving of a record that starts under `old` -/
theorem C15_old_or_new (sys : Sys) (hsys : sys.Inv) (new : Snapshot)
    (t : Target) (l : Level) (evs : List Event) (hev : ∀ e ∈ evs, e.WF)
    (hsw : ∀ s, Event.swap s ∈ evs → s = new) :
    let sys1 := sys.apply .once (.spawn t l)
    ∀ th, (sys1.run .once evs).threads[sys.threads.length]? = some th → th.isDone = true →
      th.out = prescribed sys.store t l ∨ th.out = prescribed new t l := by
  intro sys1 th hth hdone
  obtain ⟨s, hs, hout⟩ := C15_routed_under_loaded sys hsys t l evs hev th hth hdone
  rcases hs with rfl | hs
  · exact Or.inl hout
  · rw [hsw s hs] at hout; exact Or.inr hout


/-- every index is resolved in the table of the snapshot it came from: no call ever panics on
`appenders[idx]`, and every delivery made so far is (tag of the loaded snapshot, the appender that
snapshot's own table holds at an index that snapshot's own routing function produced) -/
theorem C15_no_mixed_index (sys : Sys) (hsys : sys.Inv) (evs : List Event) (hev : ∀ e ∈ evs, e.WF) :
    ∀ th ∈ (sys.run .once evs).threads,
      th.isPanicked = false ∧
      ∀ d ∈ th.out, ∃ s, th.atLoad = some s ∧ d.1 = s.tag ∧
        ∃ i, i ∈ s.route th.target th.level ∧ i < s.table.length ∧ s.table[i]? = some d.2 := by
  intro th hth
  have hinv := (Sys.run_inv sys hsys evs hev).2 th hth
  refine ⟨hinv.not_panicked, ?_⟩
  intro d hd
  cases hal : th.atLoad with
  | none =>
    -- nothing loaded yet: nothing delivered yet
    rcases hinv.view with ⟨_, hout, _⟩ | ⟨s, _, hs, _⟩
    · rw [hout] at hd; cases hd
    · rw [hal] at hs; cases hs
  | some s =>
    obtain ⟨hwf, rest, hpre⟩ := hinv.pre hal
    have hmem : d ∈ prescribed s th.target th.level := by rw [← hpre]; exact List.mem_append_left _ hd
    obtain ⟨i, hi, hget, htag⟩ := mem_resolve hmem
    exact ⟨s, rfl, htag, i, hi, hwf.route _ _ i hi, hget⟩

/-- what an observer sees: in the trace of any run that starts with no call in flight, the
deliveries recorded for a completed call are exactly what the one snapshot it loaded prescribes
(this is the list the harness compares, record by record, with the real appenders' captures) -/
theorem C15_observed_deliveries_atomic (s0 : Snapshot) (h0 : s0.WF) (evs : List Event)
    (hev : ∀ e ∈ evs, e.WF) :
    let sys := Sys.run .once { store := s0 } evs
    ∀ tid th, sys.threads[tid]? = some th → th.isDone = true →
      ∃ s, th.atLoad = some s ∧ sys.trace.filterMap (delivOf tid) = prescribed s th.target th.level := by
  intro sys tid th hth hdone
  have hinv : (Sys.mk s0 [] []).Inv := ⟨h0, fun _ h => absurd h List.not_mem_nil⟩
  have h1 := Sys.run_traceInv .once evs (Sys.mk s0 [] []) (fun _ => rfl) tid
  rw [show (Sys.run .once { store := s0 } evs).threads[tid]? = some th from hth] at h1
  obtain ⟨s, hs, hout⟩ := (C15_snapshot_atomic _ hinv evs hev th (List.mem_of_getElem? hth)).2.2 hdone
  exact ⟨s, hs, h1.trans hout⟩

/-- the scripted scenarios the harness drives (re-entrant `set_config` from inside `append` at any
fan-out position, several swaps in one record, nested records) are interleavings of this machine:
every call of every scenario is routed entirely under the snapshot it loaded -/
theorem C15_scenario_atomic (sc : Scenario) (sys : Sys) (hinit : sc.init = some sys) :
    ∀ th ∈ (sys.run .once (sc.events sys)).threads,
      th.isPanicked = false ∧
      (th.isDone = true → ∃ s, th.atLoad = some s ∧ th.out = prescribed s th.target th.level) := by
  have hsys : sys.Inv := by
    obtain ⟨c, _, rfl⟩ := Option.map_eq_some_iff.mp hinit
    exact ⟨C15_snapshot_wellformed c, fun _ h => absurd h List.not_mem_nil⟩
  have hev : ∀ e ∈ sc.events sys, e.WF :=
    schedule_mem sc Event.WF (fun _ _ => trivial) (fun _ => trivial) (fun c _ => C15_snapshot_wellformed c) _ sys _ [] nofun
  intro th hth
  have h := C15_snapshot_atomic sys hsys (sc.events sys) hev th hth
  exact ⟨h.1, h.2.2⟩

/-- Impl = Spec for part (a): on EVERY event list over the configurations of a case — any number of
concurrent or nested calls, swaps anywhere — whose calls have all completed, the observable trace
of the machine satisfies the executable specification `specTrace` (windowed form: each record is
routed entirely under one configuration that was current at some moment between its begin and its
end). This is the specification the driver evaluates on the real code's trace. -/
theorem C15_run_meets_spec (c0 : MiniCfg) (more : List MiniCfg) (evs : List Event)
    (hev : ∀ e ∈ evs, ∀ s, e = .swap s → ∃ c ∈ c0 :: more, s = mkSnapshot c)
    (hdone : ∀ th ∈ (Sys.run .once { store := mkSnapshot c0 } evs).threads, th.isDone = true) :
    specTrace (c0 :: more) false (Sys.run .once { store := mkSnapshot c0 } evs).trace = none := by
  obtain ⟨hinvF, hp, hm, _, _, hlen, hrec⟩ :=
    SpecInv.run (Q := fun s => ∃ c ∈ c0 :: more, s = mkSnapshot c)
      (fun s ⟨c, _, hc⟩ => hc ▸ C15_snapshot_wellformed c) { cur := c0.tag } evs { store := mkSnapshot c0 }
      ⟨C15_snapshot_wellformed c0, fun _ h => absurd h List.not_mem_nil⟩
      ⟨rfl, rfl, rfl, ⟨c0, List.mem_cons_self .., rfl⟩, rfl, fun _ _ _ hr _ => by cases hr⟩ hev
  refine specTrace_of_recs c0 more false _ hp hm fun r hr => ?_
  -- the record's call is done: its deliveries are what the one snapshot it loaded prescribes,
  -- and that snapshot's configuration is in the record's window
  obtain ⟨tid, htid⟩ := List.mem_iff_getElem?.mp hr
  have hth := List.getElem?_eq_getElem (hlen ▸ (List.getElem?_eq_some_iff.mp htid).1)
  obtain ⟨h1, h2, h3, h4, h5, _⟩ := hrec tid r _ htid hth
  have hd := hdone _ (List.mem_of_getElem? hth)
  obtain ⟨s, hs, _, hout⟩ := (hinvF.2 _ (List.mem_of_getElem? hth)).of_done hd
  obtain ⟨⟨c, hc, rfl⟩, htag⟩ := h5 s hs
  refine ⟨h4.trans hd, List.any_eq_true.mpr ⟨c, hc, ?_⟩⟩
  simp only [Bool.and_eq_true, Bool.or_eq_true, beq_iff_eq, Bool.not_false, Bool.true_and,
    List.contains_iff_mem, prescribedBy]
  exact ⟨htag, by rw [h1, h2, h3, hout]⟩

/-- the same for the scripted scenarios of the harness, whenever the scheduler ran every call to
completion (the driver checks that on every case, and additionally evaluates the strict form —
"the configuration in force at begin" — on the model's own trace; see `handleSwap`) -/
theorem C15_scenario_meets_spec (sc : Scenario) (c0 : MiniCfg) (more : List MiniCfg)
    (hcfgs : sc.cfgs = c0 :: more)
    (hdone : ∀ th ∈ (Sys.run .once { store := mkSnapshot c0 } (sc.events { store := mkSnapshot c0 })).threads,
      th.isDone = true) :
    specTrace sc.cfgs false (Sys.run .once { store := mkSnapshot c0 } (sc.events { store := mkSnapshot c0 })).trace = none := by
  rw [hcfgs]
  apply C15_run_meets_spec c0 more _ _ hdone
  -- every swap the scheduler emits stores the snapshot of one of the scenario's configurations
  intro e he s hs
  have := schedule_mem sc (fun e => ∀ s, e = Event.swap s → ∃ c ∈ sc.cfgs, s = mkSnapshot c)
    nofun nofun (fun c hc s hs => ⟨c, hc, by cases hs; rfl⟩) _ _ _ [] nofun e he s hs
  rw [hcfgs] at this
  exact this

/-! ### non-vacuity of (a): the theorems tell the code from the variant that re-reads the pointer -/

/-- the wrong variant (pointer re-read at every step) delivers a mixture … -/
theorem Variant_C15_reload_mixes :
    outs (Sys.run .everyStep { store := wOld } (wEvents wBig)) = [([(0, 10), (1, 22)], true, false)] ∧
    prescribed wOld 0 3 = [(0, 10), (0, 12)] ∧ prescribed wBig 0 3 = [(1, 21)] := by
  decide +kernel

/-- … or indexes the smaller new table with an index of the old tree and panics -/
theorem Variant_C15_reload_panics :
    outs (Sys.run .everyStep { store := wOld } (wEvents wSmall)) = [([(0, 10)], false, true)] := by
  decide +kernel

/-- the realistic wrong variant — "is it enabled" decided on a first load, find + fan-out done on a
second one — lets a record through on the old configuration's level and delivers it to the new
configuration's appender, which the new configuration would not have done: a mixture. (This is the
variant a seeded change of `Logger::log` introduced; the deterministic re-entrant enumeration cannot
reach the window between two loads, the theorem can.) -/
theorem Variant_C15_double_load_mixes :
    outs (Sys.run .gateThenReload { store := wOld } (wEventsEarly wQuiet)) = [([(1, 21)], true, false)] ∧
    prescribed wOld 0 3 = [(0, 10), (0, 12)] ∧ prescribed wQuiet 0 3 = [] ∧
    outs (Sys.run .once { store := wOld } (wEventsEarly wQuiet)) = [([(0, 10), (0, 12)], true, false)] := by
  decide +kernel

/-- the code (pointer loaded once) on the very same interleavings: entirely the old configuration -/
theorem C15_code_on_same_interleavings :
    outs (Sys.run .once { store := wOld } (wEvents wBig)) = [([(0, 10), (0, 12)], true, false)] ∧
    outs (Sys.run .once { store := wOld } (wEvents wSmall)) = [([(0, 10), (0, 12)], true, false)] := by
  decide +kernel

end Log4rs.Reconfig

namespace Log4rs.Reconfig.Reloader
section
variable {Text : Type} [DecidableEq Text] (parse : Text → Option (ConfigTag × Option Rate))

/-- "leaves the logger untouched for unchanged files": same mtime as remembered, or same text as
remembered (touch without change) ⇒ no `set_config`, nothing changes -/
theorem C15_unchanged_untouched (fixed : Bool) (st : RState Text) (fv : FileView Text)
    (h : (∃ m, st.modified = some m ∧ fv.mtime? = some m) ∨ fv.text? = some st.source) :
    (runOnce parse fixed st fv).2 ≠ .applied ∧
    (runOnce parse fixed st fv).1.active = st.active ∧ (runOnce parse fixed st fv).1.rate = st.rate ∧
    (runOnce parse fixed st fv).1.alive = st.alive ∧ (runOnce parse fixed st fv).1.source = st.source := by
  have hr : readsOne st.modified fv = none ∨ readsOne st.modified fv = some st.source := by
    rcases h with ⟨m, h1, h2⟩ | h
    · exact Or.inl (by simp [readsOne, h1, h2])
    · cases hr : readsOne st.modified fv with
      | none => exact Or.inl rfl
      | some t => rw [readsOne_some hr] at h; exact Or.inr h
  rw [runOnce_eq]
  rcases hr with hr | hr <;> rw [hr]
  · exact ⟨(skipAction_quiet _ _).1, rfl, rfl, rfl, rfl⟩
  · rcases applyText_cases parse st st.source with ⟨_, he, ha⟩ | ⟨ht, _⟩ | ⟨ht, _⟩
    · dsimp only; rw [he, ha]; exact ⟨nofun, rfl, rfl, rfl, rfl⟩
    · exact absurd rfl ht
    · exact absurd rfl ht

/-- the visible hypothesis of change detection: an edit that keeps the mtime the reloader
remembers is not seen — whatever the new text is (by design of the code) -/
theorem C15_same_mtime_edit_missed (fixed : Bool) (st : RState Text) (m : Mtime) (t : Text)
    (h : st.modified = some m) : runOnce parse fixed st (.ok m t) = (st, .unchanged) :=
  runOnce_ok_same parse fixed st m t h

/-- "applies a changed file's configuration and refresh rate": the mtime differs from the
remembered one (or mtimes are unavailable), the text differs from the remembered source and parses -/
theorem C15_changed_applied (fixed : Bool) (st : RState Text) (m : Mtime) (t : Text) (c : ConfigTag) (r : Option Rate)
    (hvis : st.modified = none ∨ ∃ l, st.modified = some l ∧ l ≠ m) (hne : t ≠ st.source)
    (hp : parse t = some (c, r)) :
    runOnce parse fixed st (.ok m t) =
      ({ modified := st.modified.map (fun _ => m), source := t, active := c, rate := r.getD st.rate, alive := r.isSome },
       .applied) := by
  have hm : st.modified ≠ some m := by
    rcases hvis with h | ⟨l, h, hl⟩ <;> rw [h]
    · nofun
    · exact fun e => hl (Option.some.inj e)
  rw [runOnce_ok_read parse fixed st m t hm]
  rcases applyText_cases parse st t with ⟨ht, _⟩ | ⟨_, hp', _⟩ | ⟨_, c', r', hp', he, ha⟩
  · exact absurd ht hne
  · rw [hp] at hp'; cases hp'
  · rw [hp] at hp'; cases hp'
    rw [he, ha]

/-- `set_config` is called exactly when a text was read that differs from the remembered source
and parses; then the configuration *and* the refresh rate of that text take effect: a new rate is
what `run` sleeps next, a missing rate ends the loop. In every other case configuration, rate and
liveness are what they were. -/
theorem C15_rate_follows (fixed : Bool) (st : RState Text) (fv : FileView Text) :
    ((runOnce parse fixed st fv).2 = .applied →
      ∃ t c r, fv.text? = some t ∧ t ≠ st.source ∧ parse t = some (c, r) ∧
        (runOnce parse fixed st fv).1.active = c ∧
        (runOnce parse fixed st fv).1.rate = r.getD st.rate ∧
        (runOnce parse fixed st fv).1.alive = r.isSome) ∧
    ((runOnce parse fixed st fv).2 ≠ .applied →
      (runOnce parse fixed st fv).1.active = st.active ∧ (runOnce parse fixed st fv).1.rate = st.rate ∧
      (runOnce parse fixed st fv).1.alive = st.alive) := by
  rw [runOnce_eq]
  cases hr : readsOne st.modified fv with
  | none => exact ⟨fun h => absurd h (skipAction_quiet _ _).1, fun _ => ⟨rfl, rfl, rfl⟩⟩
  | some t =>
    dsimp only
    rcases applyText_cases parse st t with ⟨_, he, ha⟩ | ⟨_, _, he, ha⟩ | ⟨ht, c, r, hp, he, ha⟩ <;>
      rw [he, ha]
    · exact ⟨nofun, fun _ => ⟨rfl, rfl, rfl⟩⟩
    · exact ⟨nofun, fun _ => ⟨rfl, rfl, rfl⟩⟩
    · exact ⟨fun _ => ⟨t, c, r, readsOne_some hr, ht, hp, rfl, rfl, rfl⟩, fun h => absurd rfl h⟩

/-- "on an unreadable or unparsable file keeps the last good configuration active and keeps
polling": missing, unreadable, or unparsable ⇒ no `set_config`, configuration, rate and liveness
unchanged, and the loop goes on -/
theorem C15_bad_keeps_good_and_polls (fixed : Bool) (st : RState Text) (fv : FileView Text)
    (hbad : fv = .missing ∨ (∃ m, fv = .unreadable m) ∨ ∃ m t, fv = .ok m t ∧ parse t = none) :
    (runOnce parse fixed st fv).2 ≠ .applied ∧
    (runOnce parse fixed st fv).1.active = st.active ∧ (runOnce parse fixed st fv).1.rate = st.rate ∧
    (runOnce parse fixed st fv).1.alive = st.alive ∧
    (st.alive = true → (poll parse fixed st fv).2 ≠ .dead ∧ (poll parse fixed st fv).1.alive = true) := by
  -- a bad file view offers no text that parses, so nothing is applied (`C15_rate_follows`)
  have hna : (runOnce parse fixed st fv).2 ≠ .applied := fun h => by
    obtain ⟨t, c, r, ht, _, hp, _⟩ := (C15_rate_follows parse fixed st fv).1 h
    rcases hbad with rfl | ⟨m, rfl⟩ | ⟨m, t', rfl, hp'⟩
    · cases ht
    · cases ht
    · cases ht; rw [hp'] at hp; cases hp
  obtain ⟨h1, h2, h3⟩ := (C15_rate_follows parse fixed st fv).2 hna
  refine ⟨hna, h1, h2, h3, fun ha => ?_⟩
  rw [poll_alive parse fixed fv ha]
  exact ⟨runOnce_ne_dead parse fixed st fv, h3.trans ha⟩

/-- removal of `refresh_rate`: the configuration without a rate is applied, and that was the last
thing the reloader ever did — whatever happens to the file afterwards is never looked at -/
theorem C15_rate_removal_stops_polling (fixed : Bool) (st : RState Text) (m : Mtime) (t : Text) (c : ConfigTag)
    (hvis : st.modified = none ∨ ∃ l, st.modified = some l ∧ l ≠ m) (hne : t ≠ st.source)
    (hp : parse t = some (c, none)) (later : List (FileView Text)) :
    let st' := (runOnce parse fixed st (.ok m t)).1
    st'.active = c ∧ st'.alive = false ∧ runAll parse fixed st' later = st' ∧
    ∀ fv, poll parse fixed st' fv = (st', .dead) := by
  intro st'
  have h : st' = _ := congrArg Prod.fst (C15_changed_applied parse fixed st m t c none hvis hne hp)
  have hdead : st'.alive = false := by rw [h]; rfl
  exact ⟨by rw [h], hdead, runAll_dead parse fixed later st' hdead, fun fv => poll_dead parse fixed fv hdead⟩

/-- The active configuration after any history of `run_once` calls, stated as three independent
layers: (1) `reads` — which polls read the file at all (mtime rule; a failed read still consumes
the mtime in the historical variant `fixed = false`); (2) `changes` — which of the read texts differ from the source
remembered at that moment (a text that failed to parse *is* remembered: re-polling it is "no
change", restoring the previous good text afterwards is a change and is applied again);
(3) `lastGood` — the last changed text that parses decides configuration, rate and liveness. -/
theorem C15_active_is_last_good (fixed : Bool) (st : RState Text) (h : List (FileView Text)) :
    let r := stepAll parse fixed st h
    (r.active, r.rate, r.alive) =
      lastGood parse (st.active, st.rate, st.alive) (changes st.source (reads fixed st.modified h)) ∧
    r.source = ((changes st.source (reads fixed st.modified h)).getLast?).getD st.source ∧
    r.modified = finalModified fixed st.modified h := by
  intro r
  obtain ⟨h1, h2⟩ := foldl_applyText parse (reads fixed st.modified h) st
  rw [show r = _ from stepAll_eq parse fixed h st]
  exact ⟨h1, h2, rfl⟩

/-- the same for the loop of `run`, for EVERY history — refresh-rate removal included: the loop
stops at the first applied text that has no refresh rate (`lastGoodRun` ignores whatever comes
after it), so an edit made after the removal is never applied -/
theorem C15_active_is_last_good_run (fixed : Bool) (st : RState Text) (h : List (FileView Text)) :
    let r := runAll parse fixed st h
    (r.active, r.rate, r.alive) =
      lastGoodRun parse (st.active, st.rate, st.alive) (changes st.source (reads fixed st.modified h)) := by
  induction h generalizing st with
  | nil => simp [runAll, reads, changes, lastGoodRun]
  | cons fv rest ih =>
    simp only
    rw [runAll_cons]
    cases ha : st.alive with
    | false => rw [poll_dead parse fixed fv ha, runAll_dead parse fixed rest st ha, ha, lastGoodRun_dead]
    | true =>
      rw [poll_alive parse fixed fv ha, ih, runOnce_eq]
      simp only [reads]
      cases readsOne st.modified fv with
      | none => simp only [Option.toList_none, List.nil_append, ha]
      | some t =>
        simp only [Option.toList_some, List.cons_append, List.nil_append, changes]
        rcases applyText_cases parse st t with ⟨ht, he, _⟩ | ⟨ht, hp, he, _⟩ | ⟨ht, c, r, hp, he, _⟩ <;>
          simp only [he]
        · rw [if_pos ht, ha]
        · rw [if_neg ht, ha]; simp only [lastGoodRun, if_true, hp]
        · rw [if_neg ht]; simp only [lastGoodRun, if_true, hp]

/-! ### the model against the executable specification (the one the driver evaluates on the
implementation's observation) -/

/-- On every history of file states, for a consistent initial pair (text, mtime), what the reloader
does satisfies `Spec.specHistory`; the parametrised form (any `fixed`) is used for the historical
refutation `Hist_C15_mtime_consumed_refutes`. -/
def C15_reloader_meets_spec_for (fixed : Bool) : Prop :=
  ∀ (Text : Type) [DecidableEq Text] (parse : Text → Option (ConfigTag × Option Rate))
    (m0 : Option Mtime) (text0 : Text) (st0 : RState Text) (h : List (FileView Text)),
    initState parse m0 text0 = some st0 →
    specHistory parse m0 text0 (obsOf .unchanged st0) (modelPolls parse fixed st0 h) = none

def C15_reloader_meets_spec_statement : Prop := C15_reloader_meets_spec_for codeFixed

/-- the code as it is now (`codeFixed = true`: the mtime is remembered only after the read
succeeded) satisfies the full statement -/
theorem C15_reloader_meets_spec : C15_reloader_meets_spec_statement := by
  intro Text _ parse m0 text0 st0 h hinit
  exact specHistory_model parse codeFixed m0 text0 st0 hinit h (Or.inl rfl) .unchanged

/-- the initialisation looks at the file twice (`v1` then `v2`): whatever edit lands in between,
the history that follows satisfies the specification — the code as it is now takes the mtime
first (`initStatsBeforeRead = true`) -/
def C15_init_then_polls_meets_spec_for (statsFirst : Bool) : Prop :=
  ∀ (Text : Type) [DecidableEq Text] (parse : Text → Option (ConfigTag × Option Rate))
    (noMtime : Bool) (v1 v2 : FileView Text) (st0 : RState Text) (h : List (FileView Text)),
    initState2 parse statsFirst noMtime v1 v2 = some st0 →
    specHistory2 parse noMtime v1 v2 (obsOf .unchanged st0) (modelPolls parse codeFixed st0 h) = none

def C15_init_then_polls_meets_spec_statement : Prop := C15_init_then_polls_meets_spec_for initStatsBeforeRead

theorem C15_init_then_polls_meets_spec : C15_init_then_polls_meets_spec_statement := by
  intro Text _ parse noMtime v1 v2 st0 h hinit
  exact specHistory2_model_statsFirst parse codeFixed noMtime v1 v2 st0 h hinit (Or.inl rfl) .unchanged

/-! ### the real thread: `loop { sleep(rate); poll }` with time abstracted -/

/-- the basis of the timing abstraction: it does not matter how many times the loop polls between
two edits — a second poll of the same file view changes nothing and never calls `set_config` -/
theorem C15_repeated_polls_idempotent (fixed : Bool) (st : RState Text) (fv : FileView Text) (n : Nat) :
    pollMany parse fixed st fv n = (poll parse fixed st fv).1 ∧
    (poll parse fixed (poll parse fixed st fv).1 fv).2 ≠ .applied := by
  refine ⟨?_, (poll_idem parse fixed st fv).2⟩
  induction n generalizing st with
  | zero => rfl
  | succ k ih => rw [pollMany, ih, (poll_idem parse fixed st fv).1]

/-- what the thread shows, for ANY refresh rates: the observations of the steps at which the loop
polls are exactly the poll history of `run` over the views it polls (`polledViews`: every edit
while the current rate is an ordinary one, the current file at a long wait), and at a step at which
it does not poll (it is inside the `sleep` of a slow rate — "the new refresh rate is used from the
next sleep") nothing is applied -/
theorem C15_thread_shows_poll_history (fixed : Bool) (steps : List (TStep Text))
    (st : RState Text) (cur : FileView Text) :
    (threadRun parse fixed st cur steps).filter (·.polled) =
      (pollAll parse fixed st (polledViews parse fixed st cur steps)).map tobsOf ∧
    ∀ o ∈ threadRun parse fixed st cur steps, o.polled = false → o.touched = false := by
  induction steps generalizing st cur with
  | nil => exact ⟨rfl, fun _ h => absurd h List.not_mem_nil⟩
  | cons step rest ih =>
    cases step with
    | edit fv =>
      by_cases hr : st.rate < slowRate
      · simp only [threadRun, polledViews, hr, decide_true, if_true, pollAll, List.map_cons]
        obtain ⟨h1, h2⟩ := ih (poll parse fixed st fv).1 fv
        exact ⟨by rw [List.filter_cons_of_pos rfl, h1]; rfl,
          List.forall_mem_cons.mpr ⟨fun h => Bool.noConfusion h, h2⟩⟩
      · -- the loop is inside the `sleep` of a slow rate
        simp only [threadRun, polledViews, hr, decide_false, Bool.false_eq_true, if_false]
        obtain ⟨h1, h2⟩ := ih st fv
        exact ⟨by rw [List.filter_cons_of_neg Bool.false_ne_true]; exact h1,
          List.forall_mem_cons.mpr ⟨fun _ => rfl, h2⟩⟩
    | longWait =>
      simp only [threadRun, polledViews, if_true, pollAll, List.map_cons]
      obtain ⟨h1, h2⟩ := ih (poll parse fixed st cur).1 cur
      exact ⟨by rw [List.filter_cons_of_pos rfl, h1]; rfl,
        List.forall_mem_cons.mpr ⟨fun h => Bool.noConfusion h, h2⟩⟩

end

/-! ### HISTORICAL (not counted): the variant before fix 6066c40, `fixed = false` -/

/-- before 6066c40 `run_once` remembered the new mtime before the read had succeeded: the failed
read consumed mtime 11 and the changed, valid file was never applied -/
theorem Hist_C15_mtime_consumed_witness :
    initState parseDoc (some 10) wA = some wInit ∧
    (pollAll parseDoc false wInit wHistory).map (fun p => (p.1, p.2.active)) = [(.error, 1), (.unchanged, 1)] ∧
    (pollAll parseDoc true wInit wHistory).map (fun p => (p.1, p.2.active)) = [(.error, 1), (.applied, 2)] ∧
    (specHistory parseDoc (some 10) wA (obsOf .unchanged wInit) (modelPolls parseDoc false wInit wHistory)).isSome = true := by
  decide +kernel

theorem Hist_C15_mtime_consumed_refutes : ¬ C15_reloader_meets_spec_for false := by
  intro hst
  have h := hst Doc parseDoc (some 10) wA wInit wHistory (by decide)
  have h2 := Hist_C15_mtime_consumed_witness.2.2.2
  rw [h] at h2
  exact absurd h2 (by decide)

/-- the unfixed variant did satisfy the specification on histories in which no poll found the
file unreadable while its metadata was readable -/
theorem Hist_C15_reloader_meets_spec_partial (m0 : Option Mtime) (text0 : Doc) (st0 : RState Doc)
    (h : List (FileView Doc)) (hinit : initState parseDoc m0 text0 = some st0)
    (hsafe : Safe false st0 h) :
    specHistory parseDoc m0 text0 (obsOf .unchanged st0) (modelPolls parseDoc false st0 h) = none :=
  specHistory_model parseDoc false m0 text0 st0 hinit h hsafe .unchanged

/-! ### non-vacuity of (b): concrete histories through every branch, on the code as it is now -/

/-- syntax error keeps A and keeps polling; re-polling the same bad text is "unchanged"; restoring
A afterwards counts as a change and is applied again -/
example : (pollAll parseDoc codeFixed wInit [.ok 11 wBad, .ok 12 wBad, .ok 13 wA]).map
    (fun p => (p.1, p.2.active, p.2.alive)) = [(.error, 1, true), (.unchanged, 1, true), (.applied, 1, true)] := by
  decide +kernel
/-- a same-mtime edit is missed, and seen as soon as the mtime moves -/
example : (pollAll parseDoc codeFixed wInit [.ok 10 wB, .ok 11 wB]).map
    (fun p => (p.1, p.2.active, p.2.rate)) = [(.unchanged, 1, 30), (.applied, 2, 60)] := by decide +kernel
/-- an unreadable file (directory, EACCES, not UTF-8) is an error at every poll, does not consume
its mtime, and a valid file keeping that mtime is applied (the one place where `codeFixed` matters) -/
example : (pollAll parseDoc codeFixed wInit [.unreadable 11, .unreadable 11, .ok 11 wB]).map
    (fun p => (p.1, p.2.active, p.2.modified)) = [(.error, 1, some 10), (.error, 1, some 10), (.applied, 2, some 11)] := by
  decide +kernel
/-- a slow refresh rate defers the next poll: the edit is picked up only after the long wait -/
example : (threadRun parseDoc codeFixed wInit (.ok 10 wA)
      [.edit (.ok 11 { kind := .good, tag := 5, rate := some 3000, nonce := 0 }), .edit (.ok 12 wB), .longWait]).map
    (fun o => (o.active, o.touched, o.polled)) = [(5, true, true), (5, false, false), (2, true, true)] := by decide +kernel
/-- deletion keeps the configuration and the loop; removal of refresh_rate ends the loop, a later
valid change is never applied (`C15_active_is_last_good_run` covers this history) -/
example : (pollAll parseDoc codeFixed wInit [.missing, .ok 11 wNoRate, .ok 12 wB]).map
    (fun p => (p.1, p.2.active, p.2.alive)) = [(.error, 1, true), (.applied, 3, false), (.dead, 3, false)] := by
  decide +kernel
example : lastGoodRun parseDoc (1, 30, true)
    (changes wInit.source (reads codeFixed wInit.modified [.missing, .ok 11 wNoRate, .ok 12 wB])) = (3, 30, false) := by
  decide +kernel
/-- the two-look initialisation with an edit in between, on the code as it is now: B is loaded, the
older mtime is remembered, the first poll re-examines the file and leaves it alone -/
example : (initState2 parseDoc initStatsBeforeRead false (.ok 10 wA) (.ok 11 wB)).map
    (fun st => (st.modified, st.active,
      (pollAll parseDoc codeFixed st [.ok 11 wB, .ok 12 wA]).map (fun p => (p.1, p.2.active)))) =
    some (some 10, 2, [(.unchanged, 2), (.applied, 1)]) := by decide +kernel

end Log4rs.Reconfig.Reloader

namespace Log4rs.Reconfig

/-! ## (a) reconfiguring threadS: `set_config` is two writes under one lock -/

/-- whenever no `set_config` call is in flight, the facade's gate is that of the configuration whose
snapshot is stored — for every interleaving of any number of `set_config` calls -/
def C15_set_config_consistent_for (serialised : Bool) : Prop :=
  ∀ (cfgs : List MiniCfg) (evs : List FEvent),
    let s := FSys.run serialised cfgs (FSys.init cfgs) evs
    s.quiescent = true → s.maxLevel = cfgMax cfgs s.store

def C15_set_config_consistent_statement : Prop := C15_set_config_consistent_for setConfigSerialised

/-- the code as it is now (both writes under one process-wide lock, `setConfigSerialised = true`):
a second call waits until the first has stored, so the statement holds for every interleaving -/
theorem C15_set_config_consistent : C15_set_config_consistent_statement := by
  intro cfgs evs s hq
  exact (FSys.run_serialised_consistent cfgs evs _ (FSys.init_consistent cfgs)).quiescent hq

/-- and while calls are in flight at most one of them is between its two writes, and the gate is
that call's -/
theorem C15_set_config_one_writer (cfgs : List MiniCfg) (evs : List FEvent) :
    let s := FSys.run setConfigSerialised cfgs (FSys.init cfgs) evs
    s.atHook.length ≤ 1 ∧ ∀ k, s.atHook = [k] → s.maxLevel = cfgMax cfgs k := by
  intro s
  have h : s.Consistent cfgs := FSys.run_serialised_consistent cfgs evs _ (FSys.init_consistent cfgs)
  exact ⟨h.1, fun k hk => by have h2 := h.2; rw [hk] at h2; exact h2⟩

/-- one record, in any such state: the gate never produces a mixture — the record is treated
entirely as the stored configuration prescribes or entirely as the configuration whose level the
gate holds prescribes (dropped: above that configuration's max level nothing is routed anyway) -/
theorem C15_gate_one_config (cfgs : List MiniCfg) (s : FSys) (j : Nat) (cs cj : MiniCfg)
    (hs : cfgs[s.store]? = some cs) (hj : cfgs[j]? = some cj) (hmax : s.maxLevel = cfgMax cfgs j)
    (t : Target) (l : Level) :
    s.record cfgs t l = prescribed (mkSnapshot cs) t l ∨ s.record cfgs t l = prescribed (mkSnapshot cj) t l := by
  unfold FSys.record
  split
  · left; simp [hs]
  · right
    rename_i hl
    have hc : cfgMax cfgs j = cj.maxLevel := by simp [cfgMax, hj]
    have hl' : ¬ l ≤ cj.maxLevel := by rw [← hc, ← hmax]; exact hl
    rw [prescribed_above_max cj t l (Nat.lt_of_not_le hl')]

/-- non-vacuity on the code as it is now: the schedule that used to break it — the second call
waits, both stores happen in turn, gate and snapshot agree -/
example : (FSys.states setConfigSerialised [fc0, fc1, fc2] (FSys.init [fc0, fc1, fc2]) fRace).map
    (fun s => (s.maxLevel, s.store, s.atHook, s.waiting)) =
    [(3, 0, [], []), (5, 0, [1], []), (5, 0, [1], [2]), (5, 0, [1], [2]), (1, 1, [2], [])] := by decide +kernel

/-! ### HISTORICAL (not counted): `set_config` before fix 411af7e, two unsynchronised writes -/

/-- (case `C15 race 10;3;10|20;5;20|30;1;30 a1,a2,s2,s1 0.1,0.2,0.3,0.4,0.5`) both calls have
returned, the snapshot is A's (root Trace), the gate is B's (Error): an error record is delivered by
A's appender, everything else is dropped as B would — for good -/
theorem Hist_C15_two_writers_witness :
    let s := FSys.run false [fc0, fc1, fc2] (FSys.init [fc0, fc1, fc2]) fRace
    s.quiescent = true ∧ s.done = [2, 1] ∧ s.store = 1 ∧ s.maxLevel = 1 ∧ cfgMax [fc0, fc1, fc2] 1 = 5 ∧
    s.record [fc0, fc1, fc2] 0 1 = [(1, 20)] ∧ s.record [fc0, fc1, fc2] 0 4 = [] ∧
    prescribed (mkSnapshot fc1) 0 4 = [(1, 20)] ∧ prescribed (mkSnapshot fc2) 0 1 = [(2, 30)] := by
  decide +kernel

theorem Hist_C15_two_writers_refute : ¬ C15_set_config_consistent_for false := by
  intro hst
  have h := hst [fc0, fc1, fc2] fRace
  have hw := Hist_C15_two_writers_witness
  simp only at h hw
  have := h hw.1
  rw [hw.2.2.1, hw.2.2.2.1, hw.2.2.2.2.1] at this
  exact absurd this (by decide)

/-- the unserialised variant was consistent on interleavings in which at most one call at a time was
between its two writes -/
theorem Hist_C15_set_config_consistent_partial (cfgs : List MiniCfg) (evs : List FEvent)
    (hone : ∀ s' ∈ FSys.states false cfgs (FSys.init cfgs) evs, s'.atHook.length ≤ 1) :
    let s := FSys.run false cfgs (FSys.init cfgs) evs
    s.quiescent = true → s.maxLevel = cfgMax cfgs s.store := by
  intro s hq
  exact (FSys.run_consistent_of_one false cfgs evs _ (FSys.init_consistent cfgs) hone).quiescent hq

end Log4rs.Reconfig

namespace Log4rs.Reconfig.Reloader

/-! ### HISTORICAL (not counted): `init_file` before fix b32fc8c, read first and stat afterwards -/

/-- (case `C15 reload g:1:30:0;g:2:60:0 0:10:0:f:e1.11 w:1:11,w:1:11`) the text of version A
(mtime 10) was read, then the file became B (mtime 11), then the mtime was taken: the reloader
remembered (A's text, B's mtime) and never looked at B -/
theorem Hist_C15_init_race_witness :
    initState2 parseDoc false false (.ok 10 wA) (.ok 11 wB) = some { wInit with modified := some 11 } ∧
    (pollAll parseDoc codeFixed { wInit with modified := some 11 } [.ok 11 wB, .ok 11 wB]).map
      (fun p => (p.1, p.2.active)) = [(.unchanged, 1), (.unchanged, 1)] ∧
    (specHistory2 parseDoc false (.ok 10 wA) (.ok 11 wB) (obsOf .unchanged { wInit with modified := some 11 })
      (modelPolls parseDoc codeFixed { wInit with modified := some 11 } [.ok 11 wB, .ok 11 wB])).isSome = true := by
  decide +kernel

theorem Hist_C15_init_race_refute : ¬ C15_init_then_polls_meets_spec_for false := by
  intro hst
  have h := hst Doc parseDoc false (.ok 10 wA) (.ok 11 wB) { wInit with modified := some 11 } [.ok 11 wB, .ok 11 wB]
    Hist_C15_init_race_witness.1
  have h2 := Hist_C15_init_race_witness.2.2
  rw [h] at h2
  exact absurd h2 (by decide)

end Log4rs.Reconfig.Reloader
