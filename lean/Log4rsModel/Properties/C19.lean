import Log4rsModel.EnvExpand.LemmasSites
import Log4rsModel.EnvExpand.LemmasHist
/-
C19 — `$ENV{NAME}` path expansion substitutes set variables, leaves all else intact.
Only property theorems and non-vacuity examples live here; helpers are in EnvExpand/Lemmas*.lean.
Every `C19_*` theorem is about the CURRENT code (`expand`, the call-site model) or the current
specification; theorems about the code before the fix of finding F7 are named `Hist_C19_*`.

`expand`          = model of `env_util::expand_env_vars` (one pass, byte offsets, partial slices)
`specExpand`      = the statement: one left-to-right pass on characters
`fileBuildFs`, `rollingBuildFs`, `rollingHistoryFs`, `rollFs` = model of the call sites, code-shaped:
                    argument, expanded local, stored field and descriptor are separate variables,
                    on a file system with directories (EnvExpand/CallSites.lean)
`specFileBuild`, `specRollingHistory`, `specRoll` = the statement's third clause: everything at `loc`
`expandOs`, `osVar` = the expansion / `std::env::var` in a process with environment block `os`
`alnum`           = `char::is_alphanumeric` (Unicode table, a parameter)
-/
namespace Log4rs.EnvExpand
open Log4rs Log4rs.Str

/-! ### Expansion never panics -/

/-- Every slice the code takes is in bounds and on character boundaries.
(1) For each match offset `m` of `$ENV{`, `m` and `m + 5` are character boundaries of the path
(`split_at` succeeds and yields the text after the prefix), and whenever the scanner accepts a
name, `match_end = m + 5 + name.len() + 1` (UTF-8 length of the name!) is a character boundary
within the path and `path[m..match_end]` is exactly `$ENV{name}`.
(2) After any number of loop iterations the loop is in an `ok` state (none of the partial
`split_at` / `&path[copied..match_start]` was off a boundary) and the cursor `copied` is a character
boundary within the path — so the final `&path[copied..]` is in bounds as well.
(3) Hence no panic branch is ever taken. Holds for every `alnum`, i.e. for multi-byte names too.
The slices are the only panic sources of the function: `std::env::var` returns `Err` (never
panics) for every name, also an empty one or one with `=` / NUL (the harness asserts this of the
real std at start-up), so `lookup` as a total function loses nothing. -/
theorem C19_never_panics (alnum : Char → Bool) (env : Env) (path : Text) :
    (∀ m ∈ matchIndices envPrefix path,
      IsCharBoundary path m ∧ IsCharBoundary path (m + ENV_PREFIX_LEN) ∧
      ∃ tail, sliceFrom (m + ENV_PREFIX_LEN) path = some tail ∧
        ∀ name, scanRef alnum tail = some name →
          m ≤ m + ENV_PREFIX_LEN + utf8Len name + ENV_SUFFIX_LEN ∧
          m + ENV_PREFIX_LEN + utf8Len name + ENV_SUFFIX_LEN ≤ utf8Len path ∧
          IsCharBoundary path (m + ENV_PREFIX_LEN + utf8Len name + ENV_SUFFIX_LEN) ∧
          sliceBytes m (m + ENV_PREFIX_LEN + utf8Len name + ENV_SUFFIX_LEN) path = some (refLit name)) ∧
    (∀ ms₁ ms₂, matchIndices envPrefix path = ms₁ ++ ms₂ →
      ∃ st, scanFrom alnum env path { out := [], copied := 0 } ms₁ = .ok st ∧
        IsCharBoundary path st.copied ∧ st.copied ≤ utf8Len path) ∧
    (expand alnum env path).isPanic = false := by
  refine ⟨?_, ?_, by rw [expand_eq_spec]; rfl⟩
  · intro m hm
    obtain ⟨p, tail, rfl, rfl⟩ := matchIndices_mem hm
    refine ⟨⟨p, _, rfl, rfl⟩, (splitAtByte_isSome_iff _ _).1 (by rw [splitAtByte_occ]; rfl), tail,
      by rw [sliceFrom, splitAtByte_occ], fun name hs => ?_⟩
    have hend : IsCharBoundary (p ++ (envPrefix ++ tail))
        (utf8Len p + ENV_PREFIX_LEN + utf8Len name + ENV_SUFFIX_LEN) := by
      obtain ⟨_, r, rfl⟩ := scanRef_some hs
      exact ⟨p ++ refLit name, r, by rw [List.append_assoc, refLit_append],
        by rw [utf8Len_append, matchEnd_eq]⟩
    exact ⟨Nat.le_trans (Nat.le_add_right _ _) (Nat.le_trans (Nat.le_add_right _ _) (Nat.le_add_right _ _)),
      hend.le, hend, sliceBytes_ref p hs⟩
  · intro ms₁ ms₂ hms
    obtain ⟨st, h1, h2⟩ := scanFrom_ok path ms₁ { out := [], copied := 0 }
      (fun m hm => matchIndices_mem (hms ▸ List.mem_append_left _ hm)) ⟨[], path, rfl, rfl⟩
    exact ⟨st, h1, h2, h2.le⟩

/-! ### The expansion is the single pass of the statement -/

/-- The code equals the specification on EVERY path, for every environment (values may even
contain `$`) and every `alnum`: text is copied, every well-formed terminated reference to a set
variable met by one left-to-right pass is replaced by the value, values are never re-scanned. -/
theorem C19_expand_eq_spec (alnum : Char → Bool) (env : Env) (path : Text) :
    expand alnum env path = .ok (specExpand alnum env path) :=
  expand_eq_spec alnum env path

/-- "Substitutes set variables, leaves all else intact": the path splits into literal characters
and references (`origRender segs = path`), the result is the same sequence with every literal
character kept and every reference replaced by its value (`finalRender segs`), and the split is
the one the statement describes (`Complete`): each replaced reference is well formed and names a
set variable with exactly that value, and no literal character starts a well-formed reference to
a set variable — nothing that should have been replaced is left over. -/
theorem C19_other_text_untouched (alnum : Char → Bool) (env : Env) (path : Text) :
    ∃ segs : List Seg, origRender segs = path ∧ expand alnum env path = .ok (finalRender segs) ∧
      Complete alnum env segs := by
  refine ⟨parse alnum env path, origRender_parse path, ?_, complete_parse path⟩
  rw [expand_eq_spec, specExpand_eq_final]

/-- A path that contains no well-formed, terminated reference to a SET variable — whatever else it
contains: references to unset variables, `$ENV{}`, illegal first or inner characters, missing
braces, stray `$ { }`, non-ASCII text — is returned unchanged. -/
theorem C19_unset_and_malformed_untouched (alnum : Char → Bool) (env : Env) (path : Text)
    (h : ∀ a t n, path = a ++ (envPrefix ++ t) → refAt alnum t = some n → lookup env n = none) :
    expand alnum env path = .ok path := by
  rw [expand_eq_spec, specExpand_untouched path h]

/-- The decomposition of `C19_other_text_untouched` is the only one: any split of the path into
literal characters and references that satisfies `Complete` (replaced references are well formed
and set, no literal character starts such a reference) is `parse path`. Needs only that `}` is not
a name character. -/
theorem C19_decomposition_unique (alnum : Char → Bool) (env : Env) (hc : alnum '}' = false)
    (path : Text) (segs : List Seg) (ho : origRender segs = path) (hcomp : Complete alnum env segs) :
    segs = parse alnum env path := by
  rw [← ho, parse_unique hc segs hcomp]

/-! ### Per occurrence (no decomposition involved)

`$` is not a name character (`hd`); for the two theorems that speak of a well-formed NAME also `}`
is not (`hc`). Both hold of `char::is_alphanumeric`. -/

/-- A `$` is a cut point: what precedes it is expanded on its own. -/
theorem C19_dollar_is_cut_point (alnum : Char → Bool) (env : Env) (hd : alnum '$' = false) (a y : Text) :
    expand alnum env (a ++ '$' :: y) =
      .ok (specExpand alnum env a ++ specExpand alnum env ('$' :: y)) := by
  rw [expand_eq_spec, specExpand_cut_dollar hd]

/-- Literal text without `$` is copied, character by character. -/
theorem C19_literal_text_kept (alnum : Char → Bool) (env : Env) (t r : Text) (ht : '$' ∉ t) :
    expand alnum env (t ++ r) = .ok (t ++ specExpand alnum env r) := by
  rw [expand_eq_spec, specExpand_no_dollar_prefix t r ht]

/-- EVERY occurrence of a well-formed reference to a set variable — wherever it stands, whatever
precedes and follows — is replaced by the variable's value, and the text before and after it is
expanded independently. -/
theorem C19_set_reference_replaced (alnum : Char → Bool) (env : Env)
    (hd : alnum '$' = false) (hc : alnum '}' = false)
    (n v : Text) (hn : WfName alnum n) (hl : lookup env n = some v) (a r : Text) :
    expand alnum env (a ++ refLit n ++ r) =
      .ok (specExpand alnum env a ++ v ++ specExpand alnum env r) := by
  rw [expand_eq_spec, List.append_assoc, refLit_append, specExpand_cut_occ hd, ← refLit_append,
    specExpand_sub (substAt_of_refLit (isPart_suffix hc) r hn hl), List.append_assoc]

/-- EVERY occurrence of a well-formed reference to an UNSET variable stays as written. -/
theorem C19_unset_reference_kept (alnum : Char → Bool) (env : Env)
    (hd : alnum '$' = false) (hc : alnum '}' = false)
    (n : Text) (hn : WfName alnum n) (hl : lookup env n = none) (a r : Text) :
    expand alnum env (a ++ refLit n ++ r) =
      .ok (specExpand alnum env a ++ refLit n ++ specExpand alnum env r) := by
  have hsub : substAt alnum env (envPrefix ++ (n ++ envSuffix :: r)) = none := by
    rw [substAt_of_occ, scanRef_of_wf r hn (isPart_suffix hc), Option.bind_some, hl]
    rfl
  have hnd : '$' ∉ n ++ [envSuffix] := by
    simp [envSuffix, hn.no_dollar hd]
  rw [expand_eq_spec, List.append_assoc, refLit_append, specExpand_cut_occ hd, specExpand_occ_kept _ hsub,
    List.append_cons n, specExpand_no_dollar_prefix _ r hnd]
  simp only [refLit, List.append_assoc]

/-- EVERY occurrence of `$ENV{` that does not begin a well-formed, terminated reference (empty
name, illegal first character, illegal inner character, missing brace) stays as written, and the
scan resumes right after the five characters. -/
theorem C19_malformed_reference_kept (alnum : Char → Bool) (env : Env) (hd : alnum '$' = false)
    (a t : Text) (hm : refAt alnum t = none) :
    expand alnum env (a ++ envPrefix ++ t) =
      .ok (specExpand alnum env a ++ envPrefix ++ specExpand alnum env t) := by
  have hsub : substAt alnum env (envPrefix ++ t) = none := by
    rw [substAt_of_occ, scanRef_eq_refAt, hm]; rfl
  rw [expand_eq_spec, List.append_assoc, specExpand_cut_occ hd, specExpand_occ_kept t hsub, List.append_assoc]

/-! ### The environment: only the referenced variables matter -/

/-- The expansion depends only on the variables the path references: two environments that agree
on every name occurring in a well-formed reference of the path give the same result. -/
theorem C19_depends_only_on_referenced (alnum : Char → Bool) (env₁ env₂ : Env) (path : Text)
    (h : ∀ a t n, path = a ++ (envPrefix ++ t) → refAt alnum t = some n → lookup env₁ n = lookup env₂ n) :
    expand alnum env₁ path = expand alnum env₂ path := by
  rw [expand_eq_spec, expand_eq_spec, specExpand_congr env₁ env₂ path h]

/-- `std::env::var` as the process sees it: on an environment block with unique names (what
`setenv` maintains; `execve` would also accept duplicates) first-match `getenv` followed by the
Unicode check — `osVar`, i.e. `if let Ok(v) = std::env::var(name)` — is the lookup the model uses. -/
theorem C19_env_var_is_getenv (os : OsEnv) (hnd : (os.map (·.1)).Nodup) (n : Text) :
    lookup (unicodeView os) n = (match osVar os n with | .ok v => some v | .error _ => none) := by
  induction os with
  | nil => rfl
  | cons e os ih =>
    obtain ⟨hnot, hnd'⟩ := List.nodup_cons.1 hnd
    rw [osVar_cons, unicodeView_cons]
    by_cases hname : e.1 = utf8 n
    · -- `getenv` stops here; the view goes on only past an invisible entry, and finds no second `n`
      have hrest : lookup (unicodeView os) n = none := by
        cases hl : lookup (unicodeView os) n with
        | none => rfl
        | some v =>
          obtain ⟨e', he', hn'⟩ := lookup_unicodeView_name hl
          exact absurd (List.mem_map.2 ⟨e', he', hn'.trans hname.symm⟩) hnot
      rw [if_pos hname, hname, decodeUtf8_complete]
      cases decodeUtf8 e.2 with
      | none => exact hrest
      | some v => exact if_pos rfl
    · rw [if_neg hname, ← ih hnd']
      split
      · rename_i m v h1 _
        have hm : m ≠ n := fun em => hname (em ▸ decodeUtf8_sound _ _ h1)
        exact if_neg hm
      · rfl

/-- Bystanders are irrelevant, whatever they are: a variable `b` of the process environment —
name and value arbitrary byte strings, valid Unicode or not — that no well-formed reference of the
path names can be added or removed without changing the result, and the expansion does not panic
in its presence (`std::env::var` is asked per reference; nothing enumerates the environment).
With unique names (`hnd`) the variable reads of both sides are `getenv`'s answers. -/
theorem C19_bystanders_irrelevant (alnum : Char → Bool) (os₁ os₂ : OsEnv) (b : Bytes × Bytes) (path : Text)
    (hnd : ((os₁ ++ b :: os₂).map (·.1)).Nodup)
    (hb : ∀ a t n, path = a ++ (envPrefix ++ t) → refAt alnum t = some n → decodeUtf8 b.1 ≠ some n) :
    expandOs alnum (os₁ ++ b :: os₂) path = expandOs alnum (os₁ ++ os₂) path ∧
    (expandOs alnum (os₁ ++ b :: os₂) path).isPanic = false ∧
    ∀ n, lookup (unicodeView (os₁ ++ b :: os₂)) n =
      (match osVar (os₁ ++ b :: os₂) n with | .ok v => some v | .error _ => none) := by
  refine ⟨?_, by rw [expandOs, expand_eq_spec]; rfl, fun n => C19_env_var_is_getenv _ hnd n⟩
  apply C19_depends_only_on_referenced
  intro a t n hp hr
  exact lookup_unicodeView_remove os₁ os₂ b n (lookup_unicodeView_single (.inl (hb a t n hp hr)))

/-- READING DECISION made by the code (`std::env::var`, not `var_os`), adopted by the model and the
specification and listed under `assumptions`: a variable whose value (or name) is not valid
Unicode counts as NOT SET — `std::env::var` answers `Err(NotUnicode)` for it (second clause), the
expansion is the one of the block without it (first clause): a reference to it stays as written. -/
theorem C19_not_unicode_is_unset (alnum : Char → Bool) (os₁ os₂ : OsEnv) (b : Bytes × Bytes) (path : Text)
    (hnd : ((os₁ ++ b :: os₂).map (·.1)).Nodup)
    (hb : decodeUtf8 b.1 = none ∨ decodeUtf8 b.2 = none) :
    expandOs alnum (os₁ ++ b :: os₂) path = expandOs alnum (os₁ ++ os₂) path ∧
    ∀ n, b.1 = utf8 n → osVar (os₁ ++ b :: os₂) n = .error .notUnicode := by
  refine ⟨?_, ?_⟩
  · apply C19_depends_only_on_referenced
    intro _ _ n _ _
    exact lookup_unicodeView_remove os₁ os₂ b n
      (lookup_unicodeView_single (hb.imp_left fun h e => nomatch h.symm.trans e))
  · intro n hn
    have hval : decodeUtf8 b.2 = none := by
      rcases hb with h | h
      · rw [hn, decodeUtf8_complete] at h; cases h
      · exact h
    induction os₁ with
    | nil => rw [List.nil_append, osVar_cons, if_pos hn, hval]
    | cons e os₁ ih =>
      obtain ⟨hnot, hnd'⟩ := List.nodup_cons.1 hnd
      have he : e.1 ≠ utf8 n := fun h =>
        hnot (List.mem_map.2 ⟨b, List.mem_append_right _ List.mem_cons_self, hn.trans h.symm⟩)
      rw [List.cons_append, osVar_cons, if_neg he]
      exact ih hnd'

/-! ### Call sites: "create their files at the expanded location"

The model of the call sites (EnvExpand/CallSites.lean) follows the Rust code variable by variable
on a file system with directories; the specification (EnvExpand/Spec.lean) mentions one location,
`loc`. Each theorem says: for EVERY file system state and EVERY outcome (errors included) the
model does exactly what the specification does at `loc = specExpand given` — the given text
expanded once. That the real `build`/`append`/`rotate` behave as the model says is what the
correspondence check observes (files, their content, directories, the descriptor held open). -/

/-- File appender, `FileAppender::builder().build(given)` for a path that is valid Unicode: the
parent directories created, the file created and the descriptor all records are written to are
those of `specExpand given`; the stored `path` is that text too. The configuration deserializer
hands the configured scalar to `build` as written, so a configured path lands where the same text
given to the builder lands. -/
theorem C19_file_appender_at_expanded_location (alnum : Char → Bool) (env : Env) (cwd : Comps)
    (given : Text) (fs : Fs) :
    fileBuildFs alnum env cwd (utf8 given) fs =
      bindO (specFileBuild cwd (specExpand alnum env given) fs) (fun (fd, fs') =>
        .ok ({ path := specExpand alnum env given, file := fd }, fs')) ∧
    fileDeserializeFs alnum env cwd given fs = fileBuildFs alnum env cwd (utf8 given) fs ∧
    ∀ a data fs', fileAppendFs a data fs' = fs'.appendTo a.file data :=
  ⟨by rw [fileBuildFs_lossy, toStringLossy_utf8], rfl, fun _ _ _ => rfl⟩

/-- … spelled out for a plain relative location `d₁/…/dₖ/name` (no `.`/`..`, no trailing `/`) in
an empty working directory: the build succeeds, creates exactly the directories `d₁`, `d₁/d₂`, …,
`d₁/…/dₖ` and exactly one (empty) file, `d₁/…/dₖ/name`, and holds that file open. -/
theorem C19_file_appender_fresh_directory (alnum : Char → Bool) (env : Env) (given : Text)
    (ds : List Text) (name : Text)
    (hr : rpath (specExpand alnum env given) = { abs := false, comps := ds ++ [name], trailing := false })
    (hdd : dotdot ∉ ds ++ [name]) :
    fileBuildFs alnum env [] (utf8 given) Fs.empty =
      .ok ({ path := specExpand alnum env given, file := ds ++ [name] },
           { files := [(ds ++ [name], [])], dirs := dirChain [] ds }) := by
  rw [fileBuildFs_lossy, toStringLossy_utf8, specFileBuild_fresh _ ds name hr hdd]; rfl

/-- The path argument is an `OsStr`: the code converts it with `to_string_lossy` BEFORE expanding.
For bytes that are not valid UTF-8 the location is the expansion of the lossy text (ill-formed
sequences replaced by U+FFFD) — "byte-for-byte unchanged" holds for valid Unicode only, where the
conversion is the identity. -/
theorem C19_path_argument_lossy (alnum : Char → Bool) (env : Env) (cwd : Comps) (given : Bytes) (fs : Fs) :
    fileBuildFs alnum env cwd given fs =
      bindO (specFileBuild cwd (specExpand alnum env (toStringLossy given)) fs) (fun (fd, fs') =>
        .ok ({ path := specExpand alnum env (toStringLossy given), file := fd }, fs')) ∧
    ∀ t, toStringLossy (utf8 t) = t :=
  ⟨fileBuildFs_lossy given fs, toStringLossy_utf8⟩

/-- Rolling appender: `build` creates the directory and opens the file of `specExpand given`, and in
EVERY history of appends — any records, any trigger decisions, post-process (size trigger) or
pre-process (time trigger) policy, any roller — every reopen, every write and every file handed
to the roller is at that one location: the stored `path` never differs from it. -/
theorem C19_rolling_appender_at_expanded_location (alnum : Char → Bool) (env : Env) (cwd : Comps)
    (given : Text) (pre : Bool) (roller : RollerFn) (ops : List AppendOp) (fs : Fs) :
    rollingBuildFs alnum env cwd (utf8 given) fs =
      bindO (specRollingBuild cwd (specExpand alnum env given) fs) (fun (w, fs') =>
        .ok ({ path := specExpand alnum env given, writer := w }, fs')) ∧
    rollingDeserializeFs alnum env cwd given fs = rollingBuildFs alnum env cwd (utf8 given) fs ∧
    ∀ w fs', rollingHistoryFs cwd pre roller { path := specExpand alnum env given, writer := w } ops fs' =
      bindO (specRollingHistory cwd pre roller (specExpand alnum env given) w ops fs') (fun (w', fs'') =>
        .ok ({ path := specExpand alnum env given, writer := w' }, fs'')) :=
  ⟨by rw [rollingBuildFs_lossy, toStringLossy_utf8], rfl,
   fun w fs' => rollingHistoryFs_eq ops _ fs'⟩

/-- Fixed-window roller: one `roll` shifts and fills the slots `specSlot pattern i` — the pattern
with the index filled in (the specification's own `fillIndex`), expanded once — creating the
directory of slot `base` and of every destination slot that lies elsewhere; nothing else is
touched. (`rotate()` recomputes each name from the pattern, up to three times per slot.) -/
theorem C19_roller_archives_at_expanded_locations (alnum : Char → Bool) (env : Env) (cwd : Comps)
    (pattern : Text) (base count : Nat) :
    rollFs alnum env cwd pattern base count = specRoll cwd (specSlot alnum env pattern) base count ∧
    ∀ i, slotName alnum env pattern i = .ok (specExpand alnum env (fillIndex (decimal i) pattern)) :=
  ⟨by funext file fs; simp only [rollFs, specRoll, rotateFs, slotName_eq, bindO_ok, shiftLoop_eq],
   fun i => slotName_eq pattern i⟩

/-- The roller's builder: a pattern without `{}` and an index range beyond `u32` are REJECTED (no
roller, hence no location); otherwise the pattern is stored as written — unexpanded — whether it
comes from the builder API or from a configuration. -/
theorem C19_roller_build (pattern : Text) (base count : Nat) :
    (hasInfix ['{', '}'] pattern = false → ∃ w, rollerBuild pattern base count = .err (.build w)) ∧
    (hasInfix ['{', '}'] pattern = true → count > 0 → base + (count - 1) > U32_MAX →
      ∃ w, rollerBuild pattern base count = .err (.build w)) ∧
    (hasInfix ['{', '}'] pattern = true → (count = 0 ∨ base + (count - 1) ≤ U32_MAX) →
      rollerBuild pattern base count = .ok pattern) ∧
    rollerDeserialize pattern base count = rollerBuild pattern base count := by
  refine ⟨fun h => ⟨"pattern does not contain `{}`", by rw [rollerBuild, h]; rfl⟩,
    fun h hc ho => ⟨"base + count - 1 exceeds u32::MAX", ?_⟩, fun h hc => ?_, rfl⟩
  · have hover : (decide (count > 0) && decide (base + (count - 1) > U32_MAX)) = true := by
      rw [Bool.and_eq_true, decide_eq_true_eq, decide_eq_true_eq]; exact ⟨hc, ho⟩
    rw [rollerBuild, h, if_neg (by decide), if_pos hover]
  · have hfits : ¬ (decide (count > 0) && decide (base + (count - 1) > U32_MAX)) = true := by
      rw [Bool.and_eq_true, decide_eq_true_eq, decide_eq_true_eq]
      rintro ⟨h1, h2⟩
      rcases hc with rfl | hc
      · exact Nat.lt_irrefl 0 h1
      · exact Nat.not_lt.2 hc h2
    rw [rollerBuild, h, if_neg (by decide), if_neg hfits]

/-- Why "once" matters: expansion is not idempotent. `p$ENV{$ENV{W}}q` with W=`T`, T=`r`: one
application gives `p$ENV{T}q` (the outer reference is malformed and stays), a second application
would turn that into `prq`. (Evaluation on one input.) -/
theorem C19_expand_not_idempotent :
    specExpand asciiAlnum [(['W'], ['T']), (['T'], ['r'])] ['p', '$', 'E', 'N', 'V', '{', '$', 'E', 'N', 'V', '{', 'W', '}', '}', 'q'] = ['p', '$', 'E', 'N', 'V', '{', 'T', '}', 'q'] ∧
    specExpand asciiAlnum [(['W'], ['T']), (['T'], ['r'])] (specExpand asciiAlnum [(['W'], ['T']), (['T'], ['r'])] ['p', '$', 'E', 'N', 'V', '{', '$', 'E', 'N', 'V', '{', 'W', '}', '}', 'q']) = ['p', 'r', 'q'] ∧
    expand asciiAlnum [(['W'], ['T']), (['T'], ['r'])] ['p', '$', 'E', 'N', 'V', '{', '$', 'E', 'N', 'V', '{', 'W', '}', '}', 'q'] = .ok ['p', '$', 'E', 'N', 'V', '{', 'T', '}', 'q'] := by
  decide +kernel

/-! ### Historical: the code before the fix of finding F7 (`expand_unfixed`) -/

/-- The historical code never panicked either. -/
theorem Hist_C19_unfixed_never_panics (alnum : Char → Bool) (env : Env) (path : Text) :
    (expand_unfixed alnum env path).isPanic = false := by
  rw [expand_unfixed_eq_chars]; rfl

/-- The historical code equalled the single pass whenever the path is `junctionFree`: no literal
`$` of the path, read together with the EXPANDED text to its right, starts a well-formed
reference to a set variable (so no substituted value, glued to its neighbouring literal text,
spells a reference that a later replace-all hits). Values free of `$` as in the property's
quantifier; `$` and `}` not alphanumeric. -/
theorem Hist_C19_unfixed_eq_spec_partial (alnum : Char → Bool) (env : Env) (path : Text)
    (hd : alnum '$' = false) (hc : alnum '}' = false)
    (hv : ∀ e ∈ env, '$' ∉ e.2)
    (hj : junctionFree alnum env path = true) :
    expand_unfixed alnum env path = .ok (specExpand alnum env path) := by
  rw [expand_unfixed_eq_chars]
  exact congrArg _ (expandChars_eq_spec hd hc (fun n v h => hv (n, v) (lookup_mem h)) path hj)

/-- … hence, on those paths, old and new code agree (the fix changes nothing there). -/
theorem Hist_C19_unfixed_eq_expand_partial (alnum : Char → Bool) (env : Env) (path : Text)
    (hd : alnum '$' = false) (hc : alnum '}' = false)
    (hv : ∀ e ∈ env, '$' ∉ e.2)
    (hj : junctionFree alnum env path = true) :
    expand_unfixed alnum env path = expand alnum env path := by
  rw [Hist_C19_unfixed_eq_spec_partial alnum env path hd hc hv hj, expand_eq_spec]

/-- The ordinary use: if every `$` of the path starts a well-formed reference to a set variable,
the historical code equalled the single pass. -/
theorem Hist_C19_unfixed_eq_spec_no_stray_dollar (alnum : Char → Bool) (env : Env) (path : Text)
    (hd : alnum '$' = false) (hc : alnum '}' = false)
    (hv : ∀ e ∈ env, '$' ∉ e.2)
    (h : ∀ s ∈ parse alnum env path, s ≠ Seg.chr '$') :
    expand_unfixed alnum env path = .ok (specExpand alnum env path) :=
  Hist_C19_unfixed_eq_spec_partial alnum env path hd hc hv
    (junctionFreeSegs_of_no_dollar _ h)

/-- The unrestricted statement about the historical code (values free of `$`). -/
def Hist_C19_unfixed_eq_spec_statement : Prop :=
  ∀ (alnum : Char → Bool) (env : Env) (path : Text),
    alnum '$' = false → alnum '}' = false → (∀ e ∈ env, '$' ∉ e.2) →
    expand_unfixed alnum env path = .ok (specExpand alnum env path)

/-- the F7 witness: historical code, statement, hypothesis of the partial theorem, and the code -/
theorem Hist_C19_unfixed_witness_values :
    expand_unfixed asciiAlnum [(['A'], ['E']), (['B'], ['v'])] ['$', '$', 'E', 'N', 'V', '{', 'A', '}', 'N', 'V', '{', 'B', '}', '$', 'E', 'N', 'V', '{', 'B', '}'] = .ok ['v', 'v'] ∧
    specExpand asciiAlnum [(['A'], ['E']), (['B'], ['v'])] ['$', '$', 'E', 'N', 'V', '{', 'A', '}', 'N', 'V', '{', 'B', '}', '$', 'E', 'N', 'V', '{', 'B', '}'] = ['$', 'E', 'N', 'V', '{', 'B', '}', 'v'] ∧
    junctionFree asciiAlnum [(['A'], ['E']), (['B'], ['v'])] ['$', '$', 'E', 'N', 'V', '{', 'A', '}', 'N', 'V', '{', 'B', '}', '$', 'E', 'N', 'V', '{', 'B', '}'] = false ∧
    expand asciiAlnum [(['A'], ['E']), (['B'], ['v'])] ['$', '$', 'E', 'N', 'V', '{', 'A', '}', 'N', 'V', '{', 'B', '}', '$', 'E', 'N', 'V', '{', 'B', '}'] = .ok ['$', 'E', 'N', 'V', '{', 'B', '}', 'v'] := by
  decide +kernel

/-- F7: the unrestricted statement was FALSE of the historical code. Witness
`$$ENV{A}NV{B}$ENV{B}` with A=`E`, B=`v`: that code yields `vv`, the single pass `$ENV{B}v`.
(Evaluation of the model on one input; the same input is in the corpus of the correspondence check.) -/
theorem Hist_C19_unfixed_eq_spec_false : ¬ Hist_C19_unfixed_eq_spec_statement := by
  intro h
  have := h asciiAlnum [(['A'], ['E']), (['B'], ['v'])] ['$', '$', 'E', 'N', 'V', '{', 'A', '}', 'N', 'V', '{', 'B', '}', '$', 'E', 'N', 'V', '{', 'B', '}']
    (by decide) (by decide) (by decide)
  rw [Hist_C19_unfixed_witness_values.1, Hist_C19_unfixed_witness_values.2.1] at this
  exact absurd this (by decide)

/-! ### Non-vacuity (tests on sample inputs, not proofs of the property) -/

/-- a path with a substituted, a repeated, an unset and a malformed reference and stray `$ { }` -/
example :
    let env : Env := [(['A'], ['v', 'a', 'l']), (['B', '.', 'c'], [])]
    let path : Text := ['l', '/', '$', 'E', 'N', 'V', '{', 'A', '}', '/', '$', 'E', 'N', 'V', '{', 'U', '}', 'x', '$', '/', '$', 'E', 'N', 'V', '{', 'A', '}', '.', '$', 'E', 'N', 'V', '{', '.', 'A', '}', '{', '}', '$', 'E', 'N', 'V', '{', 'B', '.', 'c', '}', '$', 'E', 'N', 'V', '{', 'A']
    junctionFree asciiAlnum env path = true ∧ (∀ e ∈ env, '$' ∉ e.2) ∧
    specExpand asciiAlnum env path = ['l', '/', 'v', 'a', 'l', '/', '$', 'E', 'N', 'V', '{', 'U', '}', 'x', '$', '/', 'v', 'a', 'l', '.', '$', 'E', 'N', 'V', '{', '.', 'A', '}', '{', '}', '$', 'E', 'N', 'V', '{', 'A'] ∧
    expand asciiAlnum env path = .ok (specExpand asciiAlnum env path) ∧
    expand_unfixed asciiAlnum env path = .ok (specExpand asciiAlnum env path) := by
  decide +kernel

/-- a multi-byte name (`é` = 2 bytes, `中` = 3 bytes) preceded by multi-byte text: the byte offsets
of the slices are character boundaries -/
example :
    let alnum : Char → Bool := fun c => asciiAlnum c || c = 'é' || c = '中'
    let path : Text := ['€', '中', '$', 'E', 'N', 'V', '{', 'é', '中', '}', '€']
    expand alnum [(['é', '中'], ['x'])] path = .ok ['€', '中', 'x', '€'] ∧
    matchIndices envPrefix path = [6] ∧
    sliceBytes 6 (6 + 5 + 5 + 1) path = some (refLit ['é', '中']) ∧
    scan alnum [(['é', '中'], ['x'])] path = .ok { out := ['€', '中', 'x'], copied := 17 } := by
  decide +kernel

/-- the hypothesis of `C19_unset_and_malformed_untouched` on a path full of malformed references -/
example :
    expand asciiAlnum [(['A'], ['v'])] ['$', 'E', 'N', 'V', '{', '}', '$', 'E', 'N', 'V', '{', '.', 'A', '}', '$', 'E', 'N', 'V', '{', 'A', '-', '}', '$', 'E', 'N', 'V', '{', 'A', '$', 'E', 'N', 'V', '{', 'U', '}', '$'] =
      .ok ['$', 'E', 'N', 'V', '{', '}', '$', 'E', 'N', 'V', '{', '.', 'A', '}', '$', 'E', 'N', 'V', '{', 'A', '-', '}', '$', 'E', 'N', 'V', '{', 'A', '$', 'E', 'N', 'V', '{', 'U', '}', '$'] := by
  decide +kernel

/-- the roller: the index is filled in first, so `$ENV{A{}}` names `A0`, `A1`, … -/
example :
    slotName asciiAlnum [(['A', '0'], ['z']), (['A', '1'], ['o'])] ['p', '$', 'E', 'N', 'V', '{', 'A', '{', '}', '}', '.', '{', '}'] 1 = .ok ['p', 'o', '.', '1'] ∧
    rollerBuild ['p', '$', 'E', 'N', 'V', '{', 'A', '{', '}', '}', '.', '{', '}'] 0 2 = .ok ['p', '$', 'E', 'N', 'V', '{', 'A', '{', '}', '}', '.', '{', '}'] ∧
    rollerBuild ['a', '.', 'l', 'o', 'g'] 0 2 = .err (.build "pattern does not contain `{}`") := by
  decide +kernel

/-- a file appender whose whole path is one reference with a directory in the value -/
example :
    fileBuildFs asciiAlnum [(['A'], ['d', '/', 'e', '/', 'x'])] [] (utf8 ['$', 'E', 'N', 'V', '{', 'A', '}']) Fs.empty =
      .ok ({ path := ['d', '/', 'e', '/', 'x'], file := [['d'], ['e'], ['x']] },
           { files := [([['d'], ['e'], ['x']], [])], dirs := [[['d']], [['d'], ['e']]] }) := by
  decide +kernel

end Log4rs.EnvExpand
