import Log4rsModel.Routing.BuilderLemmas
/-
C13 — Config building accepts exactly well-formed configs; lossy keeps the valid part.
All statements are for builder inputs of any size.
-/
namespace Log4rs.Routing

/-- `check_logger_name` accepts exactly the non-empty names in which every maximal run of ':' has
length 2 and whose last character is not ':'. (`colonRuns` lists the lengths of the maximal runs.) -/
theorem C13_checkName_iff (s : Name) :
    checkLoggerName s = true ↔
      s ≠ [] ∧ (∀ n ∈ colonRuns s, n = 2) ∧ s.getLast? ≠ some ':' := by
  rw [checkLoggerName_eq_specName]
  simp [specName, and_assoc]

/-- `colonRuns` is "the lengths of the maximal runs of ':'": these three equations determine it on
every string (a colon-free word has none; a colon-free word followed by a final run of `n+1` colons
has exactly that run; a run that is followed by a non-colon is listed and the rest is read the same
way). -/
theorem C13_colonRuns_maximal_runs (w : Name) (hw : ∀ c ∈ w, c ≠ ':') (n : Nat) :
    colonRuns w = [] ∧
    colonRuns (w ++ List.replicate (n + 1) ':') = [n + 1] ∧
    ∀ c rest, c ≠ ':' →
      colonRuns (w ++ List.replicate (n + 1) ':' ++ c :: rest) = (n + 1) :: colonRuns (c :: rest) := by
  refine ⟨?_, ?_, fun c rest hc => ?_⟩
  · simpa [colonRunsAux] using colonRuns_word_run w hw 0 []
  · simpa [colonRunsAux] using colonRuns_word_run w hw (n + 1) []
  · rw [colonRuns_word_run w hw]
    simp [colonRuns, colonRunsAux, hc]

/-- What the code does with a leading "::" — it is accepted: a name `::rest` with `rest` not
starting with ':' is valid exactly when `rest` is. ("colons only in pairs, none trailing" does not
exclude a leading pair, and the automaton does not either.) -/
theorem C13_checkName_leading_pair (c : Char) (s : Name) (hc : c ≠ ':') :
    checkLoggerName (':' :: ':' :: c :: s) = checkLoggerName (c :: s) := by
  simp [checkLoggerName, checkNameAux, hc]

/-- … whereas a trailing "::" is always rejected. -/
theorem C13_checkName_trailing_colon (s : Name) : checkLoggerName (s ++ [':']) = false := by
  rw [checkLoggerName_eq_specName]
  simp [specName]

/-- the statement's well-formedness (with the declarative name predicate) is `Valid` of the input
taken as a configuration (with the code's name automaton) -/
theorem C13_wellFormed_iff_valid (inp : BuilderInput) : WellFormed inp ↔ Valid inp.toConfig := by
  simp only [WellFormed, Valid, BuilderInput.toConfig, checkLoggerName_eq_specName]

/-- the Bool the executable Spec uses is the Prop of the theorems -/
theorem C13_wellFormedB_iff (inp : BuilderInput) : wellFormedB inp = true ↔ WellFormed inp := by
  simp [wellFormedB, WellFormed, and_assoc]

/-- Well-formedness item by item ("raw defects"): an input is well-formed iff no appender repeats an
earlier name, every logger has a new, well-formed name and only declared references — whether or
not the logger would be kept —, and the root has only declared references. -/
theorem C13_wellFormed_iff_no_raw_defect (inp : BuilderInput) : WellFormed inp ↔
    (∀ i a, inp.appenders[i]? = some a → a.name ∉ (inp.appenders.take i).map (·.name)) ∧
    (∀ i l, inp.loggers[i]? = some l → l.name ∉ (inp.loggers.take i).map (·.name) ∧
       specName l.name = true ∧ ∀ r ∈ l.appenders, r ∈ declared inp) ∧
    (∀ r ∈ inp.rootAppenders, r ∈ declared inp) := by
  unfold WellFormed declared
  rw [nodup_iff_no_earlier (fun a : AppenderDecl => a.name) inp.appenders,
    nodup_iff_no_earlier (fun l : LoggerCfg => l.name) inp.loggers]
  constructor
  · rintro ⟨h1, h2, h3, h4⟩
    exact ⟨h1, fun i l hl => ⟨h2 i l hl, h3 l (List.mem_of_getElem? hl)⟩, h4⟩
  · rintro ⟨h1, h2, h4⟩
    refine ⟨h1, fun i l hl => (h2 i l hl).1, fun l hm => ?_, h4⟩
    obtain ⟨i, hi⟩ := List.getElem?_of_mem hm
    exact (h2 i l hi).2

/-- "Strict building succeeds exactly for [well-formed] configurations" -/
theorem C13_build_ok_iff (inp : BuilderInput) : isOk (build inp) = true ↔ WellFormed inp := by
  rw [build_eq_spec, ← specErrors_nil_iff]
  split <;> simp [isOk, *]

/-- … and then returns the input unchanged: every appender (name and identity of the boxed object —
filters and the object's content travel with it and are not modelled), the root, every logger. -/
theorem C13_build_ok_returns_input (inp : BuilderInput) (h : WellFormed inp) :
    build inp = .ok inp.toConfig ∧ (buildLossy inp).kept = inp.appenders := by
  have hs := (buildLossy_eq_spec inp).1.trans (specLossy_of_wellFormed inp h)
  rw [build_eq_spec, if_pos ((specErrors_nil_iff inp).mpr h), specLossy_of_wellFormed inp h]
  exact ⟨rfl, congrArg Prod.snd hs⟩

/-- "otherwise it fails" with the same error list the lossy path reports, which is not empty. -/
theorem C13_build_err (inp : BuilderInput) (h : ¬ WellFormed inp) :
    build inp = .error (specErrors inp) ∧ specErrors inp ≠ [] := by
  have hne := mt (specErrors_nil_iff inp).mp h
  exact ⟨by rw [build_eq_spec, if_neg hne], hne⟩

/-- The error list is exactly the list of named offending items in the order appenders, root
references, loggers (each logger: duplicate, else invalid name, else its dangling references). -/
theorem C13_errors_exact (inp : BuilderInput) : (buildLossy inp).errors = specErrors inp :=
  (buildLossy_eq_spec inp).2

/-- "no error naming an innocent item": every reported error names an offending item
(`Offending`, Routing/Builder.lean). -/
theorem C13_errors_sound (inp : BuilderInput) (e : CfgError) (h : e ∈ (buildLossy inp).errors) :
    Offending inp e := by
  rw [C13_errors_exact] at h
  exact (mem_specErrors_iff inp e).mp h

/-- "every offending item is named in the reported errors" — for the offending items as the builder
names them (`Offending`); for the references inside dropped loggers see `C13_every_defect_covered`. -/
theorem C13_errors_complete (inp : BuilderInput) (e : CfgError) (h : Offending inp e) :
    e ∈ (buildLossy inp).errors := by
  rw [C13_errors_exact]
  exact (mem_specErrors_iff inp e).mpr h

/-- What happens to the defects that are NOT separately reported: a dangling reference `r` of ANY
logger item — kept or not — is either reported itself, or sits in a logger that is reported as a
duplicate or as badly named. No raw defect is silently swallowed. (Appender duplicates and dangling
root references are always reported themselves: `Offending.dupAppender`, `.danglingRoot`.) -/
theorem C13_every_defect_covered (inp : BuilderInput) (i : Nat) (l : LoggerCfg) (r : Name)
    (hl : inp.loggers[i]? = some l) (hr : r ∈ l.appenders) (hd : r ∉ declared inp) :
    ⟨.nonexistent, r⟩ ∈ (buildLossy inp).errors ∨
    ⟨.dupLogger, l.name⟩ ∈ (buildLossy inp).errors ∨
    ⟨.invalidName, l.name⟩ ∈ (buildLossy inp).errors := by
  rcases logger_item_reported inp i l hl with h | h | ⟨_, _, h⟩
  · exact Or.inr (Or.inl (C13_errors_complete inp _ h))
  · exact Or.inr (Or.inr (C13_errors_complete inp _ h))
  · exact Or.inl (C13_errors_complete inp _ (h r hr hd))

/-- … and every badly named or repeated logger is reported whatever else is wrong with it. -/
theorem C13_every_bad_logger_reported (inp : BuilderInput) (i : Nat) (l : LoggerCfg)
    (hl : inp.loggers[i]? = some l)
    (hbad : l.name ∈ (inp.loggers.take i).map (·.name) ∨ specName l.name = false) :
    ⟨.dupLogger, l.name⟩ ∈ (buildLossy inp).errors ∨ ⟨.invalidName, l.name⟩ ∈ (buildLossy inp).errors := by
  rcases logger_item_reported inp i l hl with h | h | ⟨hnew, hv, _⟩
  · exact Or.inl (C13_errors_complete inp _ h)
  · exact Or.inr (C13_errors_complete inp _ h)
  · rcases hbad with h | h
    · exact absurd h hnew
    · rw [hv] at h; cases h

/-- the strict path reports the same errors -/
theorem C13_strict_errors_sound_complete (inp : BuilderInput) (es : List CfgError)
    (h : build inp = .error es) : ∀ e, e ∈ es ↔ Offending inp e := by
  rw [build_eq_spec] at h
  split at h <;> cases h
  exact mem_specErrors_iff inp

/-- "Lossy building always returns the configuration made of exactly the valid items in their
original order (first occurrence wins among duplicates, dangling references stripped)" — including
which `Append` objects survive. -/
theorem C13_lossy_exact (inp : BuilderInput) :
    ((buildLossy inp).config, (buildLossy inp).kept) = specLossy inp :=
  (buildLossy_eq_spec inp).1

/-- "first occurrence wins", read item by item: the kept items of `xs ++ [x]` are those of `xs`,
and `x` itself exactly when no item of `xs` has its name. (With `firstsBy key [] = []` this
determines `firstsBy`.) -/
theorem C13_first_occurrence_wins {α} (key : α → Name) (xs : List α) (x : α) :
    firstsBy key ([] : List α) = [] ∧
    firstsBy key (xs ++ [x]) = firstsBy key xs ++ (if key x ∈ xs.map key then [] else [x]) :=
  ⟨rfl, firstsBy_snoc key xs x⟩

/-- the lossy configuration satisfies what `build` guarantees -/
theorem C13_lossy_valid (inp : BuilderInput) : Valid (buildLossy inp).config :=
  buildLossy_valid inp

/-- every configuration the strict path returns is valid -/
theorem C13_build_valid (inp : BuilderInput) (cfg : Config) (h : build inp = .ok cfg) : Valid cfg := by
  rw [build_eq_spec] at h
  split at h <;> cases h
  exact specLossy_valid inp

/-- A valid configuration installs: no `appender_map[name]` lookup hits a missing key, every
reference is resolved to the index of an appender of that name, every index is in range of the
appender table (so `appenders[idx]` in `ConfiguredLogger::log` cannot go out of bounds). -/
theorem C13_install_no_panic (cfg : Config) (h : Valid cfg) :
    ∃ r, install cfg = .ok r ∧
      ResolvedTo cfg.appenders cfg.rootAppenders r.root ∧
      r.loggers.map (·.1) = cfg.loggers ∧
      (∀ p ∈ r.loggers, ResolvedTo cfg.appenders p.1.appenders p.2) ∧
      (∀ i ∈ r.root, i < cfg.appenders.length) ∧
      (∀ p ∈ r.loggers, ∀ i ∈ p.2, i < cfg.appenders.length) := by
  obtain ⟨ri, hr⟩ := resolveRefs_complete h.2.2.2
  obtain ⟨li, hl⟩ := resolveLoggers_complete fun l hl => (h.2.2.1 l hl).2
  have hrs := resolveRefs_sound hr
  obtain ⟨hl1, hl2⟩ := resolveLoggers_sound hl
  exact ⟨⟨ri, li⟩, (install_eq_ok_iff cfg _).mpr ⟨hr, hl⟩, hrs, hl1, hl2, hrs.lt,
    fun p hp => (hl2 p hp).lt⟩

/-- The `appender_map[name]` lookups of `SharedLogger::new` succeed exactly when every reference
names a declared appender (uniqueness and name validity are not needed for THIS panic; they are what
the routing theorems of C01 need). -/
theorem C13_install_ok_iff (cfg : Config) :
    (∃ r, install cfg = .ok r) ↔
      (∀ a ∈ cfg.rootAppenders, a ∈ cfg.appenders) ∧
      (∀ l ∈ cfg.loggers, ∀ a ∈ l.appenders, a ∈ cfg.appenders) := by
  constructor
  · rintro ⟨r, hr⟩
    obtain ⟨h1, h2⟩ := (install_eq_ok_iff cfg r).mp hr
    obtain ⟨hm, hall⟩ := resolveLoggers_sound h2
    refine ⟨(resolveRefs_sound h1).mem, fun l hl => ?_⟩
    rw [← hm] at hl
    obtain ⟨p, hp, rfl⟩ := List.mem_map.mp hl
    exact (hall p hp).mem
  · rintro ⟨hroot, hlog⟩
    obtain ⟨ri, hr⟩ := resolveRefs_complete hroot
    obtain ⟨li, hl⟩ := resolveLoggers_complete hlog
    exact ⟨⟨ri, li⟩, (install_eq_ok_iff cfg _).mpr ⟨hr, hl⟩⟩

/-- "any configuration returned by either path can be installed … without panicking" (the name
resolution part; the logger tree is C01's). -/
theorem C13_returned_config_installs (inp : BuilderInput) :
    (∃ r, install (buildLossy inp).config = .ok r) ∧
    (∀ cfg, build inp = .ok cfg → ∃ r, install cfg = .ok r) := by
  constructor
  · obtain ⟨r, hr, _⟩ := C13_install_no_panic _ (C13_lossy_valid inp)
    exact ⟨r, hr⟩
  · intro cfg h
    obtain ⟨r, hr, _⟩ := C13_install_no_panic _ (C13_build_valid inp cfg h)
    exact ⟨r, hr⟩

/-! ### Non-vacuity (tests on samples, not proofs of the property) -/

def sampleInput : BuilderInput :=
  { appenders := [⟨['a'], 0⟩, ⟨['b'], 1⟩, ⟨['a'], 2⟩],
    rootLevel := 3,
    rootAppenders := [['a'], ['z']],
    loggers := [
      { name := ['x', ':'], level := 4, appenders := [['q']] },          -- invalid name, its dangling ref is not reported
      { name := ['x', ':', ':', 'y'], level := 4, appenders := [['b'], ['q']] },
      { name := ['x', ':'], level := 2 },                               -- duplicate of an invalid name
      { name := ['x', ':', ':', 'y'], level := 1, appenders := [['q']] } ] }

/-- the four error kinds in the code's order; the lossy result keeps the first `a`, drops `z`/`q` -/
example : (buildLossy sampleInput).errors =
    [⟨.dupAppender, ['a']⟩, ⟨.nonexistent, ['z']⟩, ⟨.invalidName, ['x', ':']⟩, ⟨.nonexistent, ['q']⟩,
     ⟨.dupLogger, ['x', ':']⟩, ⟨.dupLogger, ['x', ':', ':', 'y']⟩] := by decide +kernel
example : (buildLossy sampleInput).kept = [⟨['a'], 0⟩, ⟨['b'], 1⟩] := by decide +kernel
example : (buildLossy sampleInput).config.loggers =
    [{ name := ['x', ':', ':', 'y'], level := 4, appenders := [['b']] }] := by decide +kernel
/-- a well-formed, non-trivial input exists (hypothesis of `C13_build_ok_returns_input`) -/
def sampleWellFormed : BuilderInput :=
  { appenders := [⟨['a'], 0⟩, ⟨['b'], 1⟩], rootLevel := 3, rootAppenders := [['b']],
    loggers := [{ name := [':', ':', 'x'], level := 4, appenders := [['a'], ['a']] }] }
example : WellFormed sampleWellFormed := by
  refine ⟨by decide, by decide, ?_, ?_⟩ <;> decide
/-- the panic `install` guards against is real: a dangling reference makes the lookup fail -/
example : install { appenders := [['a']], rootLevel := 3, rootAppenders := [['b']], loggers := [] } =
    .panic "appender_map[name]: key not found" :=
  rfl  -- `decide` would compare the two messages character by character
/-- name samples: leading pair accepted, single colon / triple colon / trailing pair rejected -/
example : checkLoggerName [':', ':', 'a'] = true ∧ checkLoggerName ['a', ':', 'b'] = false ∧
    checkLoggerName ['a', ':', ':', ':', 'b'] = false ∧ checkLoggerName ['a', ':', ':'] = false ∧
    checkLoggerName [':', ':'] = false ∧ checkLoggerName [] = false := by decide +kernel

end Log4rs.Routing
