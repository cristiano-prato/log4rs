import Log4rsModel.Roller.LemmasHist
import Log4rsModel.Roller.LemmasName
import Log4rsModel.Roller.LemmasBg
import Log4rsModel.Roller.LemmasFinal
/-
C08 — A failed or interrupted rotation loses no acknowledged data and is recoverable.
Property theorems, their witnesses and non-vacuity examples; helpers are in Roller/Lemmas*.lean.

Reading order: `readBack dec r file d` = archives from the highest index of the window down to
`base` (decoded), then the active file — oldest to newest. `retain` = the reading of the
*completed* rotation. `l₁ <:+ l₂` = "l₁ is a suffix of l₂". All roller-level theorems hold for an
arbitrary disk (gaps, left-overs of earlier failures), every window size, every compression.

The continuation clause (`C08_continuation_statement`) is a theorem for the code as it is since
the fix b8295bc (`C08_continuation`, both open modes) and is extended to arbitrary continuation
histories (`C08_continuation_any_history`, `C08_history_gap_free_partial`). Before the fix it was false
for `append(false)` (defect F10): `C08_truncate_reopen_loses_data_unfixed` keeps the negation for
the old open-option logic (`truncateEveryReopen = true`) on its 3-operation witness.
Which theorem covers which point of a rotation:
  * step boundaries (before each shift, before the final step, after it): `C08_crash_safe` (death)
    and `C08_fault_safe` (a step that fails without having done anything);
  * INSIDE the final step, a fault with a partial effect (`move_file`: rename refused, copy done,
    source not removable; compression: copy done, source not removable): safe exactly when the
    failing step removes its destination again — `C08_fault_safe_partial_effect`,
    `C08_partial_final_safe` (the code since the repair of `C08/move-fallback-duplicates`; the
    compressing arms since ec0831e); leaving the destination is unsafe:
    `C08_move_fallback_duplicates_unfixed` (negation on a witness);
  * INSIDE the final step, process death after the destination is written: the statement is FALSE
    of the code — `C08_crash_inside_compress_duplicates` (negation on a witness; known finding
    `C08/crash-inside-compress-duplicates`);
  * a RESTARTED `append(false)` appender after an interrupted rotation truncates the chunk the
    completed rotation would retain: `C08_restart_after_interrupted_partial` holds for append mode,
    `C08_truncate_restart_loses_interrupted_chunk` is the negation of the unrestricted statement
    (known finding `C08/truncate-restart-after-interrupted-roll`); `C08_history_gap_free_partial`
    carries the same restriction as its visible hypothesis `hr`.
Torn writes inside the copy, failures of `open`/`write` themselves and a partial effect of a SHIFT
(copy fallback of a shift whose source cannot be removed) are outside the model.
-/
namespace Log4rs.Roller
open Log4rs.Str

/-- Crash safety: the process dies after `k` completed steps (any `k`, including 0 and "all").
The reading of the disk is then a suffix of the reading before the rotation (gap-free, order
kept), and everything the completed rotation would retain is still there: `retain` is a suffix
of it, and each of its chunks sits under a name the roller manages or at the active path. -/
theorem C08_crash_safe (r : RollerCfg) (file : Path) (dec : Bytes → Bytes) (d : Disk) (k : Nat)
    (hinj : NamesInj r) (hfa : FileApart r file) (hdec : ∀ x, dec (r.enc x) = x)
    (hc : r.count ≠ 0) :
    readBack dec r file (crashAfter r file k d) <:+ readBack dec r file d ∧
    retain dec r file d <:+ readBack dec r file (crashAfter r file k d) ∧
    ∀ y ∈ retain dec r file d,
      (∃ j z, j < r.count ∧ slot r (crashAfter r file k d) (r.base + j) = some z ∧ dec z = y) ∨
        (crashAfter r file k d).get? file = some y := by
  obtain ⟨h1, h2⟩ := crash_sandwich hinj hfa dec hdec hc k d
  exact ⟨h1, h2, fun y hy => mem_readBack (h2.subset hy)⟩

/-- Fault safety: whatever step fails (any fault oracle), the roll returns `ok` or `err` — never a
panic inside the `u32` guard — and the disk it leaves is the disk after some number of completed
steps, so the guarantee of `C08_crash_safe` holds for it. -/
theorem C08_fault_safe (r : RollerCfg) (file : Path) (dec : Bytes → Bytes) (d : Disk)
    (fault : Nat → Bool)
    (hg : r.base + r.count ≤ U32_MOD)
    (hinj : NamesInj r) (hfa : FileApart r file) (hdec : ∀ x, dec (r.enc x) = x)
    (hc : r.count ≠ 0) :
    (rollU32 r file fault d).1.isPanic = false ∧
    (∃ k, (rollU32 r file fault d).2 = crashAfter r file k d) ∧
    readBack dec r file (rollU32 r file fault d).2 <:+ readBack dec r file d ∧
    retain dec r file d <:+ readBack dec r file (rollU32 r file fault d).2 := by
  obtain ⟨k, hk⟩ := fault_is_crash r file fault d
  rw [rollU32_disk hg, hk]
  obtain ⟨h1, h2⟩ := crash_sandwich hinj hfa dec hdec hc k d
  exact ⟨rollU32_not_panic r file fault d hg, ⟨k, rfl⟩, h1, h2⟩

/-- Recovery, one rotation: from ANY disk a failed or interrupted rotation may have left (no
assumption on the window at all), once nothing obstructs, rolling a file succeeds, puts it into
slot `base`, removes it from its path, and loses nothing but what a rotation evicts. -/
theorem C08_recovery_next_rotation (r : RollerCfg) (file : Path) (dec : Bytes → Bytes) (d : Disk)
    (y : Bytes)
    (hg : r.base + r.count ≤ U32_MOD)
    (hinj : NamesInj r) (hfa : FileApart r file) (hdec : ∀ x, dec (r.enc x) = x)
    (hc : r.count ≠ 0) (hy : d.get? file = some y) :
    ∃ d', rollU32 r file (fun _ => false) d = (.ok d', d') ∧
      slot r d' r.base = some (r.enc y) ∧ d'.get? file = none ∧
      readBack dec r file d' <:+ readBack dec r file d := by
  obtain ⟨d', h0, h2, hs⟩ := rollU32_slots r file d y hg hc hinj hfa hy
  refine ⟨d', h0, (hs _).trans (if_pos rfl), h2, ?_⟩
  have := (C08_fault_safe r file dec d (fun _ => false) hg hinj hfa hdec hc).2.2.1
  rw [h0] at this
  exact this

/-- Recovery, the window invariant for data written afterwards: from ANY disk, after rolling
`y₁ … yₙ` without obstruction, slot `base+j` holds `y_{n-j}` for every `j < min n count` — exactly
the conclusion of C07 for the new data, whatever the failed rotation left behind. -/
theorem C08_recovery (r : RollerCfg) (file : Path) (d : Disk) (ys : List Bytes)
    (hg : r.base + r.count ≤ U32_MOD)
    (hinj : NamesInj r) (hfa : FileApart r file) (hc : r.count ≠ 0) :
    ∀ j, j < ys.length → j < r.count →
      slot r (rollMany r file ys d) (r.base + j) = (ys.reverse[j]?).map r.enc := by
  intro j hj hjc
  have hw : WindowOn r d 0 [] := fun j hj => absurd hj (Nat.not_lt_zero j)
  rw [hw.rollMany hg hc hinj hfa ys (Or.inl (Nat.le_refl 0)) j ((Nat.zero_add _).symm ▸ hj) hjc,
    List.append_nil, List.getElem?_map]

/-- The failing append reports an error instead of panicking (every fault oracle, both trigger
kinds, both open modes). -/
theorem C08_append_never_panics (c : AppCfg) (fault : Nat → Bool) (answer : Bool) (rec : Bytes)
    (st : AppState) (hg : c.roller.base + c.roller.count ≤ U32_MOD)
    (hinv : st.writerOpen = true → st.openedOnce = true) :
    (appendOp c fault answer rec st).1 ≠ .panic := by
  cases answer with
  | true => exact (appendOp_roll_outcome c fault rec st hg hinv).1
  | false => rw [appendOp_plain]; exact fun h => nomatch h

/-- The append whose rotation fails, in both open modes and for both trigger kinds: the disk it
leaves keeps every chunk the completed rotation would retain, in order (bytes of `retain` are a
suffix of the bytes on disk, which are a suffix of the bytes at the start of the rotation); the
writer is closed, so the next append reopens the file. -/
theorem C08_failed_append_safe (c : AppCfg) (fault : Nat → Bool) (rec : Bytes) (st : AppState)
    (dec : Bytes → Bytes)
    (hg : c.roller.base + c.roller.count ≤ U32_MOD)
    (hinj : NamesInj c.roller) (hfa : FileApart c.roller c.file)
    (hdec : ∀ x, dec (c.roller.enc x) = x) (hc : c.roller.count ≠ 0)
    (hinv : st.writerOpen = true → st.openedOnce = true)
    (herr : (appendOp c fault true rec st).1 = .err) :
    flat (retain dec c.roller c.file (rotationStart c rec st).disk) <:+
        flat (readBack dec c.roller c.file (appendOp c fault true rec st).2.disk) ∧
    flat (readBack dec c.roller c.file (appendOp c fault true rec st).2.disk) <:+
        flat (readBack dec c.roller c.file (rotationStart c rec st).disk) ∧
    (appendOp c fault true rec st).2.writerOpen = false := by
  obtain ⟨⟨k, hk⟩, hw, _⟩ := (appendOp_roll_outcome c fault rec st hg hinv).2 herr
  obtain ⟨h1, h2⟩ := crash_sandwich hinj hfa dec hdec hc k (rotationStart c rec st).disk
  rw [hk]
  exact ⟨flat_suffix h2, flat_suffix h1, hw⟩

/-- The continuation clause, as the statement words it: after an append whose rotation failed,
the next plain append of the same appender still has on disk everything the completed rotation
would retain, followed by the new record. `every` selects the open-option logic: `false` = the
code (truncate at the first open only), `true` = the code before the fix b8295bc. -/
def C08_continuation_statement (every : Bool) : Prop :=
  ∀ (c : AppCfg) (fault : Nat → Bool) (rec1 rec2 : Bytes) (st : AppState),
    c.truncateEveryReopen = every →
    c.roller.base + c.roller.count ≤ U32_MOD → c.roller.count ≠ 0 →
    NamesInj c.roller → FileApart c.roller c.file → c.roller.comp = .none →
    st.writerOpen = true → st.openedOnce = true →
    (appendOp c fault true rec1 st).1 = .err →
    flat (retain id c.roller c.file (rotationStart c rec1 st).disk) ++ rec2 <:+
      flat (readBack id c.roller c.file
        (appendOp c (fun _ => false) false rec2 (appendOp c fault true rec1 st).2).2.disk)

/-- The clause for every compression and decoder: append mode under either open-option logic, and
truncate mode when truncation is confined to the first open of the appender's life (the code). -/
theorem C08_continuation_partial (c : AppCfg) (fault : Nat → Bool) (rec1 rec2 : Bytes)
    (st : AppState) (dec : Bytes → Bytes)
    (hnt : c.mode = .append ∨ c.truncateEveryReopen = false)
    (hg : c.roller.base + c.roller.count ≤ U32_MOD) (hc : c.roller.count ≠ 0)
    (hinj : NamesInj c.roller) (hfa : FileApart c.roller c.file)
    (hdec : ∀ x, dec (c.roller.enc x) = x)
    (hinv : st.writerOpen = true → st.openedOnce = true)
    (herr : (appendOp c fault true rec1 st).1 = .err) :
    (appendOp c (fun _ => false) false rec2 (appendOp c fault true rec1 st).2).1 = .ok ∧
    flat (retain dec c.roller c.file (rotationStart c rec1 st).disk) ++ rec2 <:+
      flat (readBack dec c.roller c.file
        (appendOp c (fun _ => false) false rec2 (appendOp c fault true rec1 st).2).2.disk) := by
  obtain ⟨hs1, _, _⟩ := C08_failed_append_safe c fault rec1 st dec hg hinj hfa hdec hc hinv herr
  obtain ⟨_, hw, ho⟩ := (appendOp_roll_outcome c fault rec1 st hg hinv).2 herr
  generalize (appendOp c fault true rec1 st).2 = st1 at *
  have hnotr : c.truncates st1 = false := by
    rcases hnt with h | h
    · unfold AppCfg.truncates
      rw [h]
    · exact truncates_false h ho
  rw [appendOp_plain]
  refine ⟨rfl, ?_⟩
  rw [stream_writeRec c hfa dec, getWriter_keep c hfa dec st1 hnotr]
  exact List.suffix_append_self_iff.2 hs1

/-- **The continuation clause holds of the code** (both open modes, pre- and post-process
triggers, every window size, every fault oracle). -/
theorem C08_continuation : C08_continuation_statement false := by
  intro c fault rec1 rec2 st htr hg hc hinj hfa hcomp hw ho herr
  exact (C08_continuation_partial c fault rec1 rec2 st id (Or.inr htr) hg hc hinj hfa
    (enc_plain hcomp) (fun _ => ho) herr).2

/-- Any continuation of the history: start from any state of a built appender (`Good`), let one
append run with an arbitrary fault oracle (the failed or interrupted rotation), then ANY history
of appends — plain or rotating, each with its own arbitrary fault oracle — and restarts. In the
state reached: (1) a plain append succeeds and appends its record to the stream; (2) a rotating
append never panics and, whatever fails, keeps on disk what its completed rotation would retain,
in order; (3) an unobstructed rotating append succeeds and leaves exactly what the completed
rotation retains — "resumes writing and rotating without manual intervention". -/
theorem C08_continuation_any_history (c : AppCfg) (dec : Bytes → Bytes) (st : AppState)
    (fault0 : Nat → Bool) (answer0 : Bool) (rec0 : Bytes) (hist : List HOp)
    (htr : c.truncateEveryReopen = false)
    (hg : c.roller.base + c.roller.count ≤ U32_MOD) (hc : c.roller.count ≠ 0)
    (hinj : NamesInj c.roller) (hfa : FileApart c.roller c.file)
    (hdec : ∀ x, dec (c.roller.enc x) = x) (hgood : Good c st) :
    let stN := runHist c hist (appendOp c fault0 answer0 rec0 st).2
    Good c stN ∧
    (∀ rec f, (appendOp c f false rec stN).1 = .ok ∧
      stm dec c (appendOp c f false rec stN).2.disk = stm dec c stN.disk ++ rec) ∧
    (∀ rec f, (appendOp c f true rec stN).1 ≠ .panic ∧
      flat (retain dec c.roller c.file (rotationStart c rec stN).disk) ++
          (if c.pre && (appendOp c f true rec stN).1 == .ok then rec else []) <:+
        stm dec c (appendOp c f true rec stN).2.disk ∧
      stm dec c (appendOp c f true rec stN).2.disk <:+
        stm dec c (rotationStart c rec stN).disk ++
          (if c.pre && (appendOp c f true rec stN).1 == .ok then rec else [])) ∧
    (∀ rec, (appendOp c (fun _ => false) true rec stN).1 = .ok ∧
      stm dec c (appendOp c (fun _ => false) true rec stN).2.disk =
        flat (retain dec c.roller c.file (rotationStart c rec stN).disk) ++
          (if c.pre then rec else [])) := by
  intro stN
  have hN : Good c stN := good_runHist hist (good_appendOp fault0 answer0 rec0 hgood)
  refine ⟨hN,
    fun rec f => stm_plain c dec f rec stN htr hfa hN,
    fun rec f => stm_rotating c dec f rec stN htr hg hc hinj hfa hdec hN,
    fun rec => ?_⟩
  -- the writer is open when the rotation starts, so there is a file to roll and the roll goes through
  obtain ⟨x, hx⟩ := (good_rotationStart rec hN).2
  obtain ⟨d', hroll, _⟩ := fixedWindowRoll_ok c.roller c.file _ x hc hfa hx
  have hres : (appendOp c (fun _ => false) true rec stN).1 = .ok := by
    rw [appendOp_roll, processRoll_guarded c _ _ hg, hroll]
    cases c.pre <;> rfl
  refine ⟨hres, ?_⟩
  rw [stm_appendOp_roll c dec _ rec stN htr hg hfa hN, hres]
  cases c.pre <;> rfl

/-- Gap-free suffix over whole histories — PARTIAL: restarts are covered in append mode only
(hypothesis `hr`); for `append(false)` the unrestricted statement is false
(`C08_truncate_restart_loses_interrupted_chunk`). For every history of appends (plain or rotating,
with arbitrary faults) — and restarts, when the appender is in append mode — the stream read back from
disk is a suffix of "the stream at the beginning followed by every record written": nothing is
lost from the middle, reordered or duplicated, however many rotations failed on the way. -/
theorem C08_history_gap_free_partial (c : AppCfg) (dec : Bytes → Bytes) (st : AppState) (hist : List HOp)
    (htr : c.truncateEveryReopen = false)
    (hg : c.roller.base + c.roller.count ≤ U32_MOD) (hc : c.roller.count ≠ 0)
    (hinj : NamesInj c.roller) (hfa : FileApart c.roller c.file)
    (hdec : ∀ x, dec (c.roller.enc x) = x)
    (hr : c.mode = .append ∨ ∀ op ∈ hist, op.isRestart = false) (hgood : Good c st) :
    stm dec c (runHist c hist st).disk <:+ stm dec c st.disk ++ writtenBy c hist st := by
  induction hist generalizing st with
  | nil => exact (List.append_nil _).symm ▸ List.suffix_refl _
  | cons op rest ih =>
    have hnext := ih (runOp c op st).2 (hr.imp_right (fun hr o ho => hr o (List.mem_cons_of_mem _ ho)))
      (good_runOp op hgood)
    have hstep : stm dec c (runOp c op st).2.disk <:+ stm dec c st.disk ++ writtenOp c op st := by
      cases op with
      | restart =>
        have hm : c.mode = .append :=
          hr.elim id (fun hr => nomatch hr HOp.restart (List.mem_cons_self ..))
        show stm dec c (restartOp c st.disk).disk <:+ stm dec c st.disk ++ []
        rw [stm_restart c dec _ hfa, hm, List.append_nil]
        exact List.suffix_refl _
      | append rec answer fault =>
        cases answer with
        | false =>
          show stm dec c (appendOp c fault false rec st).2.disk <:+
            stm dec c st.disk ++ (if c.pre && false && _ then [] else rec)
          rw [(stm_plain c dec fault rec st htr hfa hgood).2, Bool.and_false, Bool.false_and]
          exact List.suffix_refl _
        | true =>
          -- `stm_rotating` with the stream at rotation start spelt out
          obtain ⟨_, _, hup⟩ := stm_rotating c dec fault rec st htr hg hc hinj hfa hdec hgood
          rw [stm_rotationStart c dec rec st htr hfa hgood, List.append_assoc] at hup
          have hw : (if c.pre then [] else rec) ++
              (if c.pre && (appendOp c fault true rec st).1 == .ok then rec else []) =
              if c.pre && true && (appendOp c fault true rec st).1 != .ok then [] else rec := by
            cases c.pre with
            | false => exact List.append_nil rec
            | true => cases (appendOp c fault true rec st).1 <;> rfl
          rw [hw] at hup
          exact hup
    refine List.IsSuffix.trans hnext ?_
    show _ <:+ stm dec c st.disk ++ (writtenOp c op st ++ _)
    rw [← List.append_assoc]
    exact List.suffix_append_self_iff.2 hstep

/-- A restarted appender: in append mode the stream is unchanged; with `append(false)` exactly the
active file is discarded, as configured, and every archive stays. -/
theorem C08_restart (c : AppCfg) (dec : Bytes → Bytes) (d : Disk) (hfa : FileApart c.roller c.file) :
    Good c (restartOp c d) ∧
    stm dec c (restartOp c d).disk =
      match c.mode with
      | .append => stm dec c d
      | .truncate => flat ((windowChunks c.roller d c.roller.count).map dec) :=
  ⟨good_restart c d, stm_restart c dec d hfa⟩

/-! ### F10: the negation of the full statement, on a concrete 3-operation witness -/

section Witness
def wPat : List Char := ['a', '.', '{', '}']
def wFile : Path := ['a']
/-- `append(false)`, post-process trigger, window of one -/
def wCfg (everyReopen : Bool) : AppCfg :=
  { mode := .truncate, pre := false, file := wFile, roller := mkRoller id id wPat 0 1,
    truncateEveryReopen := everyReopen }
/-- the appender has acknowledged `aaa|` (bytes [1]) -/
def wState : AppState := { disk := ⟨[(wFile, [1])]⟩, writerOpen := true, openedOnce := true }
/-- the only step of the rotation (the final move) fails -/
def wFault : Nat → Bool := fun k => k == 0

theorem wPat_inj (i j : Nat) (h : name id wPat i = name id wPat j) : i = j :=
  substIdx_decimal_inj wPat (by decide) i j h

/-- a name of `wPat` has at least two characters, so it is no path of one -/
theorem wPat_apart (p : Path) (hp : p.length = 1) : ∀ i, name id wPat i ≠ p := by
  intro i h
  have : (name id wPat i).length = 1 := by rw [h, hp]
  simp [name, wPat, substIdx] at this

/-- append `bbb|` ([2]) with a failing roll, then append `ccc|` ([3]): the code as it is leaves
only `ccc|` on disk — `aaa|bbb|` is gone -/
theorem C08_truncate_reopen_witness_unfixed :
    (appendOp (wCfg true) (fun _ => false) false [3] (appendOp (wCfg true) wFault true [2] wState).2).2.disk.get? wFile
      = some [3] ∧
    (appendOp (wCfg true) wFault true [2] wState).1 = .err := by decide +kernel

/-- Before the fix b8295bc the continuation statement was false (defect F10). -/
theorem C08_truncate_reopen_loses_data_unfixed : ¬ C08_continuation_statement true := by
  intro h
  have := h (wCfg true) wFault [2] [3] wState rfl (by decide) (by decide) wPat_inj
    (wPat_apart wFile rfl) rfl rfl rfl (by decide)
  revert this
  decide +kernel

/-- with truncation confined to the first open (the code since the fix) the same history keeps
`aaa|bbb|ccc|` -/
example :
    (appendOp (wCfg false) (fun _ => false) false [3] (appendOp (wCfg false) wFault true [2] wState).2).2.disk.get? wFile
      = some [1, 2, 3] := by decide +kernel
end Witness

/-! ### inside the final step: faults with a partial effect, and process death -/

/-- Fault safety extended to a fault WITH AN EFFECT: the final step has written slot `base` (copy
fallback of `move_file`, or the compressing copy), cannot remove the rolled file, and removes what
it wrote again. For every disk, window, compression: the disk it leaves reads as a suffix of the
reading at the start and keeps everything the completed rotation retains (with each retained chunk
under a managed name or the active path). -/
theorem C08_fault_safe_partial_effect (r : RollerCfg) (file : Path) (dec : Bytes → Bytes) (d : Disk)
    (hinj : NamesInj r) (hfa : FileApart r file) (hdec : ∀ x, dec (r.enc x) = x)
    (hc : r.count ≠ 0) :
    readBack dec r file (failedFinal true r file d) <:+ readBack dec r file d ∧
    retain dec r file d <:+ readBack dec r file (failedFinal true r file d) ∧
    ∀ y ∈ retain dec r file d,
      (∃ j z, j < r.count ∧ slot r (failedFinal true r file d) (r.base + j) = some z ∧ dec z = y) ∨
        (failedFinal true r file d).get? file = some y := by
  obtain ⟨h1, h2⟩ := failedFinal_discard_safe hinj hfa dec hdec hc d
  exact ⟨h1, h2, fun y hy => mem_readBack (h2.subset hy)⟩

/-- The guarantee for a plain final move that fails half-way, with the behaviour of the failing
step as a parameter: `discard = true` — the copy is removed again; `false` — it stays. -/
def C08_partial_final_statement (discard : Bool) : Prop :=
  ∀ (r : RollerCfg) (file : Path) (d : Disk),
    NamesInj r → FileApart r file → r.count ≠ 0 → r.comp = .none →
    readBack id r file (failedFinal discard r file d) <:+ readBack id r file d ∧
      retain id r file d <:+ readBack id r file (failedFinal discard r file d)

/-- the code since the repair (`FinalCfg.moveDiscardsCopy = true`) -/
theorem C08_partial_final_safe : C08_partial_final_statement true := by
  intro r file d hinj hfa hc hcomp
  exact failedFinal_discard_safe hinj hfa id (enc_plain hcomp) hc d

/-- the same appender continues after such a failure as after any failed rotation: the state is
`Good`, so `C08_continuation_any_history` applies to it -/
theorem C08_partial_final_continues (f : FinalCfg) (c : AppCfg) (rec : Bytes) (st : AppState) :
    (appendOpPartial f c rec st).1 = .err ∧ (appendOpPartial f c rec st).2.writerOpen = false := by
  unfold appendOpPartial processRollPartial
  cases c.pre <;> exact ⟨rfl, rfl⟩

/-- Before the repair the statement was false: a window of two, no archive yet, active file `[1]`:
the failed move leaves `[1]` in slot 0 AND at the active path — the reading `[1],[1]` is not a
suffix of `[1]` (finding `C08/move-fallback-duplicates`). -/
theorem C08_move_fallback_duplicates_unfixed : ¬ C08_partial_final_statement false := by
  intro h
  have := (h (mkRoller id id wPat 0 2) wFile ⟨[(wFile, [1])]⟩
    wPat_inj (wPat_apart wFile rfl)
    (by decide) rfl).1
  revert this
  decide +kernel

/-- the roller of the witness below: the names of `wPat`, gzip (the codec is the identity here,
as in the driver, whose observer decodes the archives) -/
def wGz : RollerCfg := { nameOf := name id wPat, base := 0, count := 2, comp := .gzip, codec := id }

/-- C08's crash clause read for EVERY point of the rotation, including the point inside the final
step where slot `base` is written and the rolled file not yet removed. -/
def C08_crash_inside_final_statement : Prop :=
  ∀ (r : RollerCfg) (file : Path) (dec : Bytes → Bytes) (d : Disk),
    NamesInj r → FileApart r file → (∀ x, dec (r.enc x) = x) → r.count ≠ 0 →
    readBack dec r file (midFinal r file d) <:+ readBack dec r file d

/-- …which is false of the code (known finding `C08/crash-inside-compress-duplicates`): gzip,
window of two, active file `[1]`: the image holds `[1]` in slot 0 and at the active path.
`C08_crash_safe` covers the step boundaries only. -/
theorem C08_crash_inside_compress_duplicates : ¬ C08_crash_inside_final_statement := by
  intro h
  have := h wGz wFile id ⟨[(wFile, [1])]⟩
    wPat_inj (wPat_apart wFile rfl)
    (fun x => rfl) (by decide)
  revert this
  decide +kernel

/-- and nothing repairs it: the restarted appender (append mode) continues the active file, and its
next unobstructed rotation archives the same chunk again — the reading is `[1],[1,2]` -/
theorem C08_crash_inside_compress_archived_twice :
    let c : AppCfg := { mode := .append, pre := false, file := wFile, roller := wGz }
    let st := restartOp c (midFinal wGz wFile ⟨[(wFile, [1])]⟩)
    readBack id wGz wFile (appendOp c (fun _ => false) true [2] st).2.disk = [[1], [1, 2]] := by
  decide +kernel

/-! ### a restarted appender after an interrupted rotation -/

/-- the statement's "or a restarted one": after a process death at any step boundary, the restarted
appender still has on disk what the completed rotation would retain -/
def C08_restart_after_interrupted_statement : Prop :=
  ∀ (c : AppCfg) (d : Disk) (k : Nat),
    c.truncateEveryReopen = false → NamesInj c.roller → FileApart c.roller c.file →
    c.roller.count ≠ 0 → c.roller.comp = .none →
    flat (retain id c.roller c.file d) <:+
      stm id c (restartOp c (crashAfter c.roller c.file k d)).disk

/-- PARTIAL: it holds for appenders in append mode (every decoder and compression) -/
theorem C08_restart_after_interrupted_partial (c : AppCfg) (dec : Bytes → Bytes) (d : Disk) (k : Nat)
    (hm : c.mode = .append)
    (hinj : NamesInj c.roller) (hfa : FileApart c.roller c.file)
    (hdec : ∀ x, dec (c.roller.enc x) = x) (hc : c.roller.count ≠ 0) :
    flat (retain dec c.roller c.file d) <:+
      stm dec c (restartOp c (crashAfter c.roller c.file k d)).disk := by
  have h := (C08_restart c dec (crashAfter c.roller c.file k d) hfa).2
  rw [hm] at h
  rw [h]
  exact flat_suffix (crash_sandwich hinj hfa dec hdec hc k d).2

/-- and is false for `append(false)`: the restarted appender truncates the active file, which after
a death before the final move still holds the chunk the completed rotation would archive (known
finding `C08/truncate-restart-after-interrupted-roll`; witness: window of one, active file `[1]`,
death before the only step) -/
theorem C08_truncate_restart_loses_interrupted_chunk : ¬ C08_restart_after_interrupted_statement := by
  intro h
  have := h (wCfg false) ⟨[(wFile, [1])]⟩ 0 rfl wPat_inj (wPat_apart wFile rfl) (by decide) rfl
  revert this
  decide +kernel

/-! ### the `background_rotation` feature: a crash between the two phases -/

/-- Inside phase 2 the rotation is as crash-safe as the foreground one — if the temp name is
counted as the place of the rolled file: after any number of completed steps everything the
completed rotation retains is readable from the archive names and the temp file. -/
theorem C08_background_phase2_safe (r : RollerCfg) (tmp : Path) (dec : Bytes → Bytes) (d : Disk)
    (k : Nat) (hinj : NamesInj r) (hta : FileApart r tmp) (hdec : ∀ x, dec (r.enc x) = x)
    (hc : r.count ≠ 0) :
    readBack dec r tmp (crashAfter r tmp k d) <:+ readBack dec r tmp d ∧
      retain dec r tmp d <:+ readBack dec r tmp (crashAfter r tmp k d) :=
  crash_sandwich hinj hta dec hdec hc k d

/-- C08's crash clause read for background rotation: after a process death between phase 1 (the
log file renamed to the temp name, `roll` returned Ok) and the end of phase 2, everything the
completed rotation would retain is on disk under a name the roller manages or the active path. -/
def C08_background_crash_statement : Prop :=
  ∀ (r : RollerCfg) (file tmp : Path) (d : Disk),
    NamesInj r → FileApart r file → FileApart r tmp → tmp ≠ file → r.count ≠ 0 →
    r.comp = .none → d.get? tmp = none →
    retain id r file d <:+ readBack id r file (crashAfterPhase1 file tmp d)

/-- …which is false: the rolled content sits under the temp name, which is neither (finding
`C08/background-temp-file-stranded`; witness: one archive `[1]`, active file `[2]`). -/
theorem C08_background_temp_stranded : ¬ C08_background_crash_statement := by
  intro h
  have := h (mkRoller id id wPat 0 2) wFile ['t'] ⟨[(name id wPat 0, [1]), (wFile, [2])]⟩
    wPat_inj (wPat_apart wFile rfl)
    (wPat_apart ['t'] rfl)
    (by decide) (by decide) rfl (by decide)
  revert this
  decide +kernel

/-- and it stays there: no later rotation of the same or of a restarted appender — foreground, or
background at quiescence — ever touches the temp name again; the data is never archived. -/
theorem C08_background_stranded_forever (r : RollerCfg) (file tmp : Path) (d : Disk) (x : Bytes)
    (ys : List Bytes) (hg : r.base + r.count ≤ U32_MOD)
    (hne : tmp ≠ file) (hta : FileApart r tmp) (hx : d.get? file = some x) :
    (rollMany r file ys (crashAfterPhase1 file tmp d)).get? tmp = some x := by
  rw [rollMany_frame r file ys hg tmp hne (fun i _ _ e => hta i e.symm)]
  exact (get?_moveFile_some tmp hx tmp).trans (if_pos rfl)

/-! ### non-vacuity (tests on samples) -/

section Examples
def exR : RollerCfg := mkRoller id id wPat 0 3

/-- a window [A,B,C] and an active file x: after the first shift (crash after 1 step) C is gone —
it was due for eviction — and the reading is B, A, x; the completed rotation retains exactly that -/
example :
    let d : Disk := ⟨[(name id wPat 0, [65]), (name id wPat 1, [66]), (name id wPat 2, [67]), (wFile, [120])]⟩
    (readBack id exR wFile d, readBack id exR wFile (crashAfter exR wFile 1 d), retain id exR wFile d) =
      ([[67], [66], [65], [120]], [[66], [65], [120]], [[66], [65], [120]]) := by decide +kernel
end Examples

end Log4rs.Roller
