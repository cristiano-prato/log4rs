import Log4rsModel.System.RollingLemmas
import Log4rsModel.Properties.System
/-
System slice, stage 2 (C) (audited under C01 through `extra_proof_modules`): rolling appenders
(`RollingFileAppender` + `CompoundPolicy(SizeTrigger(limit), FixedWindowRoller | DeleteRoller)`) as a
third kind of sink next to plain file appenders, in one configuration with them.

The generic theorem `C01_sys_sinks_see_delivered_stream` says that the appender behind every name —
whatever it is — is fed exactly the stream of encoded records the specification delivers to it
(`deliveredStream`: per record `specCopies` copies of `specLine`, in call order). For a rolling
appender the feed is a history of the C05 / C06 appender model (Rolling/Model.lean), so the C05 / C06
theorems apply to it verbatim (`C01_sys_rolling_eq_spec`, `C01_sys_rolling_bounded_partial`).
Only property theorems and examples live here.
-/
namespace Log4rs.System
open Log4rs Log4rs.Routing Log4rs.Routing.Tree Log4rs.Pattern Log4rs.Pattern.Parse Log4rs.Rolling Log4rs.Roller

/-- GENERIC. For every configuration with a `Valid` routing part whose pattern appenders carry
printed well-formed ASTs — file appenders and rolling appenders mixed in any way — and every history:
nothing panics, and the built appender behind every name of the table ends in the state obtained by
handing it, one after the other, exactly the encoded records the specification delivers to that name
(`specCopies` copies of `specLine` per record, in call order) — nothing else, nothing missing. -/
theorem C01_sys_sinks_see_delivered_stream (cfg : SysConfig) (asts : Name → List Pat) (h : SysWFR cfg asts)
    (rs : List SysRecord) (hd : ∀ r ∈ rs, DatesOkR cfg asts r) :
    ∃ st, sysRun cfg rs = .ok st ∧
      ∀ a ∈ cfg.routing.appenders, getApp st.apps a =
        some ((deliveredStream cfg asts a rs).foldl fileAppend (openSink (cfg.app a) (chunksFor cfg asts a))) := by
  obtain ⟨e', hs⟩ := sysRun_sinks cfg asts h rs hd
  exact ⟨_, hs, fun a ha => getApp_map _ _ a ha⟩

/-- a record routed `k` times to an appender is `k` consecutive whole records of its stream -/
theorem C01_sys_stream_copies_consecutive (cfg : SysConfig) (asts : Name → List Pat) (a : Name)
    (rs₁ rs₂ : List SysRecord) (r : SysRecord) :
    deliveredStream cfg asts a (rs₁ ++ r :: rs₂) =
      deliveredStream cfg asts a rs₁ ++ List.replicate (specCopies cfg a r) (specLine cfg asts a r) ++
        deliveredStream cfg asts a rs₂ := by
  simp [deliveredStream, List.flatMap_append, List.flatMap_cons]

/-- The rolling appender of the system IS the C05 / C06 appender model run on the delivered stream:
its directory after the history is the disk of `Rolling.grunX` (the run the C05 theorems speak about)
on one `append` per delivered record. -/
theorem C01_sys_rolling_is_c05_run (cfg : SysConfig) (asts : Name → List Pat) (h : SysWFR cfg asts)
    (rs : List SysRecord) (hd : ∀ r ∈ rs, DatesOkR cfg asts r)
    (a : Name) (ha : a ∈ cfg.routing.appenders) (spec : RollSpec) (hr : (cfg.app a).rolling = some spec)
    (arch : Disk → List Bytes) :
    let c := spec.cfg ((cfg.app a).mode == .append)
    ∃ st, sysRun cfg rs = .ok st ∧
      st.dir a = some (grunX c (init c spec.dir () 0) (Ghost.init c arch spec.dir)
        (streamOps (deliveredStream cfg asts a rs))).2.1.disk := by
  intro c
  obtain ⟨st, hs, hdir⟩ := sysRun_dir cfg asts h rs hd a ha spec hr
  exact ⟨st, hs, by rw [grunX_state]; exact hdir⟩

/-- MAIN THEOREM (C). For a rolling appender `a` of a well-formed configuration whose roller honours
`Roll::roll`'s contract with respect to a reading `arch` of its archives (`RollContractE`, proved in
C05 for the delete roller and for the fixed-window roller with an injective `{}` pattern): after any
history the retained files of `a`'s directory — archives oldest to newest, then the active file —
are the SEGMENTED STREAM minus its `k` oldest whole segments, `k` at most the number of rotations;
and the segmented stream is, item by item, what the directory held when the appender was built
(archives, then in append mode the log file) followed by exactly the encoded records routing and the
appender's filters delivered to it, each whole, in order, `specCopies` times — nothing lost from the
middle, duplicated, reordered or split (C05_no_loss_no_dup_order + C05_stream_is_written on the
delivered stream). -/
theorem C01_sys_rolling_eq_spec (cfg : SysConfig) (asts : Name → List Pat) (h : SysWFR cfg asts)
    (rs : List SysRecord) (hd : ∀ r ∈ rs, DatesOkR cfg asts r)
    (a : Name) (ha : a ∈ cfg.routing.appenders) (spec : RollSpec) (hr : (cfg.app a).rolling = some spec)
    (arch : Disk → List Bytes)
    (hc : RollContractE spec.roller.fn spec.active arch) :
    let c := spec.cfg ((cfg.app a).mode == .append)
    ∃ (st : FilesState) (d : Disk) (segs : List (List Bytes)) (k : Nat), sysRun cfg rs = .ok st ∧ st.dir a = some d ∧
      retained c arch d = (segs.drop k).map List.flatten ∧
      k < segs.length ∧ k ≤ (deliveredStream cfg asts a rs).length ∧
      segs.flatten = arch spec.dir ++ (if (cfg.app a).mode == .append then [fileOf c spec.dir] else []) ++
        deliveredStream cfg asts a rs := by
  intro c
  obtain ⟨st, hs, hdir⟩ := sysRun_dir cfg asts h rs hd a ha spec hr
  obtain ⟨segs, k, hret, hk, hkl, hsegs⟩ := stream_retained c rfl arch hc spec.dir (deliveredStream cfg asts a rs)
  exact ⟨st, _, segs, k, hs, hdir, hret, hk, hkl, hsegs⟩

/-- the delete roller honours the contract (it retains nothing): `C01_sys_rolling_eq_spec` applies
with `arch = fun _ => []` — the retained "files" are the active file alone -/
theorem C01_sys_rolling_contract_delete (active : List Char) :
    RollContractE RollerKind.delete.fn active (fun _ => []) := C05_contract_delete active

/-- the fixed-window roller with a `{}` pattern none of whose slots is the log file honours the
contract for the reading "slots `base+count-1 … base`, oldest first": `C01_sys_rolling_eq_spec` applies -/
theorem C01_sys_rolling_contract_fixed_window (p : List Char) (hp : hasHole p = true) (base count : Nat)
    (active : List Char) (hfile : ∀ j, j < count → name id p (base + j) ≠ active) :
    RollContractE (RollerKind.fixedWindow p base count).fn active (fwArch (mkRoller id id p base count) id) :=
  C05_contract_fixed_window_pattern p hp id id base count active (fun _ => rfl) hfile

/-- … and that reading is the executable `Spec.readBack` the driver evaluates on real directories -/
theorem C01_sys_rolling_readback (spec : RollSpec) (p : List Char) (base count : Nat)
    (am : Bool) (d : Disk) :
    (retained (spec.cfg am) (fwArch (mkRoller id id p base count) id) d).flatten =
      Spec.readBack (mkRoller id id p base count).nameOf base count spec.active d.get? :=
  C05_readBack_is_spec (spec.cfg am) (mkRoller id id p base count) d

/-- C06 inside the system: at EVERY delivery to a rolling appender — whatever was delivered before,
including the other copies of the same record — the policy is shown exactly the size of the log file
on disk plus the encoded record, and the roller is invoked iff that exceeds the limit; never
earlier, never deferred. (`pre`: the part of the delivered stream before this delivery.) -/
theorem C01_sys_rolling_rolls_iff_exceeds (spec : RollSpec) (am : Bool) (pre : List Bytes) (x : Bytes) :
    let c := spec.cfg am
    let s := rollFinal c (init c spec.dir () 0) (streamOps pre)
    let L := (fileOf c s.disk).length + x.length
    (append c s [x] (faultFn none)).1.consult = some (L, L) ∧
    ((append c s [x] (faultFn none)).1.rolled.isSome ↔ L > spec.limit) := by
  intro c s L
  have h := C06_rolls_iff_exceeds spec.active am spec.limit spec.roller.fn s [x] (faultFn none)
    (WF_rollFinal c _ _ (WF_init c spec.dir () 0))
  have hx : (encBytes [x]).length = x.length := by
    rw [encBytes, List.flatten_cons, List.flatten_nil, List.append_nil]
  have hc : sizeCfg spec.active am spec.limit spec.roller.fn = c := rfl
  rw [hc, hx] at h
  exact h

/-- THE FULL STATEMENT of the bound (C06 "S4") inside the system: after every delivery the log file
of a rolling appender has just been rotated away or holds at most `limit` bytes. Proved for the
delete roller and every plain fixed-window roller (`C01_sys_rolling_bounded_partial`, below); open
for compressed fixed-window patterns (`.gz` / `.zst`), where "the roller never returns `Err` without
an injected fault" needs more than `RollContractE`. The correspondence check evaluates the bound on
every snapshot (`specRollingOk`). -/
def C01_sys_rolling_bounded_statement : Prop :=
  ∀ (spec : RollSpec) (am : Bool) (arch : Disk → List Bytes), RollContractE spec.roller.fn spec.active arch →
    ∀ (pre : List Bytes) (x : Bytes),
      let c := spec.cfg am
      let d := (rollFinal c (init c spec.dir () 0) (streamOps (pre ++ [x]))).disk
      d.get? spec.active = none ∨ ∃ b, d.get? spec.active = some b ∧ b.length ≤ spec.limit

/-- (i) the delete roller: `remove_file` of an existing file, no injected fault -/
theorem C01_sys_rolling_delete_never_errs (path : Path) : NoErr RollerKind.delete.fn path :=
  deleteRoll_noErr path

/-- (i) the fixed-window roller with a plain (uncompressed) pattern: every step of the rotation is a
rename that tolerates a missing source, so without an injected fault it cannot fail (any base, any
count, `count = 0` included: then it is `remove_file` of the existing log file) -/
theorem C01_sys_rolling_plain_window_never_errs (p : List Char) (hplain : compressionOf p = .none)
    (base count : Nat) (path : Path) : NoErr (RollerKind.fixedWindow p base count).fn path :=
  fixedWindowRoll_plain_noErr (mkRoller id id p base count) (by dsimp only [mkRoller]; exact hplain) path

/-- THE BOUND, for every roller that honours `Roll::roll`'s contract (`RollContractE`) and cannot
fail without an injected fault (`NoErr`): after EVERY delivery to a rolling appender — whatever the
directory held before, whatever was delivered before, both open modes, any limit including 0 — the
log file has just been rotated away or holds at most `limit` bytes. -/
theorem C01_sys_rolling_bounded_of_noErr (spec : RollSpec) (am : Bool) (arch : Disk → List Bytes)
    (hc : RollContractE spec.roller.fn spec.active arch) (hne : NoErr spec.roller.fn spec.active)
    (pre : List Bytes) (x : Bytes) :
    let c := spec.cfg am
    let d := (rollFinal c (init c spec.dir () 0) (streamOps (pre ++ [x]))).disk
    d.get? spec.active = none ∨ ∃ b, d.get? spec.active = some b ∧ b.length ≤ spec.limit :=
  stream_bounded spec.active am spec.limit spec.roller.fn arch hc hne spec.dir pre x

/-- a roller of the system that is the delete roller or a fixed-window roller with a plain pattern -/
def PlainRoller : RollerKind → Prop
  | .delete => True
  | .fixedWindow p _ _ => compressionOf p = .none

/-- `C01_sys_rolling_bounded_statement` for the rollers the system slice builds and the harness
exercises: the delete roller and the fixed-window roller with a plain pattern (any base and count).
Still open in the full statement: fixed-window patterns ending in `.gz` / `.zst` (there the final
step opens the log file and can fail when a slot name coincides with it; `RollContractE` alone does
not exclude that in this proof). -/
theorem C01_sys_rolling_bounded_partial (spec : RollSpec) (am : Bool) (arch : Disk → List Bytes)
    (hc : RollContractE spec.roller.fn spec.active arch) (hplain : PlainRoller spec.roller)
    (pre : List Bytes) (x : Bytes) :
    let c := spec.cfg am
    let d := (rollFinal c (init c spec.dir () 0) (streamOps (pre ++ [x]))).disk
    d.get? spec.active = none ∨ ∃ b, d.get? spec.active = some b ∧ b.length ≤ spec.limit := by
  apply C01_sys_rolling_bounded_of_noErr spec am arch hc
  cases hk : spec.roller with
  | delete => exact C01_sys_rolling_delete_never_errs _
  | fixedWindow p base count =>
    rw [hk] at hplain
    exact C01_sys_rolling_plain_window_never_errs p hplain base count _

/-- … inside the system: after a history whose delivered stream to the rolling appender `a` is not
empty, the log file in `a`'s directory is gone or within the limit -/
theorem C01_sys_rolling_bounded_in_system (cfg : SysConfig) (asts : Name → List Pat) (h : SysWFR cfg asts)
    (rs : List SysRecord) (hd : ∀ r ∈ rs, DatesOkR cfg asts r)
    (a : Name) (ha : a ∈ cfg.routing.appenders) (spec : RollSpec) (hr : (cfg.app a).rolling = some spec)
    (arch : Disk → List Bytes) (hc : RollContractE spec.roller.fn spec.active arch)
    (hplain : PlainRoller spec.roller) (hne : deliveredStream cfg asts a rs ≠ []) :
    ∃ st d, sysRun cfg rs = .ok st ∧ st.dir a = some d ∧
      (d.get? spec.active = none ∨ ∃ b, d.get? spec.active = some b ∧ b.length ≤ spec.limit) := by
  obtain ⟨st, hs, hdir⟩ := sysRun_dir cfg asts h rs hd a ha spec hr
  refine ⟨st, _, hs, hdir, ?_⟩
  obtain ⟨pre, x, hsplit⟩ : ∃ pre x, deliveredStream cfg asts a rs = pre ++ [x] :=
    ⟨_, _, (List.dropLast_concat_getLast hne).symm⟩
  rw [hsplit]
  exact C01_sys_rolling_bounded_partial spec _ arch hc hplain pre x

/-! ### non-vacuity (tests on samples, not proofs of the property)

The stage-1 example with appender `f` (attached to the root, to `a` and to `a::b`: three copies of the
first record) turned into a rolling appender: limit 25 bytes, fixed window `arch.{}.log`, base 0,
count 2, log file `active.log` holding `P` beforehand, append mode. -/

def exRollSpec : RollSpec :=
  { limit := 25, roller := .fixedWindow cs!"arch.{}.log" 0 2, active := cs!"active.log",
    dir := ⟨[(cs!"active.log", [80])]⟩ }

def exCfgR : SysConfig :=
  { exCfg with app := fun a => if a = exF then { exCfg.app a with rolling := some exRollSpec } else exCfg.app a }

example : SysWFR exCfgR exAsts :=
  exSysWFR exCfgR rfl rfl rfl rfl exValid fun a => by unfold exCfgR; dsimp only; split <;> rfl

/-- the hypothesis of `C01_sys_rolling_contract_fixed_window` holds of the example's roller -/
example : hasHole cs!"arch.{}.log" = true ∧ ∀ j, j < 2 → name id cs!"arch.{}.log" (0 + j) ≠ cs!"active.log" := by
  refine ⟨rfl, ?_⟩
  intro j hj
  have : j = 0 ∨ j = 1 := by omega
  rcases this with rfl | rfl <;> decide

/-- test on a sample: the stream delivered to `f` is three copies of the first record's line and one
of the last record's (the second is rejected by `f`'s threshold, the third by the logger's level) -/
example : (deliveredStream exCfgR exAsts exF exRecords).map List.length = [11, 11, 11, 12] := by decide +kernel

/-- test on a sample: the directory after the history. `P` + line 1 (12 bytes) stays; + line 2 = 23;
+ line 3 = 34 > 25: rotation BETWEEN the copies of one record — the three copies are whole and
consecutive in `arch.0.log`; the last record starts the new log file. The executable C05 / C06
specification accepts it. -/
example : (sysRun exCfgR exRecords |> fun o => match o with | .ok st => st.dir exF | _ => none) =
    some ⟨[(cs!"arch.0.log", [80,
        32, 32, 73, 78, 70, 79, 195, 169, 104, 105, 10,
        32, 32, 73, 78, 70, 79, 195, 169, 104, 105, 10,
        32, 32, 73, 78, 70, 79, 195, 169, 104, 105, 10]),
      (cs!"active.log", [32, 69, 82, 82, 79, 82, 195, 169, 226, 130, 172, 10])]⟩ ∧
    specRollingOk exRollSpec true (deliveredStream exCfgR exAsts exF exRecords)
      (fun n => if n = cs!"arch.0.log" then some ((([80] : Bytes) :: (deliveredStream exCfgR exAsts exF exRecords).take 3).flatten)
        else if n = cs!"active.log" then (deliveredStream exCfgR exAsts exF exRecords)[3]? else none) = true := by
  decide +kernel

end Log4rs.System
