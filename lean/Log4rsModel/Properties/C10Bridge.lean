import Log4rsModel.Pattern.Bridge
import Log4rsModel.Pattern.TreeLemmas
import Log4rsModel.Pattern.EncodeLemmas
/-
C10 × C09/C11: the byte-level writer theorems speak about the real chunk table.
`toNode` maps every `Parse.Chunk` (the model of `impl From<Piece> for Chunk`) to a pattern tree of
the writer model; its `codeFmtOps` denotation is exactly `Parse.opsChunk`, the operation stream
the C09/C11 encoder model assigns to the chunk. Hence what C09 proves about `opsList` (for parsed
patterns: it is the pattern's meaning) holds for the BYTES the writer stack puts on the wire.
Only theorems here.
-/
namespace Log4rs.Pattern
open Log4rs

theorem C10_denotes_highlightNodes (level : Nat) (ns : List Node) :
    denotes (highlightNodes level ns) = Parse.wrapHighlight level (denotes ns) := by
  unfold highlightNodes Parse.wrapHighlight
  cases highlightStyle level with
  | none => rfl
  | some s => rw [denotes_append, denotes_append, denotes_singleton, denotes_singleton]; rfl

mutual
/-- the tree of a chunk denotes the chunk's operation stream -/
theorem C10_denote_toNode (env : Parse.Env) (r : Parse.Record) :
    ∀ c : Parse.Chunk, denote (toNode env r c) = Parse.opsChunk env r c
  | .text s => List.append_nil _
  | .error e => by
    rw [Parse.opsChunk_error, Parse.errorMarker, ofText_append, ofText_append, List.append_assoc]; rfl
  | .leaf k p => congrArg (codeFmtOps p) ((List.append_nil _).trans (List.append_nil _))
  | .group .align cs p => congrArg (codeFmtOps p) (C10_denotes_toNodes env r cs)
  | .group .highlight cs p =>
    congrArg (codeFmtOps p)
      ((C10_denotes_highlightNodes _ _).trans
        (congrArg (Parse.wrapHighlight r.level) (C10_denotes_toNodes env r cs)))
  | .group .debug cs p => by
    rw [toNode, Parse.opsChunk]
    cases env.debugBuild
    · rfl
    · exact congrArg (codeFmtOps p) (C10_denotes_toNodes env r cs)
  | .group .release cs p => by
    rw [toNode, Parse.opsChunk]
    cases env.debugBuild
    · exact congrArg (codeFmtOps p) (C10_denotes_toNodes env r cs)
    · rfl
theorem C10_denotes_toNodes (env : Parse.Env) (r : Parse.Record) :
    ∀ cs : List Parse.Chunk, denotes (toNodes env r cs) = Parse.opsList env r cs
  | [] => rfl
  | c :: cs => by
    rw [toNodes, denotes, Parse.opsList, C10_denote_toNode env r c, C10_denotes_toNodes env r cs]
end

/-- The byte-level writer stack, run over the chunk list of an encoder into a sink with any
acceptance oracle, emits exactly the rendering (UTF-8 of the characters, style calls in place) of
the operation stream `Parse.opsList` that the C09/C11 encoder model assigns to those chunks. -/
theorem Compose_C10_bytes_of_chunks (env : Parse.Env) (r : Parse.Record) (cs : List Parse.Chunk)
    (orc : List Nat) :
    (encodeNodes (toNodes env r cs) (W.sink orc [])).emitted = render (Parse.opsList env r cs) ∧
    bytesOf (encodeNodes (toNodes env r cs) (W.sink orc [])).emitted =
      utf8 (Parse.opsList env r cs).text := by
  have h := emitted_encodeNodes (toNodes env r cs) orc []
  rw [C10_denotes_toNodes, List.nil_append] at h
  exact ⟨h, by rw [h, bytesOf_render]⟩

/-- From the pattern string to the bytes: when `PatternEncoder::new(pattern)` (the C09/C11 model of
the parser and of `From<Piece> for Chunk`) yields the chunks `cs` and chrono renders their date
formats, the encoder model's outcome `run … pattern` is `ok o` and the byte-level writer stack over
those chunks emits exactly the rendering of the same `o`, for every acceptance oracle. -/
theorem Compose_C10_run_bytes (cc : Parse.CharClass) (P : Parse.Profile) (B : Parse.Build)
    (env : Parse.Env) (r : Parse.Record) (pattern : List Char) (cs : List Parse.Chunk)
    (orc : List Nat) (hnew : Parse.newEncoder cc P B pattern = .ok cs)
    (hd : ∀ x ∈ Parse.renderedTimesL env cs, env.strftimeOk x.1 = true) :
    ∃ o, Parse.run cc P B env r pattern = .ok o ∧
      (encodeNodes (toNodes env r cs) (W.sink orc [])).emitted = render o ∧
      bytesOf (encodeNodes (toNodes env r cs) (W.sink orc [])).emitted = utf8 o.text := by
  refine ⟨Parse.opsList env r cs, ?_, (Compose_C10_bytes_of_chunks env r cs orc).1,
    (Compose_C10_bytes_of_chunks env r cs orc).2⟩
  simp only [Parse.run, hnew]
  exact Parse.encList_eq_ops env r cs hd

end Log4rs.Pattern
