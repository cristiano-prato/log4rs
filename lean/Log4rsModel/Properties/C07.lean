import Log4rsModel.Roller.Lemmas
import Log4rsModel.Roller.LemmasName
import Log4rsModel.Roller.LemmasBg
/-
C07 — Fixed-window roller keeps the newest `count` files at base..base+count-1.
Only property theorems and non-vacuity examples; helpers are in Roller/Lemmas*.lean.

The window theorems are about `rollU32`, the model of `FixedWindowRoller::roll` (after the fix
e76ee7b) with the `u32` arithmetic explicit and the log file present. `rollProc` (Name.lean) is the
roll as a process sees it: it adds the two behaviours that do not depend on the window — no file to
roll (`checksFileFirst`) and an error printed to an unwritable stdout (`printsOnError`) — and is
`rollU32` otherwise (`C07_rollProc_present`). The guard `r.base + r.count ≤ 2^32` says that the window's
last index is a `u32`; it includes the boundary `base + count = 2^32` (e.g. base 2^32-1, count 1).
Outside the guard the builder returns Err (`C07_unrepresentable_rejected`) and no roll happens.
`C07_overflow_panics_unfixed` documents the behaviour before the fix (defect F11).
Hypotheses on names: `NamesInj` (discharged by `C07_name_injective`), `FileApart`.
-/
namespace Log4rs.Roller
open Log4rs.Str

/-- Slot names are pairwise different: a pattern the builder accepts (`{}` occurs) maps different
indices to different names, provided the `$ENV{}` expansion does not identify two of them. -/
theorem C07_name_injective (expand : List Char → List Char) (p : List Char)
    (hp : hasHole p = true)
    (hexp : ∀ i j, expand (substIdx (decimal i) p) = expand (substIdx (decimal j) p) →
      substIdx (decimal i) p = substIdx (decimal j) p)
    (i j : Nat) (h : name expand p i = name expand p j) : i = j :=
  substIdx_decimal_inj p hp i j (hexp i j h)

/-- … in particular without any `$ENV{}` reference (identity expansion) and for every injective
expansion -/
theorem C07_name_injective_of_injective (expand : List Char → List Char)
    (hinj : ∀ a b, expand a = expand b → a = b) (p : List Char) (hp : hasHole p = true) :
    NamesInj (mkRoller expand id p 0 0) :=
  fun i j h => C07_name_injective expand p hp (fun _ _ e => hinj _ _ e) i j h

/-- Frame: every path that is neither the rolled file nor `name i` for `i ∈ [b, b+c)` is left
untouched — for every fault oracle (successful roll or not), with no hypothesis on the names. -/
theorem C07_frame (r : RollerCfg) (file : Path) (fault : Nat → Bool) (d : Disk) (q : Path)
    (hg : r.base + r.count ≤ U32_MOD) (h1 : q ≠ file)
    (h2 : ∀ i, r.base ≤ i → i < r.base + r.count → q ≠ r.nameOf i) :
    (rollU32 r file fault d).2.get? q = d.get? q := by
  rw [rollU32_disk hg]
  exact fixedWindowRoll_frame r file fault d q h1 h2

/-- Arbitrary initial window (gaps, pre-existing archives): the roll succeeds, slot `b` holds the
rolled content (compressed if the pattern asks for it), the file is gone, and every archive has
moved up by exactly one slot: slot `b+j` (`1 ≤ j < c`) holds what slot `b+j-1` held; if that was
empty, slot `b+j` is empty too — except the last slot of the window, which then keeps its old
(still older) content. So relative age order is preserved, at most the archive in the last slot is
dropped, and indices outside `[b, b+c)` are not touched. -/
theorem C07_rotate_general (r : RollerCfg) (file : Path) (d : Disk) (x : Bytes)
    (hg : r.base + r.count ≤ U32_MOD) (hc : r.count ≠ 0)
    (hinj : NamesInj r) (hfa : FileApart r file) (hx : d.get? file = some x) :
    ∃ d', rollU32 r file (fun _ => false) d = (.ok d', d') ∧
      slot r d' r.base = some (r.enc x) ∧
      d'.get? file = none ∧
      (∀ j, 1 ≤ j → j < r.count → slot r d' (r.base + j) =
        match slot r d (r.base + j - 1) with
        | some y => some y
        | none => if j = r.count - 1 then slot r d (r.base + j) else none) ∧
      (∀ i, i < r.base ∨ r.base + r.count ≤ i → slot r d' i = slot r d i) := by
  obtain ⟨d', h0, h2, hs⟩ := rollU32_slots r file d x hg hc hinj hfa hx
  refine ⟨d', h0, (hs _).trans (if_pos rfl), h2, fun j h1 hj => ?_, fun i hi => ?_⟩
  · rw [hs, if_neg (Nat.ne_of_gt (Nat.lt_add_of_pos_right h1)),
      (slot_applyShifts hinj (r.count - 1) d).2 j h1 (Nat.le_sub_one_of_lt hj)]
    cases slot r d (r.base + j - 1) with
    | some y => rfl
    | none =>
      show (if j = r.count - 1 then _ else none) = if j = r.count - 1 then _ else none
      by_cases hlast : j = r.count - 1
      · rw [if_pos hlast, if_pos hlast, hlast]
      · rw [if_neg hlast, if_neg hlast]
  · rcases hi with hi | hi
    · rw [hs, if_neg (Nat.ne_of_lt hi)]
      exact slot_applyShifts_other hinj _ d i (Or.inl hi)
    · have hlast : r.base + (r.count - 1) < i :=
        Nat.lt_of_lt_of_le (Nat.add_lt_add_left (Nat.sub_one_lt hc) _) hi
      rw [hs, if_neg (Nat.ne_of_gt (Nat.lt_of_le_of_lt (Nat.le_add_right _ _) hlast))]
      exact slot_applyShifts_other hinj _ d i (Or.inr hlast)

/-- Dense window (`k ≤ c` archives at `b … b+k-1`, nothing above inside the window): after the
roll slot `b` holds the rolled content, slot `b+j+1` holds what slot `b+j` held (for `j+1 < c`),
so nothing else is in the window, and the rolled file is gone. -/
theorem C07_rotate_dense (r : RollerCfg) (file : Path) (d : Disk) (x : Bytes) (k : Nat)
    (hg : r.base + r.count ≤ U32_MOD) (hc : r.count ≠ 0)
    (hinj : NamesInj r) (hfa : FileApart r file) (hx : d.get? file = some x)
    (_hk : k ≤ r.count)
    (hdense : ∀ j, j < k → (slot r d (r.base + j)).isSome)
    (hempty : ∀ j, k ≤ j → j < r.count → slot r d (r.base + j) = none) :
    ∃ d', rollU32 r file (fun _ => false) d = (.ok d', d') ∧
      slot r d' r.base = some (r.enc x) ∧
      (∀ j, j + 1 < r.count → slot r d' (r.base + j + 1) = slot r d (r.base + j)) ∧
      d'.get? file = none := by
  obtain ⟨d', h0, h1, h2, h3, _⟩ := C07_rotate_general r file d x hg hc hinj hfa hx
  refine ⟨d', h0, h1, fun j hj => ?_, h2⟩
  show slot r d' (r.base + (j + 1)) = _
  rw [h3 (j + 1) (Nat.succ_le_succ (Nat.zero_le j)) hj, Nat.add_succ_sub_one]
  -- a gap at `j` lies above the `k` archives, and so does `j + 1`
  refine movedUp_of_dense (j + 1 = r.count - 1)
    (fun _ hs => hempty (j + 1) (Nat.le_succ_of_le (Nat.le_of_not_lt ?_)) hj)
  intro hjk
  have := hdense j hjk
  rw [hs] at this
  cases this

/-- One roll on a window described as a list (newest first). -/
theorem C07_roll_window (r : RollerCfg) (file : Path) (d : Disk) (x : Bytes) (ws : List Bytes)
    (hg : r.base + r.count ≤ U32_MOD) (hc : r.count ≠ 0)
    (hinj : NamesInj r) (hfa : FileApart r file) (hw : WindowIs r d ws) :
    WindowIs r (rollU32 r file (fun _ => false) (d.set file x)).2 ((r.enc x :: ws).take r.count) ∧
      (rollU32 r file (fun _ => false) (d.set file x)).2.get? file = none :=
  ⟨(hw.on.roll (Or.inr (Nat.le_refl _)) x hg hc hinj hfa).is_take (Nat.le_succ _),
    rollMany_file_gone r file [] x hg hc hfa d⟩

/-- The statement's main clause, for all bases, counts and numbers of rolls: starting from a
window that holds `ws` (for the empty window `ws = []`), after rolling `x₁ … xₙ` the window holds
the rolled contents newest first followed by the old ones, cut at `count`:
slot `b+j` = `x_{n-j}` for `j < min n c`, and from an empty window nothing else. -/
theorem C07_n_rolls_window (r : RollerCfg) (file : Path)
    (hg : r.base + r.count ≤ U32_MOD) (hc : r.count ≠ 0)
    (hinj : NamesInj r) (hfa : FileApart r file) (xs : List Bytes) :
    ∀ (d : Disk) (ws : List Bytes), WindowIs r d ws →
      WindowIs r (rollMany r file xs d) (((xs.reverse.map r.enc) ++ ws).take r.count) :=
  fun _ _ hw => (hw.on.rollMany hg hc hinj hfa xs (Or.inr (Nat.le_refl _))).is_take (Nat.le_add_right _ _)

/-- index form: from an empty window, after rolling `x₁ … xₙ`, slot `b+j` holds `x_{n-j}`
(`xs.reverse[j]`) for `j < min n c` and is empty for the other `j < c`; the rolled file is gone -/
theorem C07_n_rolls (r : RollerCfg) (file : Path) (d : Disk) (xs : List Bytes)
    (hg : r.base + r.count ≤ U32_MOD) (hc : r.count ≠ 0)
    (hinj : NamesInj r) (hfa : FileApart r file)
    (hempty : ∀ j, j < r.count → slot r d (r.base + j) = none) :
    ∀ j, j < r.count → slot r (rollMany r file xs d) (r.base + j) = (xs.reverse[j]?).map r.enc := by
  intro j hj
  have hw : WindowIs r d [] := hempty
  rw [hw.on.rollMany hg hc hinj hfa xs (Or.inr (Nat.le_refl _)) j (Nat.lt_add_right _ hj) hj,
    List.append_nil, List.getElem?_map]

/-- successive rolls never touch a path outside the window names and the log path -/
theorem C07_n_rolls_frame (r : RollerCfg) (file : Path) (xs : List Bytes)
    (hg : r.base + r.count ≤ U32_MOD) (q : Path) (h1 : q ≠ file)
    (h2 : ∀ i, r.base ≤ i → i < r.base + r.count → q ≠ r.nameOf i) :
    ∀ d, (rollMany r file xs d).get? q = d.get? q :=
  rollMany_frame r file xs hg q h1 h2

/-- after at least one roll the log file is gone from its path -/
theorem C07_n_rolls_file_gone (r : RollerCfg) (file : Path) (xs : List Bytes) (x : Bytes)
    (hg : r.base + r.count ≤ U32_MOD) (hc : r.count ≠ 0)
    (hinj : NamesInj r) (hfa : FileApart r file) (d : Disk) (ws : List Bytes)
    (hw : WindowIs r d ws) :
    (rollMany r file (xs ++ [x]) d).get? file = none :=
  rollMany_file_gone r file xs x hg hc hfa d

/-- A count of zero simply removes the rolled file: nothing else changes. -/
theorem C07_count_zero (r : RollerCfg) (file : Path) (d : Disk) (x : Bytes)
    (hc : r.count = 0) (hx : d.get? file = some x) :
    rollU32 r file (fun _ => false) d = (.ok (d.erase file), d.erase file) ∧
      (d.erase file).get? file = none ∧ ∀ q, q ≠ file → (d.erase file).get? q = d.get? q := by
  refine ⟨?_, Disk.get?_erase_same _ _, fun q hq => Disk.get?_erase_ne _ hq⟩
  rw [rollU32_count_zero hc]
  simp [fixedWindowRoll, hc, hx, liftRoll]

/-- The delete roller simply removes the rolled file: nothing else changes. -/
theorem C07_delete_roller (file : Path) (d : Disk) (x : Bytes) (hx : d.get? file = some x) :
    deleteRoll file (fun _ => false) d = (.ok (d.erase file), d.erase file) ∧
      (d.erase file).get? file = none ∧ ∀ q, q ≠ file → (d.erase file).get? q = d.get? q := by
  refine ⟨?_, Disk.get?_erase_same _ _, fun q hq => Disk.get?_erase_ne _ hq⟩
  simp [deleteRoll, hx]

/-- Inside the guard — including the boundary `base + count = 2^32` — the roll never panics,
whatever fails. -/
theorem C07_no_panic (r : RollerCfg) (file : Path) (fault : Nat → Bool) (d : Disk)
    (hg : r.base + r.count ≤ U32_MOD) : (rollU32 r file fault d).1.isPanic = false :=
  rollU32_not_panic r file fault d hg

/-- The builder accepts exactly the patterns with `{}` whose window is representable; an
unrepresentable window (count ≠ 0, base + count > 2^32) is rejected with an error, so no roller
exists outside the guard of the theorems above. -/
theorem C07_unrepresentable_rejected (p : List Char) (base count : Nat) :
    buildOk p base count = true ↔ hasHole p = true ∧ (count = 0 ∨ base + count ≤ U32_MOD) := by
  simp [buildOk, representable]

/-- F11, historical: before the fix the roll panicked (overflow checks on) as soon as
`base + count ≥ 2^32`, for every non-zero count — including `base = 2^32-1, count = 1`, whose
window is representable — before touching the disk. -/
theorem C07_overflow_panics_unfixed (r : RollerCfg) (file : Path) (fault : Nat → Bool) (d : Disk)
    (hc : r.count ≠ 0) (ho : U32_MOD ≤ r.base + r.count) :
    (rollU32_unfixed r file fault d).1.isPanic = true ∧ (rollU32_unfixed r file fault d).2 = d := by
  unfold rollU32_unfixed
  rw [if_pos ⟨hc, ho⟩]
  exact ⟨rfl, rfl⟩

/-! ### the roll as a process sees it (`rollProc`): a missing file, an unwritable stdout -/

/-- With the log file present and the roller as it is now (nothing printed on an error), the roll a
process sees is `rollU32`, whatever the state of its stdout: every theorem above is a theorem about
`rollProc`. -/
theorem C07_rollProc_present (w : Bool) (r : RollerCfg) (file : Path) (fault : Nat → Bool) (d : Disk)
    (x : Bytes) (hp : r.printsOnError = false) (hx : d.get? file = some x) :
    rollProc w r file fault d = rollU32 r file fault d := by
  rw [rollProc_noprint w r file fault d hp, Disk.has, hx]
  simp

/-- A failing roll reports an error and never panics, whatever fails and whether or not stdout can
be written — for the roller as it is now (`printsOnError = false`), inside the guard. -/
theorem C07_failed_roll_is_error (w : Bool) (r : RollerCfg) (file : Path) (fault : Nat → Bool) (d : Disk)
    (hg : r.base + r.count ≤ U32_MOD) (hp : r.printsOnError = false) :
    (rollProc w r file fault d).1.isPanic = false := by
  rw [rollProc_noprint w r file fault d hp]
  split
  · exact (missingResult_unchanged r d).2
  · exact rollU32_not_panic r file fault d hg

/-- Rolling a file that does not exist leaves the whole disk — in particular every slot of the
window — exactly as it was and does not panic: for every base and count (zero included), every
compression, every fault oracle and either state of stdout. The newest `count` rolled files stay
where they are ("index b+j holds the (j+1)-th most recently rolled file" is preserved), and a
history may go on. For the REPAIRED roller (`checksFileFirst = true`); the code as it is has `false`
(next theorem), because the crate's own test `rotation_no_trivial_base` pins the shift: known finding
`C07/missing-file-shifts-window`. -/
theorem C07_missing_file_window_unchanged (w : Bool) (r : RollerCfg) (file : Path) (fault : Nat → Bool)
    (d : Disk) (hcf : r.checksFileFirst = true) (hx : d.get? file = none) :
    (rollProc w r file fault d).2 = d ∧ (rollProc w r file fault d).1.isPanic = false ∧
      ∀ i, slot r (rollProc w r file fault d).2 i = slot r d i := by
  have key : (rollProc w r file fault d).2 = d ∧ (rollProc w r file fault d).1.isPanic = false := by
    by_cases hc : r.count = 0
    · obtain ⟨e, he⟩ := rollProc_missing_count_zero w r file fault d hc hx
      rw [he]
      exact ⟨rfl, rfl⟩
    · have : rollProc w r file fault d = r.missingResult d := by
        unfold rollProc
        simp [hcf, hc, Disk.has, hx]
      rw [this]
      exact missingResult_unchanged r d
  exact ⟨key.1, key.2, fun i => by rw [key.1]⟩

/-- The full statement fails for the code as it is (`checksFileFirst = false`, the default): with
nothing to roll the shift loop runs all the same. Window `[B, A]` (count 2) becomes `[-, B]`: the
oldest archive is destroyed and slot `base` is empty, while the roll reports Ok. -/
theorem C07_missing_file_shifts_unfixed :
    ¬ (∀ (r : RollerCfg) (file : Path) (d : Disk), d.get? file = none →
        (rollProc true { r with checksFileFirst := false } file (fun _ => false) d).2 = d) := by
  intro h
  have := h (mkRoller id id ['a', '.', '{', '}'] 0 2) ['a']
    ⟨[(['a', '.', '0'], [66]), (['a', '.', '1'], [65])]⟩ (by decide)
  revert this
  decide +kernel

/-- The full statement `C07_failed_roll_is_error` fails for the code before the fix
(`printsOnError = true`) when stdout cannot be written: (i) as the code was — a compressing roller
that finds no file to roll fails in its final step, prints, and panics; (ii) independently of the
other repair, a final step that fails for any reason (fault oracle on step `count - 1`) with the
file present. With a writable stdout the same rolls return the error. -/
theorem C07_print_panics_unfixed :
    let gz : List Char := ['a', '.', '{', '}', '.', 'g', 'z']
    let r1 : RollerCfg := { mkRoller id id gz 0 2 with printsOnError := true, checksFileFirst := false }
    let r2 : RollerCfg := { mkRoller id id ['a', '.', '{', '}'] 0 1 with printsOnError := true }
    let d2 : Disk := ⟨[(['a'], [1])]⟩
    (rollProc false r1 ['a'] (fun _ => false) Disk.empty).1.isPanic = true ∧
    (rollProc true r1 ['a'] (fun _ => false) Disk.empty).1 = .err .notFound ∧
    (rollProc false r2 ['a'] (fun k => k == 0) d2).1.isPanic = true ∧
    (rollProc true r2 ['a'] (fun k => k == 0) d2).1 = .err (.injected 0) := by
  decide +kernel

/-! ### the `background_rotation` feature (Roller/Background.lean) -/

/-- With background rotation: take any schedule the code admits — `roll` calls (phase 1: the file
is renamed to a fresh temp name), spawns of the rotation thread once `ready` is seen, completions
of rotation threads — with fault-free rotation threads, started from a quiescent roller. Whenever
the roller is quiescent again (no thread, no waiting call), the disk is path by path the disk the
foreground roller produces from the same contents: every C07 theorem above then applies to it. -/
theorem C07_background_quiescent_eq_foreground (r : RollerCfg) (file : Path) (d0 : Disk)
    (evs : List BgEv) (s' : BgSt)
    (hg : r.base + r.count ≤ U32_MOD) (hc : r.count ≠ 0)
    (hinj : NamesInj r) (hfa : FileApart r file)
    (hrun : bgRun true r file evs (BgSt.init d0) = some s')
    (htemps : tempsApart r file evs) (hff : faultFree evs) (hq : s'.quiescent) :
    ∀ q, s'.disk.get? q = (rollMany r file (rolledContents evs) d0).get? q :=
  bg_quiescent_eq_foreground d0 hg hc hfa evs s' hrun htemps hff hq

/-- At most one rotation thread is in flight, in every reachable state, and `ready` is true
exactly when there is none (the condvar protocol of `roll`). -/
theorem C07_background_one_in_flight (r : RollerCfg) (file : Path) (d0 : Disk) (evs : List BgEv)
    (s' : BgSt) (hrun : bgRun true r file evs (BgSt.init d0) = some s') :
    s'.threads.length ≤ 1 ∧ (s'.ready = true ↔ s'.threads = []) :=
  bgInv_run r file evs _ s' (bgInv_init d0) hrun

/-! ### non-vacuity (tests on samples, not proofs of the property) -/

section Examples
def exPat : List Char := ['a', '.', '{', '}']
def exRoller : RollerCfg := mkRoller id id exPat 1 3
def exFile : Path := ['a']

/-- the hypotheses of the theorems are satisfiable: the concrete naming is injective, the file is
apart, the guard holds -/
example : NamesInj exRoller := fun i j h =>
  C07_name_injective id exPat (by decide) (fun _ _ e => e) i j h

/-- a rotation that evicts (4 rolls into a window of 3) and leaves a bystander (index 4) alone -/
example :
    let d0 : Disk := ⟨[(name id exPat 4, [9])]⟩
    let d := rollMany exRoller exFile [[1], [2], [3], [4]] d0
    (slot exRoller d 1, slot exRoller d 2, slot exRoller d 3, slot exRoller d 4, d.get? exFile) =
      (some [4], some [3], some [2], some [9], none) := by decide +kernel

/-- a gap directly below the last slot: the last slot keeps its (older) content,
[A, -, C] becomes [x, A, C] — "missing intermediate archives are tolerated" -/
example :
    let d0 : Disk := ⟨[(name id exPat 1, [65]), (name id exPat 3, [67]), (exFile, [120])]⟩
    let d := (rollU32 exRoller exFile (fun _ => false) d0).2
    (slot exRoller d 1, slot exRoller d 2, slot exRoller d 3) = (some [120], some [65], some [67]) := by
  decide +kernel

/-- a gap lower down moves up with the shift and the last slot is overwritten:
[A, -, C, D] (count 4) becomes [x, A, -, C] -/
example :
    let r4 : RollerCfg := mkRoller id id exPat 0 4
    let d0 : Disk := ⟨[(name id exPat 0, [65]), (name id exPat 2, [67]), (name id exPat 3, [68]), (exFile, [120])]⟩
    let d := (rollU32 r4 exFile (fun _ => false) d0).2
    (slot r4 d 0, slot r4 d 1, slot r4 d 2, slot r4 d 3) = (some [120], some [65], none, some [67]) := by
  decide +kernel

/-- why the wait matters (test on a sample): the mutant that spawns without looking at `ready` can
have two rotation threads, and if the younger one runs first the archives end up in the wrong
order (slot 0 holds the older content) -/
example :
    let r := mkRoller id id exPat 0 2
    let t1 : Path := ['t', '1']
    let t2 : Path := ['t', '2']
    let evs := [BgEv.phase1 [1] t1, .spawn, .phase1 [2] t2, .spawn, .finish 1 (fun _ => false), .finish 0 (fun _ => false)]
    ((bgRun false r exFile evs (BgSt.init Disk.empty)).map (fun s => (slot r s.disk 0, slot r s.disk 1)),
     (bgRun true r exFile evs (BgSt.init Disk.empty)).isSome) = (some (some [1], some [2]), false) := by
  decide +kernel

/-- the boundary window base = 2^32 - 1, count = 1 works now: the file lands in slot 2^32 - 1 -/
example :
    let r := mkRoller id id exPat 4294967295 1
    let d := (rollU32 r exFile (fun _ => false) ⟨[(exFile, [1])]⟩)
    (d.1.isOk, slot r d.2 4294967295, d.2.get? exFile) = (true, some [1], none) := by decide +kernel

/-- F11 witness (before the fix): the same window panicked; base = 2^32 - 1, count = 2 is rejected
by the builder now -/
example : (rollU32_unfixed (mkRoller id id exPat 4294967295 1) exFile (fun _ => false) ⟨[(exFile, [1])]⟩).1.isPanic = true
    ∧ buildOk exPat 4294967295 2 = false := by decide +kernel
end Examples

end Log4rs.Roller
