import Log4rsModel.Routing.LemmasBuild
/-
C02 — Level gating is coherent: enabled(), delivery and the global max level agree.
Only property theorems and non-vacuity examples live here; helpers are in Routing/Lemmas*.lean.
`enabled`, `maxLogLevel`, `run` (init; set_config*), `macroLog` are in Routing/Tree.lean; `specEnabled`,
`specMaxLevel` in Routing/Spec.lean.
-/
namespace Log4rs.Routing.Tree
open Log4rs

/-- `Logger::enabled` answers exactly whether the effective logger's threshold admits the level. -/
theorem C02_enabled_iff (cfg : Config) (hv : Valid cfg) (t : Name) (lvl : Nat) :
    enabled cfg t lvl = some (specEnabled cfg t lvl) := by
  obtain ⟨tree, hb, hfind⟩ := build_find cfg hv
  rw [enabled, hb, Option.map_some, (hfind t).1]; rfl

/-- A record that reaches any appender was enabled (no validity hypothesis needed). -/
theorem C02_deliver_nonempty_imp_enabled (cfg : Config) (t : Name) (lvl : Nat) (ds : List Name)
    (h : deliver cfg t lvl = some ds) (hne : ds ≠ []) : enabled cfg t lvl = some true := by
  unfold deliver at h
  unfold enabled
  cases hb : build cfg with
  | none => simp [hb] at h
  | some tree =>
    simp only [hb, Option.map_some, Option.bind_some, Option.some.injEq, logNode] at h ⊢
    split at h
    · assumption
    · exact absurd (Option.some.inj h).symm hne

/-- `enabled` and delivery gate on the same threshold: with the gate open the whole chain is delivered. -/
theorem C02_enabled_imp_deliver_chain (cfg : Config) (hv : Valid cfg) (t : Name) (lvl : Nat)
    (h : enabled cfg t lvl = some true) :
    deliver cfg t lvl = some (chain cfg (comps t).length (effective cfg t)) := by
  rw [C02_enabled_iff cfg hv] at h
  have h' : admits (specLevel cfg t) lvl = true := by simpa [specEnabled] using h
  rw [deliver_eq_spec cfg hv]
  simp [specDeliver, h']

/-- `Logger::max_log_level` is the most verbose level among the root and the configured loggers:
implied intermediate nodes only copy levels that exist already. -/
theorem C02_maxLevel_eq (cfg : Config) (hv : Valid cfg) : maxLogLevel cfg = some (specMaxLevel cfg) := by
  obtain ⟨tree, hb, _, _, hm⟩ := build_spec cfg hv
  simp [maxLogLevel, hb, hm]

/-- The specification's maximum is attained and bounds every level (sanity of `specMaxLevel`). -/
theorem C02_specMaxLevel_is_max (cfg : Config) :
    cfg.rootLevel ≤ specMaxLevel cfg ∧ (∀ l ∈ cfg.loggers, l.level ≤ specMaxLevel cfg) ∧
      (specMaxLevel cfg = cfg.rootLevel ∨ ∃ l ∈ cfg.loggers, specMaxLevel cfg = l.level) := by
  obtain ⟨h1, h2⟩ := (specMaxLevel_le_iff cfg _).mp (Nat.le_refl _)
  refine ⟨h1, h2, ?_⟩
  rcases foldl_max_attained (cfg.loggers.map (·.level)) cfg.rootLevel with h | h
  · exact Or.inl h
  · obtain ⟨l, hl, he⟩ := List.mem_map.mp h
    exact Or.inr ⟨l, hl, he.symm⟩

/-- Invariant over all histories — any init path, then any sequence of `set_config` calls (through any clone
of the handle, on any thread, one after the other), of reconfigurations applied by the file reloader
(`.reload`), and of further (failing) initialisation attempts at any position, with any configuration
(valid or not) in the failed attempts: the facade's global maximum equals what the installed logger reports, and the installed
configuration is the last one that was *installed* (a failed attempt installs nothing). -/
theorem C02_globalMax_inv (h : History) (s : State) (hr : run h = some s) :
    maxLogLevel s.cfg = some s.globalMax ∧ s.cfg = (installedCfgs h).getLast (by simp [installedCfgs]) := by
  unfold run runWith at hr
  cases hi : install h.first with
  | none => simp [hi] at hr
  | some s0 =>
    simp only [hi] at hr
    obtain ⟨hc, hm⟩ := install_inv hi
    obtain ⟨h1, h2⟩ := steps_inv h.steps s0 s (hc ▸ hm) hr
    exact ⟨h1, ((List.getLast_eq_iff_getLast?_eq_some _).mpr (by rw [installedCfgs, ← hc]; exact h2)).symm⟩

/-- A failed re-initialisation is invisible: removing all of them from a history gives the same state. -/
theorem C02_failed_reinit_changes_nothing (h : History) :
    run h = run { h with steps := h.steps.filter fun
      | .setConfig _ => true
      | .reinit _ _ => false
      | .reload _ => true } := by
  -- the filter keeps every step that installs something
  refine run_congr (congrArg (List.cons h.first) ?_)
  rw [List.filterMap_filter]
  exact congrArg (fun f => h.steps.filterMap f) (funext fun st => by cases st <;> rfl)

/-- A reconfiguration applied by the file reloader is a reconfiguration: replacing every `.reload c` of a
history by `.setConfig c` gives the same state (the reloader has no path of its own to the snapshot or to
the global maximum). -/
theorem C02_reload_is_set_config (h : History) :
    run h = run { h with steps := h.steps.map fun
      | .reload c => .setConfig c
      | st => st } := by
  -- the replacement installs what the step installed
  refine run_congr (congrArg (List.cons h.first) ?_)
  rw [List.filterMap_map]
  exact congrArg (fun f => h.steps.filterMap f) (funext fun st => by cases st <;> rfl)

/-- … hence, for valid configurations, the most verbose level among root and loggers of the current one —
after levels went up and after they went down. -/
theorem C02_globalMax_eq_spec (h : History) (s : State) (hr : run h = some s) (hv : Valid s.cfg) :
    s.globalMax = specMaxLevel s.cfg := by
  have h1 := (C02_globalMax_inv h s hr).1
  rw [C02_maxLevel_eq s.cfg hv] at h1
  exact (Option.some.inj h1).symm

/-- A history whose installed configurations are valid always runs (no panic), whatever the init path and
whatever the failed attempts carried. -/
theorem C02_run_total (h : History) (hv : ∀ c ∈ installedCfgs h, Valid c) : (run h).isSome = true := by
  obtain ⟨s0, hs0⟩ := install_of_valid h.first (hv _ (by simp [installedCfgs]))
  simp only [run, runWith, hs0]
  refine steps_total h.steps s0 (fun st hst c hc => hv c ?_)
  simp only [installedCfgs, List.mem_cons, List.mem_filterMap]
  exact Or.inr ⟨st, hst, hc⟩

/-- What the logger reports (`Logger::max_log_level()` of the installed snapshot), the facade's global
maximum and the specification's "most verbose level among the root and all configured loggers" are one
number after every history — initialisation, reconfigurations through any handle, file reloads, failed
re-initialisations. -/
theorem C02_reported_eq_globalMax_eq_spec (h : History) (s : State) (hr : run h = some s) (hv : Valid s.cfg) :
    maxLogLevel s.cfg = some (specMaxLevel s.cfg) ∧ s.globalMax = specMaxLevel s.cfg :=
  ⟨C02_maxLevel_eq s.cfg hv, C02_globalMax_eq_spec h s hr hv⟩

/-- Logging through the macros equals routing: the facade filter `lvl ≤ max_level()` never drops a record
the installed configuration admits (and of course adds none). -/
theorem C02_macro_eq_route (h : History) (s : State) (hr : run h = some s) (t : Name) (lvl : Nat) :
    macroLog s t lvl = deliver s.cfg t lvl := by
  unfold macroLog
  split
  · rfl
  · rename_i hgt
    exact (deliver_above_maxLogLevel (C02_globalMax_inv h s hr).1 t (Nat.not_le.mp hgt)).symm

/-- An enabled (target, level) pair passes the global filter. -/
theorem C02_enabled_le_globalMax (h : History) (s : State) (hr : run h = some s) (t : Name) (lvl : Nat)
    (he : enabled s.cfg t lvl = some true) : lvl ≤ s.globalMax :=
  enabled_le_maxLogLevel he (C02_globalMax_inv h s hr).1

/-- Macros reach exactly the appenders routing prescribes (C01's specification), after any history. -/
theorem C02_macro_eq_spec (h : History) (s : State) (hr : run h = some s) (hv : Valid s.cfg)
    (t : Name) (lvl : Nat) : macroLog s t lvl = some (specDeliver s.cfg t lvl) := by
  rw [C02_macro_eq_route h s hr, deliver_eq_spec s.cfg hv]

/-! ### non-vacuity: only a deep descendant is verbose; levels go up and then down; failed re-initialisations
(quieter, more verbose, not even valid) before, between and after the reconfigurations -/

def exQuiet : Config :=
  { appenders := [['x']], rootLevel := 1, rootAppenders := [['x']], loggers := [] }

def exDeep : Config :=
  { appenders := [['x']], rootLevel := 0, rootAppenders := []
    loggers := [
      { name := ['a', ':', ':', 'b', ':', ':', 'c'], level := 5, additive := false, appenders := [['x']] },
      { name := ['a'], level := 1, additive := true, appenders := [] }] }

def exOff : Config :=
  { appenders := [['x']], rootLevel := 0, rootAppenders := [['x']], loggers := [] }

/-- not even valid: a dangling appender reference and a malformed logger name -/
def exBroken : Config :=
  { appenders := [], rootLevel := 5, rootAppenders := [['q']],
    loggers := [{ name := ['a', ':', 'b'], level := 5, additive := true, appenders := [] }] }

def exHistory : History :=
  { path := .config, first := exQuiet,
    steps := [.reinit .rawConfig exBroken, .setConfig exDeep, .reinit .config exOff, .setConfig exQuiet,
      .reinit .configWithErrHandler exDeep] }

/-- `init_file`, then the reloader applies a document in which only a deep descendant is verbose, then a
quiet one again -/
def exReloadHistory : History :=
  { path := .file, first := exQuiet, steps := [.reload exDeep, .reinit .file exOff, .reload exQuiet] }

/-- The historical behaviour (before d39d776, `runWith false`): after a successful initialisation with the
deep-verbose configuration, a second `init_config` with an all-Off configuration failed but had already
lowered the global maximum to Off — the TRACE record the installed configuration admits (routing delivers
it to `x`, `enabled` says true) is dropped by the facade filter. -/
theorem C02_failed_reinit_broke_gating_unfixed :
    ∃ (h : History) (s : State) (t : Name) (lvl : Nat),
      (∀ c ∈ installedCfgs h, Valid c) ∧ runWith false h = some s ∧
      enabled s.cfg t lvl = some true ∧ deliver s.cfg t lvl = some [['x']] ∧ macroLog s t lvl = some [] ∧
      macroLog s t lvl ≠ deliver s.cfg t lvl ∧ maxLogLevel s.cfg ≠ some s.globalMax := by
  refine ⟨{ path := .config, first := exDeep, steps := [.reinit .config exOff] },
    { cfg := exDeep, globalMax := 0 }, ['a', ':', ':', 'b', ':', ':', 'c'], 5, ?_, ?_, ?_, ?_, ?_, ?_, ?_⟩
  · intro c hc
    obtain rfl : c = exDeep := List.mem_singleton.mp hc
    unfold Valid; decide +kernel
  all_goals decide +kernel

example : Valid exDeep := by unfold Valid; decide +kernel
example : Valid exQuiet := by unfold Valid; decide +kernel
/-- test on a sample: the global maximum follows the deep logger up … -/
example : (run { exHistory with steps := exHistory.steps.take 3 }).map (·.globalMax) = some 5 := by decide +kernel
/-- … and the quiet configuration down again -/
example : (run exHistory).map (·.globalMax) = some 1 := by decide +kernel
/-- test on a sample: a reload moves the global maximum up to the deep logger's level … -/
example : (run { exReloadHistory with steps := exReloadHistory.steps.take 2 }).map (·.globalMax) = some 5 := by decide +kernel
/-- … and the next one down again -/
example : (run exReloadHistory).map (·.globalMax) = some 1 := by decide +kernel
/-- test on a sample: a TRACE record for the deep logger passes the facade and reaches `x` -/
example : (run { exHistory with steps := exHistory.steps.take 3 }).bind
    (fun s => macroLog s ['a', ':', ':', 'b', ':', ':', 'c', ':', ':', 'd'] 5) = some [['x']] := by decide +kernel

end Log4rs.Routing.Tree
