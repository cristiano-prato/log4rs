import Log4rsModel.Rolling.Ext17Startup
import Log4rsModel.Rolling.Ext17Refine
import Log4rsModel.Rolling.Ext17OnceLemmas
import Log4rsModel.Rolling.LemmasLock
/-
C17 — On-start-up trigger rolls at most once, on the first record, if big enough.

Model: `Rolling/Model.lean` with `onStartupTrigger minSize` (state = "the `Once` has run";
pre-process), the fixed-window / delete roller models of `Roller/Model.lean`, and the harness's
roller wrapper (`Spec17.lateWrap`). Statement as an executable function: `Rolling/Ext17Spec.lean`
(`Spec17.step`), evaluated by the driver on the real directory; `C17_model_refines_spec` proves the
model refines it. All theorems below are about the CURRENT code (after 9f38f0b: the record is
encoded into memory after the policy has run).

Clause map
  (a) at most one rotation request per appender   C17_at_most_one_per_lifetime, C17_at_most_one_roll(_failing_encoders)
  (b) only while the first record is handled,
  (c) iff the file then holds ≥ min_size bytes     C17_rolls_iff_first_and_big (one iff over all histories),
                                                   C17_only_first(_ops), C17_iff_big_enough(_ops)
  (d) old content becomes the newest archive,
  (e) the first record starts a fresh file         C17_content_placement_fw / _dense / _delete, C17_model_refines_spec
      … when the roller or the encoder fails        C17_first_record_roller_fails, C17_first_record_encoder_fails
  (f) simultaneous first appends                   C17_concurrent_first (appender mutex assumed),
                                                   C17_once_at_most_one_yes (trigger alone, atomic `Once` assumed),
                                                   C17_once_racy_flag_breaks (what the assumption buys)
-/
namespace Log4rs.Rolling
open Log4rs.Roller

/-- at most one rotation request per appender built, from any well-formed state, over histories
in which encoders may fail -/
theorem C17_at_most_one_roll_failing_encoders (path : Path) (am : Bool) (m : Nat) (roll : RollFn) (ops : List XOp)
    (s : St Bool) (hwf : WF (startupCfg path am m roll) s) :
    ((traceX (startupCfg path am m roll) s ops).filter isRollX).length ≤ (if s.tst then 0 else 1) + restartsX ops := by
  induction ops generalizing s with
  | nil => exact Nat.zero_le _
  | cons op ops ih =>
    have ih' := ih _ (WF_applyX (startupCfg path am m roll) s op hwf)
    have hstep := credit_step path am m roll s op hwf
    simp only [restartsX, ← List.countP_eq_length_filter, traceX, List.countP_cons] at ih' ⊢
    omega

/-- Over any history of appends (any record, any injected roller fault), clock ticks and restarts
the on-start-up trigger requests at most one rotation per appender built: `1 + restarts` in total.
`rolls` counts every invocation of the roller, successful or failed (`Out.rolled.isSome`):
`process` calls `cfg.roll` exactly once per firing of the trigger. (The per-appender form is
`C17_at_most_one_per_lifetime`.) -/
theorem C17_at_most_one_roll (path : Path) (am : Bool) (m : Nat) (roll : RollFn) (d : Disk) (now : Nat) (ops : List Op) :
    rolls (run (startupCfg path am m roll) (init (startupCfg path am m roll) d false now) ops).1 ≤ 1 + restarts ops := by
  have h := C17_at_most_one_roll_failing_encoders path am m roll (ops.map .op) _
    (WF_init (startupCfg path am m roll) d false now)
  rw [init_tst] at h
  rw [run_eq_traceX, restarts_eq_restartsX]
  show ((List.map Prod.fst _).filter isRoll).length ≤ _
  rw [List.filter_map, List.length_map]
  exact h

/-- In the lifetime of ONE appender: whatever happened before (`pre`: any history, restarts
included), a stretch of operations without a restart (`ops`: appends with working or failing
encoders, any roller faults, clock ticks) contains at most one rotation request. -/
theorem C17_at_most_one_per_lifetime (path : Path) (am : Bool) (m : Nat) (roll : RollFn) (d : Disk) (now : Nat)
    (pre ops : List XOp) (hnr : restartsX ops = 0) :
    let cfg := startupCfg path am m roll
    ((traceX cfg (finalX cfg (init cfg d false now) pre) ops).filter isRollX).length ≤ 1 := by
  intro cfg
  have h := C17_at_most_one_roll_failing_encoders path am m roll ops _ (WF_foldl_applyX cfg pre _ (WF_init cfg d false now))
  rw [hnr] at h
  exact Nat.le_trans h (by split <;> omega)

/-- Clauses (b) and (c) as one equivalence over ALL histories: after any history `pre` (records with
working or failing encoders, roller faults, ticks, restarts, on any initial disk, both modes), a
record that arrives — whether or not its encoder then fails — requests a rotation IFF no record has
arrived since the appender was built AND the log file on disk at that moment holds at least
`min_size` bytes (`min_size = 0` and an empty or absent file included). -/
theorem C17_rolls_iff_first_and_big (path : Path) (am : Bool) (m : Nat) (roll : RollFn) (d : Disk) (now : Nat)
    (pre : List XOp) (op : XOp) (harr : arrival op = true) :
    let cfg := startupCfg path am m roll
    let s := finalX cfg (init cfg d false now) pre
    ∃ out, (applyX cfg s op).1 = some out ∧
      (out.rolled.isSome ↔ (freshX pre = true ∧ (fileOf cfg s.disk).length ≥ m)) := by
  intro cfg s
  obtain ⟨out, ho, hr, _⟩ := arrive_file path am m roll s op (WF_foldl_applyX cfg pre _ (WF_init cfg d false now)) harr
  refine ⟨out, ho, ?_⟩
  rw [hr, show s.tst = _ from init_finalX_tst path am m roll d now pre]
  simp [cfg]

/-- A rotation is requested only while handling the first record after start-up: if the roller is
invoked by an append that follows the history `ops`, then no append has happened since the
appender was built (`fresh ops`). -/
theorem C17_only_first_ops (path : Path) (am : Bool) (m : Nat) (roll : RollFn) (d : Disk) (now : Nat) (ops : List Op)
    (r : Rec) (fault : Nat → Bool) :
    let s := (run (startupCfg path am m roll) (init (startupCfg path am m roll) d false now) ops).2
    (append (startupCfg path am m roll) s r fault).1.rolled.isSome → fresh ops = true := by
  rw [run_eq_traceX, fresh_eq_freshX]
  intro s hroll
  have hwf : WF (startupCfg path am m roll) s := WF_foldl_applyX _ _ _ (WF_init _ d false now)
  rw [(arrives_append path am m roll s r fault hwf).isSome,
    show s.tst = _ from init_finalX_tst path am m roll d now (ops.map .op)] at hroll
  simpa using (Bool.and_eq_true_iff.mp hroll).1

/-- A rotation is requested only while handling the first record that ARRIVES after start-up: if
any operation following the history `ops` — an append, or an append whose encoder fails — invokes
the roller, then no record has arrived since the appender was built (`freshX ops`), whatever
happened to the encoders of the records in `ops`. -/
theorem C17_only_first (path : Path) (am : Bool) (m : Nat) (roll : RollFn) (d : Disk) (now : Nat) (ops : List XOp)
    (op : XOp) (out : Out) :
    let cfg := startupCfg path am m roll
    (applyX cfg (finalX cfg (init cfg d false now) ops) op).1 = some out → out.rolled.isSome → freshX ops = true := by
  intro cfg hout hroll
  cases harr : arrival op with
  | true =>
    obtain ⟨out', ho', hiff⟩ := C17_rolls_iff_first_and_big path am m roll d now ops op harr
    obtain rfl : out' = out := Option.some.inj (ho'.symm.trans hout)
    exact (hiff.mp hroll).1
  | false =>
    -- restarts and ticks have no output
    rcases op with (⟨r, f⟩ | _ | dt) | ⟨r, n, f⟩
    · cases harr
    · cases hout
    · cases hout
    · cases harr

/-- The first record of the first appender, in terms of what was on the disk before the process
started: it rolls iff the pre-existing content (append mode) / nothing (truncate mode: the open has
emptied the file) has at least `min_size` bytes. -/
theorem C17_iff_big_enough_ops (path : Path) (am : Bool) (m : Nat) (roll : RollFn) (d : Disk) (now : Nat)
    (r : Rec) (fault : Nat → Bool) :
    let cfg := startupCfg path am m roll
    ((append cfg (init cfg d false now) r fault).1.rolled.isSome ↔
      (if am then fileOf cfg d else []).length ≥ m) := by
  intro cfg
  rw [(arrives_append path am m roll _ r fault (WF_init cfg d false now)).isSome, init_tst, init_fileOf]
  simp [cfg]

/-- … also when the first record's encoder fails: the decision is taken before the record is
encoded -/
theorem C17_iff_big_enough (path : Path) (am : Bool) (m : Nat) (roll : RollFn) (d : Disk) (now : Nat)
    (op : XOp) (harr : arrival op = true) :
    let cfg := startupCfg path am m roll
    ∃ out, (applyX cfg (init cfg d false now) op).1 = some out ∧
      (out.rolled.isSome ↔ (if am then fileOf cfg d else []).length ≥ m) := by
  intro cfg
  obtain ⟨out, ho, hiff⟩ := C17_rolls_iff_first_and_big path am m roll d now [] op harr
  refine ⟨out, ho, ?_⟩
  have hfile := init_fileOf path am m roll d now
  simp only [finalX, List.foldl_nil] at hiff
  rw [hfile] at hiff
  simpa [freshX] using hiff

/-- EXACT placement for the fixed-window roller (any base, count — `count = 0` keeps nothing —,
plain or compressing pattern, any pre-existing window, gaps and bystanders included; any fault
oracle, as long as the append succeeds): when the first record finds a file of at least
`min_size` bytes,
* the log file afterwards holds exactly the encoded record — a fresh file;
* the window, slot by slot and decoded, is `rotateSlots` of the window before and the OLD CONTENT:
  slot `base` holds the old content, every older archive has moved up by one slot, the one pushed
  out of the last slot is dropped;
* (raw) the file `name(base)` holds the old content (compressed when the pattern says so);
* nothing else on the disk changes.
A roller that wipes the directory does not satisfy this. -/
theorem C17_content_placement_fw (r : RollerCfg) (decode : Bytes → Bytes) (hdec : ∀ x, decode (r.codec x) = x)
    (path : Path) (hinj : r.count ≠ 0 → NamesInj r) (hfa : r.count ≠ 0 → FileApart r path)
    (am : Bool) (m : Nat) (s : St Bool) (rec : Rec) (fault : Nat → Bool)
    (hwf : WF (startupCfg path am m (fixedWindowRoll r)) s) (hfresh : s.tst = false)
    (hbig : (fileOf (startupCfg path am m (fixedWindowRoll r)) s.disk).length ≥ m)
    (hok : (append (startupCfg path am m (fixedWindowRoll r)) s rec fault).1.res = .ok) :
    let cfg := startupCfg path am m (fixedWindowRoll r)
    let s' := (append cfg s rec fault).2
    let old := fileOf cfg s.disk
    s'.disk.get? path = some (encBytes rec) ∧
    slotsOf r decode s'.disk = Spec17.rotateSlots r.count (slotsOf r decode s.disk) old ∧
    (r.count ≠ 0 → s'.disk.get? (r.nameOf r.base) = some (r.enc old)) ∧
    (∀ q, Outside r path q → s'.disk.get? q = s.disk.get? q) := by
  intro cfg s' old
  obtain ⟨d1, hg1, hse1, hOk, hErr⟩ :=
    (arrives_append path am m (fixedWindowRoll r) s rec fault hwf).byResult (armed_big hfresh hbig)
  cases hres : (fixedWindowRoll r path fault d1).1 with
  | error e =>
    rw [(hErr e hres).1] at hok
    cases hok
  | ok x =>
    obtain ⟨_, _, ho, hse⟩ := hOk x hres
    -- the roll succeeded, so it is the fault-free one
    obtain ⟨d', hfree, hgone, hslots, hraw⟩ := roll_free r decode hdec path hinj hfa d1 old hg1
    have hd' : (fixedWindowRoll r path fault d1).2 = d' :=
      (Prod.mk.inj ((fixedWindowRoll_ok_faultfree r path fault d1 x _ (Prod.ext hres rfl)).symm.trans hfree)).2
    rw [show (cfg.roll cfg.path fault d1).2 = d' from hd'] at ho hse
    refine ⟨?_, ?_, fun hc => ?_, fun q hq => ?_⟩
    · rw [show s'.disk.get? path = some (fileOf cfg d' ++ encBytes rec) from ho.get, fileOf_of_none (cfg := cfg) hgone]
      rfl
    · rw [slotsOf_sameElse r decode path hfa _ _ hse, hslots, slotsOf_sameElse r decode path hfa _ _ hse1]
    · rw [hse _ (hfa hc _)]
      exact hraw hc
    · rw [hse q hq.1, ← hd', fixedWindowRoll_outside r path fault d1 q hq]
      exact hse1 q hq.1

/-- On a DENSE pre-existing window (the `k ≤ count` newest archives `ws`, newest first, at
`base … base+k-1`, nothing above) the exact placement is the statement's `Spec.rotateWindow`:
the window afterwards is `(old :: ws).take count` — "the pre-existing content becomes the newest
archive". -/
theorem C17_content_placement_dense (r : RollerCfg) (decode : Bytes → Bytes) (hdec : ∀ x, decode (r.codec x) = x)
    (path : Path) (hinj : r.count ≠ 0 → NamesInj r) (hfa : r.count ≠ 0 → FileApart r path)
    (am : Bool) (m : Nat) (s : St Bool) (rec : Rec) (fault : Nat → Bool) (ws : List Bytes)
    (hwf : WF (startupCfg path am m (fixedWindowRoll r)) s) (hfresh : s.tst = false)
    (hbig : (fileOf (startupCfg path am m (fixedWindowRoll r)) s.disk).length ≥ m)
    (hok : (append (startupCfg path am m (fixedWindowRoll r)) s rec fault).1.res = .ok)
    (hw : slotsOf r decode s.disk = Spec17.ofWindow r.count ws) :
    let cfg := startupCfg path am m (fixedWindowRoll r)
    slotsOf r decode (append cfg s rec fault).2.disk =
      Spec17.ofWindow r.count (Spec.rotateWindow r.count ws (fileOf cfg s.disk)) := by
  intro cfg
  have h := (C17_content_placement_fw r decode hdec path hinj hfa am m s rec fault hwf hfresh hbig hok).2.1
  rw [h, hw, Spec17.rotateSlots_dense]

/-- The delete roller keeps nothing: when the first record rolls, the log file afterwards holds
exactly the encoded record and no other file is touched (the old content is gone — with this
roller "becomes the newest archive" has no archive to refer to). -/
theorem C17_content_placement_delete (path : Path) (am : Bool) (m : Nat) (s : St Bool) (rec : Rec) (fault : Nat → Bool)
    (hwf : WF (startupCfg path am m (fun p f d => deleteRoll p f d)) s) (hfresh : s.tst = false)
    (hbig : (fileOf (startupCfg path am m (fun p f d => deleteRoll p f d)) s.disk).length ≥ m)
    (hok : (append (startupCfg path am m (fun p f d => deleteRoll p f d)) s rec fault).1.res = .ok) :
    let cfg := startupCfg path am m (fun p f d => deleteRoll p f d)
    (append cfg s rec fault).2.disk.get? path = some (encBytes rec) ∧
    ∀ q, q ≠ path → (append cfg s rec fault).2.disk.get? q = s.disk.get? q := by
  intro cfg
  let r0 : RollerCfg := { nameOf := fun _ => [], base := 0, count := 0 }
  have hroll : (fun p f d => deleteRoll p f d) = fixedWindowRoll r0 := deleteRoll_eq r0 rfl
  show (append (startupCfg path am m (fun p f d => deleteRoll p f d)) s rec fault).2.disk.get? path = _ ∧
    ∀ q, q ≠ path → (append (startupCfg path am m (fun p f d => deleteRoll p f d)) s rec fault).2.disk.get? q = _
  rw [hroll] at hwf hbig hok ⊢
  obtain ⟨h1, _, _, h4⟩ := C17_content_placement_fw r0 id (fun _ => rfl) path (fun h => absurd rfl h) (fun h => absurd rfl h)
    am m s rec fault hwf hfresh hbig hok
  exact ⟨h1, fun q hq => h4 q ⟨hq, fun j hj => absurd hj (by simp [r0])⟩⟩

/-- THE LINK BETWEEN PROOF AND EXECUTABLE SPEC. For the appender of the tie — on-start-up trigger,
fixed-window roller (any base/count/compression; `count = 0` is also the delete roller, see
`C17_model_refines_spec_delete`) behind the harness's wrapper — on any initial disk, in both modes,
over every history of `XOp`s (records with working or failing encoders, every fault index incl.
"Err after the work", restarts, ticks): after every operation the model's directory is the one
`Spec17.step` computes (log file present/absent and its content, the window slot by slot, every
other path untouched) and the number of rotation requests and the Ok/Err of the operation are
the ones it predicts. `Driver/C17.lean` evaluates this very function on the real directory. -/
theorem C17_model_refines_spec (r : RollerCfg) (decode : Bytes → Bytes) (hdec : ∀ x, decode (r.codec x) = x)
    (path : Path) (hinj : r.count ≠ 0 → NamesInj r) (hfa : r.count ≠ 0 → FileApart r path)
    (am : Bool) (m : Nat) (d : Disk) (now : Nat) (ops : List XOp) :
    let cfg := startupCfg path am m (Spec17.lateWrap (fixedWindowRoll r))
    Pointwise (fun (e : Option Out × St Bool) (xv : Spec17.Expect × Option Spec17.Verdict) =>
        Agrees r decode path d xv.1 e.2 ∧ VerdictOk xv.2 e.1)
      (traceX cfg (init cfg d false now) ops)
      (Spec17.trace r.count m am (expect0 r decode path am d) (ops.map Spec17.evOf)) := by
  intro cfg
  exact trace_refines r decode hdec path hinj hfa am m d ops _ _ (agrees_init r decode path hfa am m _ d now)
    (WF_init cfg d false now)

/-- the same for the delete roller: the statement with an empty window -/
theorem C17_model_refines_spec_delete (path : Path) (am : Bool) (m : Nat) (d : Disk) (now : Nat) (ops : List XOp) :
    let r0 : RollerCfg := { nameOf := fun _ => [], base := 0, count := 0 }
    let cfg := startupCfg path am m (Spec17.lateWrap (fun p f d => deleteRoll p f d))
    Pointwise (fun (e : Option Out × St Bool) (xv : Spec17.Expect × Option Spec17.Verdict) =>
        Agrees r0 id path d xv.1 e.2 ∧ VerdictOk xv.2 e.1)
      (traceX cfg (init cfg d false now) ops)
      (Spec17.trace 0 m am (expect0 r0 id path am d) (ops.map Spec17.evOf)) := by
  intro r0 cfg
  have hcfg : cfg = startupCfg path am m (Spec17.lateWrap (fixedWindowRoll r0)) := by
    show startupCfg path am m (Spec17.lateWrap (fun p f d => deleteRoll p f d)) = _
    rw [deleteRoll_eq r0 rfl]
  rw [hcfg]
  exact C17_model_refines_spec r0 id (fun _ => rfl) path (fun h => absurd rfl h) (fun h => absurd rfl h) am m d now ops

/-- The first record after start-up whose ROLLER FAILS (step `k` of the rotation cannot be done):
one rotation request, the append returns `Err`, the record is NOT written, the old content is still
in the log file, the window has seen exactly the first `k` shifts — and the request is never
repeated: no later record invokes the roller (until a restart). Over any history `pre` that ends
with a fresh appender. -/
theorem C17_first_record_roller_fails (r : RollerCfg) (decode : Bytes → Bytes) (hdec : ∀ x, decode (r.codec x) = x)
    (path : Path) (hinj : r.count ≠ 0 → NamesInj r) (hfa : r.count ≠ 0 → FileApart r path)
    (am : Bool) (m : Nat) (d : Disk) (now : Nat) (pre : List XOp) (hfresh : freshX pre = true)
    (rec : Rec) (k : Nat) (hk : k < Spec17.nSteps r.count) (hkl : k ≠ Spec17.LATE) :
    let cfg := startupCfg path am m (Spec17.lateWrap (fixedWindowRoll r))
    let s := finalX cfg (init cfg d false now) pre
    (fileOf cfg s.disk).length ≥ m →
    ∃ out, (applyX cfg s (.op (.append rec (some k)))).1 = some out ∧
      out.res = .errRoll ∧ out.rolled = some false ∧
      (applyX cfg s (.op (.append rec (some k)))).2.disk.get? path = some (fileOf cfg s.disk) ∧
      slotsOf r decode (applyX cfg s (.op (.append rec (some k)))).2.disk =
        Spec17.shifted r.count k (slotsOf r decode s.disk) ∧
      ∀ later : List XOp, (∀ op ∈ later, arrival op = true) →
        ∀ e ∈ traceX cfg (applyX cfg s (.op (.append rec (some k)))).2 later, ∃ o, e.1 = some o ∧ o.rolled = none := by
  intro cfg s hbig
  have hst : s.tst = false := by
    rw [show s.tst = _ from init_finalX_tst path am m _ d now pre, hfresh]
    rfl
  have hwf : WF cfg s := WF_foldl_applyX cfg pre _ (WF_init cfg d false now)
  have hA := arrives_append path am m _ s rec (faultFn (some k)) hwf
  obtain ⟨d1, hg1, hse1, _, hErr⟩ := hA.byResult (armed_big hst hbig)
  -- the rotation stops before step `k`
  have hout := (Spec17.outcomeOf_some r.count k hkl).trans (if_pos hk)
  obtain ⟨⟨e, he⟩, hkeep, hsl⟩ := (roll_outcome r decode hdec path hinj hfa d1 _ hg1 (some k)).stopped k hout
  obtain ⟨hres, hrolled, _, hd⟩ := hErr e he
  have hd' : (applyX cfg s (.op (.append rec (some k)))).2.disk =
      (Spec17.lateWrap (fixedWindowRoll r) path (faultFn (some k)) d1).2 := hd
  refine ⟨(append cfg s rec (faultFn (some k))).1, rfl, hres, hrolled, ?_, ?_, fun later hl => ?_⟩
  · rw [hd']
    exact hkeep
  · rw [hd', hsl, slotsOf_sameElse r decode path hfa _ _ hse1]
  · exact (arrivals_after_fired path am m _ later _ (append_wf cfg s rec _ hwf).1 hA.tst hl).1

/-- The first record after start-up whose ENCODER FAILS (file big enough, roller working): the
rotation is requested all the same — one request, the old content becomes the newest archive —,
the append returns `Err`, and the log file afterwards is a fresh EMPTY file (`get_writer` has
recreated it before the encoder ran). Over any history `pre` that ends with a fresh appender. -/
theorem C17_first_record_encoder_fails (r : RollerCfg) (decode : Bytes → Bytes) (hdec : ∀ x, decode (r.codec x) = x)
    (path : Path) (hinj : r.count ≠ 0 → NamesInj r) (hfa : r.count ≠ 0 → FileApart r path)
    (am : Bool) (m : Nat) (d : Disk) (now : Nat) (pre : List XOp) (hfresh : freshX pre = true)
    (rec : Rec) (n : Nat) :
    let cfg := startupCfg path am m (Spec17.lateWrap (fixedWindowRoll r))
    let s := finalX cfg (init cfg d false now) pre
    (fileOf cfg s.disk).length ≥ m →
    ∃ out, (applyX cfg s (.appendFail rec n none)).1 = some out ∧
      out.res ≠ .ok ∧ out.rolled.isSome = true ∧
      (applyX cfg s (.appendFail rec n none)).2.disk.get? path = some [] ∧
      slotsOf r decode (applyX cfg s (.appendFail rec n none)).2.disk =
        Spec17.rotateSlots r.count (slotsOf r decode s.disk) (fileOf cfg s.disk) := by
  intro cfg s hbig
  have hst : s.tst = false := by
    rw [show s.tst = _ from init_finalX_tst path am m _ d now pre, hfresh]
    rfl
  have hA := arrives_appendFail path am m _ s rec n (faultFn none) (WF_foldl_applyX cfg pre _ (WF_init cfg d false now))
  obtain ⟨d1, hg1, hse1, hOk, _⟩ := hA.byResult (armed_big hst hbig)
  -- the roller works: the whole rotation is done
  obtain ⟨⟨y, hy⟩, hgone, hsl⟩ := (roll_outcome r decode hdec path hinj hfa d1 _ hg1 none).done rfl
  obtain ⟨hres, hrolled, ho, hse⟩ := hOk y hy
  refine ⟨(appendFail cfg s rec n (faultFn none)).1, rfl, by rw [hres]; exact fun h => (nomatch h), by rw [hrolled]; rfl, ?_, ?_⟩
  · rw [show (applyX cfg s (.appendFail rec n none)).2.disk.get? path =
        some (fileOf cfg (Spec17.lateWrap (fixedWindowRoll r) path (faultFn none) d1).2 ++ []) from ho.get,
      fileOf_of_none (cfg := cfg) hgone]
    rfl
  · show slotsOf r decode (appendFail cfg s rec n (faultFn none)).2.disk = _
    rw [slotsOf_sameElse r decode path hfa _ _ hse]
    show slotsOf r decode (Spec17.lateWrap (fixedWindowRoll r) path (faultFn none) d1).2 = _
    rw [hsl, slotsOf_sameElse r decode path hfa _ _ hse1]

/-- Simultaneous first appends under the appender's mutex (coarse lock machine: the guard spans the
whole `append`; threads run arbitrary lists of arriving records — working or failing encoders, any
roller fault index —; any scheduler). In every reachable state:
1. the appender's outputs and state are those of the sequential history of the committed records
   in commit order;
2. per thread, the committed records are a prefix of its program, in order;
3. ONLY THE FIRST COMMITTED RECORD CAN REQUEST A ROTATION …
4. … and it does iff the file the appender opened has at least `min_size` bytes;
5. when that rotation succeeded (roller honouring `Roll::roll`'s contract), the log file holds
   exactly the successfully written records in commit order: EVERY RECORD LANDED AFTER THE ROLL;
6. when the first record did not roll, all of them follow the old content.
The mutex and the `Once` are the assumptions (the trigger step is inside the critical section
here; `C17_once_at_most_one_yes` is the statement about the trigger without any lock). -/
theorem C17_concurrent_first (path : Path) (am : Bool) (m : Nat) (roll : RollFn) (d : Disk) (now : Nat)
    (progs : List (List XOp)) (harr : ∀ p ∈ progs, ∀ j ∈ p, arrival j = true) (sched : List Nat) :
    let cfg := startupCfg path am m roll
    let s0 := init cfg d false now
    let body : XOp → (List (Option Out) × St Bool) → (List (Option Out) × St Bool) :=
      fun j acc => (acc.1 ++ [(applyX cfg acc.2 j).1], (applyX cfg acc.2 j).2)
    let st := lrun body (LState.init ([], s0) progs) sched
    let order := st.log.map (·.2)
    (st.shared.1 = (traceX cfg s0 order).map (·.1) ∧ st.shared.2 = finalX cfg s0 order) ∧
    (∀ i t, st.threads[i]? = some t → (st.log.filter (fun e => e.1 == i)).map (·.2) = t.done ∧
        ∃ p, progs[i]? = some p ∧ t.done <+: p) ∧
    (∀ k out, st.shared.1[k]? = some (some out) → out.rolled.isSome → k = 0) ∧
    (∀ out, st.shared.1[0]? = some (some out) →
        (out.rolled.isSome ↔ (if am then fileOf cfg d else []).length ≥ m)) ∧
    (∀ out, st.shared.1[0]? = some (some out) → out.rolled = some true → RollGone roll path →
        fileOf cfg st.shared.2.disk = (order.map okBytes).flatten) ∧
    (∀ out, st.shared.1[0]? = some (some out) → out.rolled = none →
        fileOf cfg st.shared.2.disk = (if am then fileOf cfg d else []) ++ (order.map okBytes).flatten) := by
  intro cfg s0 body st order
  have inv : LInv body ([], s0) progs st := LInv.run sched (LInv.init body _ progs)
  -- the fold of `body` is the sequential trace
  have hseq : ∀ (js : List XOp) (acc : List (Option Out) × St Bool),
      js.foldl (fun acc j => body j acc) acc =
        (acc.1 ++ (traceX cfg acc.2 js).map (·.1), finalX cfg acc.2 js) := by
    intro js
    induction js with
    | nil => intro acc; simp [traceX, finalX]
    | cons j js ih =>
      intro acc
      simp only [List.foldl_cons]
      rw [ih]
      simp [body, traceX, finalX_cons, List.append_assoc]
  have hshared : st.shared = ((traceX cfg s0 order).map (·.1), finalX cfg s0 order) := by
    rw [inv.shared, hseq]
    simp [order]
  -- every committed job comes from a program, so it is an arriving record
  have horder : ∀ j ∈ order, arrival j = true := by
    intro j hj
    obtain ⟨e, he, rfl⟩ := List.mem_map.mp hj
    refine (lrun_log_forall body (P := fun j => arrival j = true) sched _ ⟨fun e he => (List.not_mem_nil he).elim, ?_⟩).1 e he
    intro t ht j hj
    obtain ⟨p, hp, rfl⟩ := List.mem_map.mp ht
    exact harr p hp j hj
  -- the rest is about the sequential history `order`
  obtain ⟨honly, hfirst⟩ := arrivals_first path am m roll order s0 (WF_init cfg d false now) horder
  rw [init_tst, init_fileOf] at hfirst
  rw [hshared]
  refine ⟨⟨rfl, rfl⟩, fun i t ht => ?_, honly, fun out hk => ?_, fun out hk => (hfirst out hk).2.2,
    fun out hk => (hfirst out hk).2.1⟩
  · obtain ⟨hl, p, hp1, hp2⟩ := inv.threads i t ht
    exact ⟨hl, p, hp1, ⟨t.todo, hp2⟩⟩
  · rw [(hfirst out hk).1]
    simp [cfg]

/-- The trigger ALONE, called from any number of threads with NO lock around it (`trigger` is a
public method of a `Send + Sync` object): with `std::sync::Once` modelled as an atomic claim
(`Once17.step`), over every schedule and any number of calls per thread, at most ONE call of
`trigger` ever answers `true` — at most one rotation request per trigger object. -/
theorem C17_once_at_most_one_yes (progs : List (Nat × Bool)) (sched : List Nat) :
    Once17.yesCount (Once17.run Once17.step (Once17.init progs) sched) ≤ 1 :=
  Once17.inv_yes_le_one (Once17.inv_run sched (Once17.inv_init progs))

/-- What the atomicity assumption buys: with a plain flag (look and claim as two steps,
`Once17.stepRacy`) two simultaneous first calls both answer `true` — two rotation requests. (A
concrete schedule of two threads; a witness, not a universally quantified statement.) -/
theorem C17_once_racy_flag_breaks :
    Once17.yesCount (Once17.run Once17.stepRacy (Once17.init [(1, true), (1, true)]) [0, 1, 0, 1, 0, 1, 0, 1]) = 2 := by
  decide

private def demoPath : Path := ['a']
private def demoRoller : RollerCfg := { nameOf := fun i => ['a', '.', Char.ofNat (48 + i)], base := 1, count := 2 }

/-- min_size 3, a 3-byte file, window [slot1 = [7]]: the first record rolls — old content to slot 1,
the former slot 1 to slot 2, the record alone in a fresh file —, the second does not -/
example :
    let cfg := startupCfg demoPath true 3 (fixedWindowRoll demoRoller)
    let s0 := init cfg ((Disk.empty.set demoPath [1, 2, 3]).set ['a', '.', '1'] [7]) false 0
    let a1 := append cfg s0 [[9]] (fun _ => false)
    a1.1.rolled = some true ∧ a1.2.disk.get? demoPath = some [9] ∧
      a1.2.disk.get? ['a', '.', '1'] = some [1, 2, 3] ∧ a1.2.disk.get? ['a', '.', '2'] = some [7] ∧
      (append cfg a1.2 [[8]] (fun _ => false)).1.rolled = none := by
  decide +kernel

/-- a "roller" that wipes the disk honours `RollGone` but NOT the exact placement: `rotateSlots` of
a one-slot window holding nothing is `[some old]`, the wiped disk shows `[none]` -/
example : Spec17.rotateSlots 1 [none] [1, 2, 3] = [some [1, 2, 3]] := by decide

/-- min_size 3, a 3-byte file, the FIRST record's encoder fails: the rotation is requested by that
record all the same (the policy runs before the encoder), the second record does not roll -/
example :
    let cfg := startupCfg demoPath true 3 (fun p f d => deleteRoll p f d)
    let s0 := init cfg (Disk.empty.set demoPath [1, 2, 3]) false 0
    let a1 := appendFail cfg s0 [[9]] 0 (fun _ => false)
    a1.1.res = .errEncode ∧ a1.1.rolled = some true ∧ (append cfg a1.2 [[8]] (fun _ => false)).1.rolled = none := by
  decide +kernel

/-- the first record's roller fails at step 0 of a 2-slot rotation: nothing moved, the record is
lost, the old content stays and later records are appended to it without another request -/
example :
    let cfg := startupCfg demoPath true 1 (Spec17.lateWrap (fixedWindowRoll demoRoller))
    let s0 := init cfg (Disk.empty.set demoPath [1, 2, 3]) false 0
    let a1 := append cfg s0 [[9]] (faultFn (some 0))
    let a2 := append cfg a1.2 [[8]] (fun _ => false)
    a1.1.res = .errRoll ∧ a1.1.rolled = some false ∧ a1.2.disk.get? demoPath = some [1, 2, 3] ∧
      a2.1.rolled = none ∧ a2.2.disk.get? demoPath = some [1, 2, 3, 8] := by
  decide +kernel

/-- min_size = u64::MAX (and 2^63): a 3-byte file is never big enough (the model compares natural
numbers; a signed subtraction in the code would roll here) -/
example :
    let s0 := fun m => init (startupCfg demoPath true m (fun p f d => deleteRoll p f d)) (Disk.empty.set demoPath [1, 2, 3]) false 0
    (append (startupCfg demoPath true 18446744073709551615 (fun p f d => deleteRoll p f d)) (s0 18446744073709551615) [[9]] (fun _ => false)).1.rolled = none ∧
    (append (startupCfg demoPath true 9223372036854775808 (fun p f d => deleteRoll p f d)) (s0 9223372036854775808) [[9]] (fun _ => false)).1.rolled = none := by
  decide +kernel

/-- min_size 3, a 2-byte file: no rotation, the record is appended -/
example :
    let cfg := startupCfg demoPath true 3 (fun p f d => deleteRoll p f d)
    let s0 := init cfg (Disk.empty.set demoPath [1, 2]) false 0
    (append cfg s0 [[9]] (fun _ => false)).1.rolled = none ∧
      (append cfg s0 [[9]] (fun _ => false)).2.disk.get? demoPath = some [1, 2, 9] := by
  decide +kernel

/-- min_size 0 rolls an EMPTY file at every start: with a full fixed window that evicts the oldest
real archive each time (consistent with the statement; worth knowing) -/
example :
    let cfg := startupCfg demoPath true 0 (fixedWindowRoll demoRoller)
    let s0 := init cfg ((Disk.empty.set ['a', '.', '1'] [11]).set ['a', '.', '2'] [22]) false 0
    let a1 := append cfg s0 [[9]] (fun _ => false)
    a1.1.rolled = some true ∧ a1.2.disk.get? ['a', '.', '1'] = some [] ∧ a1.2.disk.get? ['a', '.', '2'] = some [11] := by
  decide +kernel

end Log4rs.Rolling
