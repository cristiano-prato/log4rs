import Log4rsModel.Rolling.LemmasRolling
import Log4rsModel.TimeTrigger.Model
/-
C16, clause "the trigger fires … BEFORE that record is written", through the C05 model of
`RollingFileAppender::append` + `CompoundPolicy::process` (Rolling/Model.lean): the time trigger is
an instance of C05's abstract `Trigger` with `pre := true`; C05's `append_pre_spec` then says, at
the level of bytes on the disk, that on a firing the roller runs on the file WITHOUT the record and
the record is written into the re-opened file afterwards.
-/
namespace Log4rs.TimeTrigger
open Log4rs.Rolling

/-- `TimeTrigger` as a C05 trigger: the state is the scheduled instant, `nextOf now` is what
`TimeTrigger::new` schedules when the clock reads `now` (C16 proves what that is); pre-process. -/
def timeTriggerOf (nextOf : Nat → Nat) : Rolling.Trigger Nat :=
  { pre := true,
    fire := fun sched _ now => if now ≥ sched then (.yes, nextOf now) else (.no, sched),
    reinit := fun _ now => nextOf now }

/-- the instance answers exactly as `stepFixed` (the C16 model of `Trigger::trigger`) does -/
theorem C16_rolling_trigger_is_stepFixed (nextOf : Nat → Nat) (sched len now : Nat) :
    stepFixed (sched : Int) (now : Int) (.ok ((nextOf now : Nat) : Int))
      = (match ((timeTriggerOf nextOf).fire sched len now).1 with
          | .yes => .ok true
          | _ => .ok false,
         ((((timeTriggerOf nextOf).fire sched len now).2 : Nat) : Int)) := by
  simp only [stepFixed, timeTriggerOf]
  by_cases h : now ≥ sched
  · have : (now : Int) ≥ (sched : Int) := by omega
    simp [h, this]
  · have : ¬ (now : Int) ≥ (sched : Int) := by omega
    simp [h, this]

/-- "Before that record is written", on the disk: with the time trigger installed, an append whose
clock reading is at or after the schedule rolls the file that does NOT yet contain the record
(`d1` holds the old content `a0`), and if the roller succeeds the record is the first thing written
to the active file after the roll; the schedule moves to `nextOf now`. An append before the schedule
appends to the old content and leaves the schedule alone. -/
theorem C16_fired_record_written_after_roll (nextOf : Nat → Nat) (cfg : Cfg Nat)
    (htrig : cfg.trig = timeTriggerOf nextOf) (s : St Nat) (r : Rec) (fault : Nat → Bool) (hwf : WF cfg s) :
    let out := (append cfg s r fault).1
    let s' := (append cfg s r fault).2
    (s.now < s.tst → out.res = .ok ∧ out.rolled = none ∧ s'.tst = s.tst
        ∧ Opened cfg s' (openView cfg s ++ encBytes r))
    ∧ (s.now ≥ s.tst → s'.tst = nextOf s.now ∧ ∃ d1, d1.get? cfg.path = some (openView cfg s) ∧
        ((∃ x, (cfg.roll cfg.path fault d1).1 = .ok x ∧ out.res = .ok ∧ out.rolled = some true
            ∧ Opened cfg s' (fileOf cfg (cfg.roll cfg.path fault d1).2 ++ encBytes r))
         ∨ (∃ e, (cfg.roll cfg.path fault d1).1 = .error e ∧ out.res = .errRoll ∧ out.rolled = some false))) := by
  intro out s'
  have hpre : cfg.trig.pre = true := by rw [htrig]; rfl
  obtain ⟨_, htst, _, _, hno, _, hyes⟩ := append_pre_spec cfg s r fault hwf hpre
  constructor
  · intro hlt
    have hf : cfg.trig.fire s.tst (openView cfg s).length s.now = (.no, s.tst) := by
      rw [htrig]; simp only [timeTriggerOf]; rw [if_neg (by omega)]
    obtain ⟨h1, h2, h3, _⟩ := hno (by rw [hf])
    exact ⟨h1, h2, by rw [htst, hf], h3⟩
  · intro hge
    have hf : cfg.trig.fire s.tst (openView cfg s).length s.now = (.yes, nextOf s.now) := by
      rw [htrig]; simp only [timeTriggerOf]; rw [if_pos hge]
    obtain ⟨d1, hd1, _, hor⟩ := hyes (by rw [hf])
    refine ⟨by rw [htst, hf], d1, hd1, ?_⟩
    rcases hor with ⟨x, hx, h1, h2, h3, _⟩ | ⟨e, he, h1, h2, _⟩
    · exact Or.inl ⟨x, hx, h1, h2, h3⟩
    · exact Or.inr ⟨e, he, h1, h2⟩

end Log4rs.TimeTrigger
