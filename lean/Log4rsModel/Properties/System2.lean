import Log4rsModel.System.ReconfigLemmas
import Log4rsModel.System.ReconfigC15
import Log4rsModel.Properties.System
/-
System slice, stage 2 (audited under C01 through `extra_proof_modules`).

(A) Runtime reconfiguration inside the history: ops = `log record` | `setConfig bundle`
(System/Reconfig.lean: `sysRunOps`; specification System/ReconfigSpec.lean: `specOps`). The
stage-1 theorems are the one-segment case (`C01_sys_reconfig_no_setConfig`).
Only property theorems and examples live here.
-/
namespace Log4rs.System
open Log4rs Log4rs.Routing Log4rs.Routing.Tree Log4rs.Pattern Log4rs.Pattern.Parse

/-- MAIN THEOREM (A). For every initial filesystem, every first configuration and every history of
`log` / `setConfig` ops in which each installed configuration is well-formed (`BundleWF`: stage-1
`SysWF` + no two appenders of one configuration on one path): nothing panics, no error reaches the
handler, every writer ends flushed, and EVERY path of the filesystem holds what the specification
says — per segment between reconfigurations what that segment's configuration prescribes (the
stage-1 `specFile`), on top of what the segment's appenders found when they were built: append mode
keeps what the earlier segments left, truncate mode empties the file at the construction of the new
appender; paths the current configuration does not own keep what they held. -/
theorem C01_sys_reconfig_eq_spec (fs0 : FS) (c0 : SpecBundle) (ops : List SpecOp)
    (h0 : BundleWF c0) (hok : OpsOk c0 ops) :
    ∃ w, sysRunOps fs0 c0.b (ops.map SpecOp.toOp) = .ok w ∧
      (∀ p, w.disk p = specOps fs0 c0 [] ops p) ∧
      w.st.errors = [] ∧ (∀ q ∈ w.st.apps, q.2.file.buf = []) := by
  obtain ⟨fs', c', p', _, hrun, hspec⟩ := runOps_normal ops fs0 c0 [] h0 hok
  refine ⟨worldOf fs' c' p', ?_, ?_, rfl, quiet_stateOf _ _ _⟩
  · simp only [sysRunOps, install_ok fs0 c0 h0, hrun]
  · intro p
    rw [worldOf_disk, hspec]

/-- the observation the correspondence check compares -/
theorem C01_sys_reconfig_observation_eq_spec (n : Nat) (fs0 : FS) (c0 : SpecBundle) (ops : List SpecOp)
    (h0 : BundleWF c0) (hok : OpsOk c0 ops) :
    observeWorld n (sysRunOps fs0 c0.b (ops.map SpecOp.toOp)) = some (specObserve n (specOps fs0 c0 [] ops)) := by
  obtain ⟨w, hw, hd, _⟩ := C01_sys_reconfig_eq_spec fs0 c0 ops h0 hok
  simp only [hw, observeWorld, specObserve, Option.some.injEq]
  exact List.map_congr_left fun p _ => hd p

/-- Snapshot semantics (C15 ∘ C01). The model lets a record run entirely under the configuration
installed last (`sysStep`). That is what the snapshot machine of C15 (Reconfig/Swap.lean, the code's
`LoadMode.once`) does with the `SharedLogger` the new configuration yields: in ANY state of that
machine, after `set_config` has stored the snapshot of a `Valid` configuration, a record logged for
the `k`-th target and run to completion by any interleaving without a further swap is delivered to
exactly the appenders `Tree.deliver` lists for the new configuration — never the old table, never a
mixture (`C15_after_swap_only_new`), with the tree and the table taken from the same value. -/
theorem C01_sys_reconfig_routes_under_new_snapshot (sys : Reconfig.Sys) (hsys : sys.Inv)
    (tag : Nat) (cfg : Config) (hv : Valid cfg) (targets : List Name) (k lvl : Nat)
    (evs : List Reconfig.Event) (hev : ∀ e ∈ evs, e.WF) (hno : ∀ s, Reconfig.Event.swap s ∉ evs) :
    ∃ new, snapshotOf tag cfg targets = some new ∧
      let sys1 := (sys.apply .once (.swap new)).apply .once (.spawn k lvl)
      ∀ th, (sys1.run .once evs).threads[sys.threads.length]? = some th → th.isDone = true →
        deliver cfg (targets.getD k []) lvl = some (th.out.map fun d => nameOf cfg.appenders d.2) := by
  obtain ⟨new, hs, hwf, hdel⟩ := snapshotOf_spec tag cfg hv targets
  refine ⟨new, hs, ?_⟩
  intro sys1 th hth hdone
  have := Reconfig.C15_after_swap_only_new sys hsys new hwf k lvl evs hev hno th hth hdone
  rw [this]
  exact hdel k lvl

/-- the specification of a history without `setConfig` is the stage-1 specification of the first
configuration built on the initial filesystem (stage 1 is the one-segment case) -/
theorem C01_sys_reconfig_no_setConfig (fs : FS) (c : SpecBundle) (pending rs : List SysRecord) :
    specOps fs c pending (rs.map SpecOp.log) = specSegment fs c (pending ++ rs) := by
  rw [← List.append_nil (rs.map SpecOp.log), specOps_logs]
  rfl

/-- two segments: records, one reconfiguration, records — the second configuration is built on the
filesystem the first segment left -/
theorem C01_sys_reconfig_two_segments (fs : FS) (c0 c1 : SpecBundle) (rs₁ rs₂ : List SysRecord) :
    specOps fs c0 [] (rs₁.map SpecOp.log ++ SpecOp.setConfig c1 :: rs₂.map SpecOp.log) =
      specSegment (specSegment fs c0 rs₁) c1 rs₂ := by
  rw [specOps_logs, List.nil_append, specOps, C01_sys_reconfig_no_setConfig, List.nil_append]

/-- how the file state is carried across a reconfiguration, per open mode of the NEW appender: a path
owned by appender `a` of the segment's configuration holds, in append mode, what the filesystem held
when the appender was built followed by the segment's contributions; in truncate mode only the
segment's contributions; a path the configuration does not own is unchanged. -/
theorem C01_sys_reconfig_open_modes (fs : FS) (c : SpecBundle) (rs : List SysRecord) (p : Nat) :
    (∀ a, owner c.b.cfg.routing.appenders c.b.paths p = some a →
      ((c.b.cfg.app a).mode = .append →
        specSegment fs c rs p = some ((fs p).getD [] ++ rs.flatMap (specContribution c.b.cfg c.asts a))) ∧
      ((c.b.cfg.app a).mode = .truncate →
        specSegment fs c rs p = some (rs.flatMap (specContribution c.b.cfg c.asts a)))) ∧
    (owner c.b.cfg.routing.appenders c.b.paths p = none → specSegment fs c rs p = fs p) := by
  refine ⟨fun a ho => ?_, specSegment_free fs c rs p⟩
  rw [specSegment_owner fs c rs p a ho]
  exact ⟨fun hm => by rw [hm]; rfl, fun hm => by rw [hm]; rfl⟩

/-- `OpsOk` of a history passes to its prefixes -/
theorem C01_sys_reconfig_ok_prefix (c : SpecBundle) (ops : List SpecOp) (k : Nat) (h : OpsOk c ops) :
    OpsOk c (ops.take k) := by
  induction ops generalizing c k with
  | nil => simp [OpsOk]
  | cons op ops ih =>
    cases k with
    | zero => simp [OpsOk]
    | succ k =>
      cases op with
      | log r => exact ⟨h.1, ih c k h.2⟩
      | setConfig c1 => exact ⟨h.1, ih c1 k h.2⟩

/-- What a reader sees after every single op (the snapshots the correspondence check takes): the
`k`-th snapshot is the specification of the first `k+1` ops. -/
theorem C01_sys_reconfig_snapshots_eq_spec (n : Nat) (fs0 : FS) (c0 : SpecBundle) (ops : List SpecOp)
    (h0 : BundleWF c0) (hok : OpsOk c0 ops) (k : Nat)
    (hk : k < (sysTraceOps fs0 c0.b (ops.map SpecOp.toOp)).length) :
    ((sysTraceOps fs0 c0.b (ops.map SpecOp.toOp))[k]?).map (observeWorld n) =
      some (some (specObserve n (specOps fs0 c0 [] (ops.take (k + 1))))) := by
  have hp : (sysTraceOps fs0 c0.b (ops.map SpecOp.toOp))[k]? =
      some (sysRunOps fs0 c0.b ((ops.take (k + 1)).map SpecOp.toOp)) := by
    simp only [sysTraceOps, sysRunOps, install_ok fs0 c0 h0] at hk ⊢
    rw [sysTraceOpsFrom_prefix _ _ k hk, List.map_take]
  rw [hp, Option.map_some,
    C01_sys_reconfig_observation_eq_spec n fs0 c0 _ h0 (C01_sys_reconfig_ok_prefix c0 ops (k + 1) hok)]

/-! ### non-vacuity (tests on samples, not proofs of the property)

The stage-1 example configuration (`exCfg`: appender `f` on path 0 in append mode, `g` on path 1 in
truncate mode) logs one record; then a configuration whose only appender is called `g` but writes to
path 0 — `f`'s file, under another name — in truncate mode is installed and logs one record; then a
configuration whose only appender is called `f`, attached twice to the root, on path 1 — the file the
first configuration's `g` wrote — in append mode. -/

def exB0 : SpecBundle := { b := { cfg := exCfg, paths := fun a => if a = exF then 0 else 1 }, asts := exAsts }

def exB1 : SpecBundle :=
  { b := { cfg := { exCfg with routing := { appenders := [exG], rootLevel := 5, rootAppenders := [exG], loggers := [] } },
           paths := fun _ => 0 },
    asts := exAsts }

def exB2 : SpecBundle :=
  { b := { cfg := { exCfg with routing := { appenders := [exF], rootLevel := 5, rootAppenders := [exF, exF], loggers := [] } },
           paths := fun _ => 1 },
    asts := exAsts }

def exFs0 : FS := fun p => if p = 0 then some [80] else none

def exOps : List SpecOp :=
  [.log (exRecords.getD 0 default), .setConfig exB1, .log (exRecords.getD 3 default), .setConfig exB2,
   .log (exRecords.getD 3 default)]
  where default : SysRecord := { record := { level := 1, message := [], target := [] }, env := exEnv }

private theorem exWF (c : SpecBundle) (hc : c.b.cfg.cc = asciiClass) (hP : c.b.cfg.P = Profile.debug64)
    (hB : c.b.cfg.B.mdcWhole = true) (hE : c.b.cfg.B.mdcEmptyOk = true) (happ : c.b.cfg.app = exCfg.app) (hasts : c.asts = exAsts)
    (hv : Valid c.b.cfg.routing) (hsub : ∀ a ∈ c.b.cfg.routing.appenders, a = exF ∨ a = exG)
    (hinj : PathsInj c) : BundleWF c where
  wf := by
    rw [hasts]
    exact { exSysWFR c.b.cfg hc hP hB hE hv fun a => by rw [happ] with
      noRolling := fun a _ => by rw [happ]; exact exCfg_plain a }
  paths := hinj

example : BundleWF exB0 :=
  exWF exB0 rfl rfl rfl rfl rfl rfl (by unfold Valid; decide +kernel)
    (by intro a ha; simpa [exB0, exCfg, exRouting] using ha)
    (by
      intro a ha a' ha' h
      simp only [exB0, exCfg, exRouting, List.mem_cons, List.not_mem_nil, or_false] at ha ha'
      rcases ha with rfl | rfl <;> rcases ha' with rfl | rfl <;> first | rfl | (exact absurd h (by decide)))

example : BundleWF exB1 :=
  exWF exB1 rfl rfl rfl rfl rfl rfl (by unfold Valid; decide +kernel)
    (by intro a ha; right; simpa [exB1] using ha)
    (by intro a ha a' ha' _; simp only [exB1, List.mem_cons, List.not_mem_nil, or_false] at ha ha'; rw [ha, ha'])

example : BundleWF exB2 :=
  exWF exB2 rfl rfl rfl rfl rfl rfl (by unfold Valid; decide +kernel)
    (by intro a ha; left; simpa [exB2] using ha)
    (by intro a ha a' ha' _; simp only [exB2, List.mem_cons, List.not_mem_nil, or_false] at ha ha'; rw [ha, ha'])

/-- test on a sample: what the specification leaves in paths 0 and 1.
path 0: `P` + three INFO lines (segment 0, `f` appends), emptied when `g` of the second configuration
is built on it, then `<x)€**;`.  path 1: `<a::b::hi*;` from segment 0 (`g` truncated a missing file),
kept by the third configuration's append-mode `f`, which adds ` ERRORé€\n` twice. -/
example : specObserve 2 (specOps exFs0 exB0 [] exOps) =
    [some [60, 120, 41, 226, 130, 172, 42, 42, 59],
     some [60, 97, 58, 58, 98, 58, 58, 104, 105, 42, 59,
       32, 69, 82, 82, 79, 82, 195, 169, 226, 130, 172, 10,
       32, 69, 82, 82, 79, 82, 195, 169, 226, 130, 172, 10]] := by decide +kernel

/-- test on a sample: the model computes the same -/
example : observeWorld 2 (sysRunOps exFs0 exB0.b (exOps.map SpecOp.toOp)) =
    some (specObserve 2 (specOps exFs0 exB0 [] exOps)) := by decide +kernel

/-- test on a sample: after the first two ops (record, then the second configuration built and
installed) path 0 is empty — truncated at the construction of the new appender, before any record -/
example : specObserve 2 (specOps exFs0 exB0 [] (exOps.take 2)) =
    [some [], some [60, 97, 58, 58, 98, 58, 58, 104, 105, 42, 59]] := by decide +kernel

/-! ### (B) JSON-encoder appenders — non-vacuity (tests on samples)

The stage-1 example with appender `f` carrying the JSON encoder instead of its pattern (its threshold,
its three attachments along the chain of `a::b`, its append mode and the previous content `P` stay). -/

def exCfgJ : SysConfig :=
  { exCfg with app := fun a => if a = exF then { exCfg.app a with kind := .json } else exCfg.app a }

example : SysWF exCfgJ exAsts :=
  { exSysWFR exCfgJ rfl rfl rfl rfl exValid fun a => by unfold exCfgJ; dsimp only; split <;> rfl with
    noRolling := fun a _ => by
      unfold exCfgJ
      dsimp only
      split <;> exact exCfg_plain a }

/-- test on a sample: the line one delivery of the first record adds to `f` -/
example : specLine exCfgJ exAsts exF (exRecords.getD 0 ⟨⟨1, [], [], none, none, none⟩, exEnv⟩) =
    utf8 cs!"{\"time\":\"\",\"level\":\"INFO\",\"message\":\"hi\",\"target\":\"a::b::c\",\"thread\":null,\"thread_id\":1,\"mdc\":{}}\n" := by
  decide +kernel

/-- test on a sample: model = specification with a JSON appender next to a pattern appender;
`f` holds `P`, three copies of the first record's line and one of the last record's -/
example : observe (sysRun exCfgJ exRecords) = some (specFiles exCfgJ exAsts exRecords) ∧
    exRecords.map (specCopies exCfgJ exF) = [3, 0, 0, 1] := by decide +kernel

/-- test on a sample: every record's JSON line is accepted by the C12 specification -/
example : ∀ r ∈ exRecords, Json.specLine (jsonEnv r) (jsonRecord r) (jsonOf r) = .ok := by decide +kernel

end Log4rs.System
