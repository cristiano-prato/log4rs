import Log4rsModel.Literals.Lemmas
import Log4rsModel.Literals.DurationArith
/-
C20 — Size and interval literals parse exactly; bad or overflowing ones are rejected.
Only property theorems and non-vacuity examples live here; helpers are in
Literals/{Lemmas,DurationLemmas,DurationArith}.lean.
-/
namespace Log4rs.Literals
open Log4rs.Str Log4rs

/-! ### The vocabulary of the statement -/

/-- "number": the value of a digit string is the number its decimal numeral denotes -/
theorem C20_digitsVal_decimal (n : Nat) : digitsVal (Nat.toDigits 10 n) = n := by
  rw [digitsVal_eq]; exact Nat.ofDigitChars_ten_toDigits

/-- leading zeros do not change it -/
theorem C20_digitsVal_leading_zeros (k : Nat) (ds : List Char) :
    digitsVal (List.replicate k '0' ++ ds) = digitsVal ds := by
  rw [digitsVal_eq, digitsVal_eq, Nat.ofDigitChars_append]; simp

/-- "white space": `isWhitespace` is exactly the 25 code points of the Unicode White_Space property -/
theorem C20_whitespace_table (c : Char) :
    isWhitespace c = true ↔ c.toNat ∈ [9, 10, 11, 12, 13, 0x20, 0x85, 0xA0, 0x1680, 0x2000, 0x2001, 0x2002,
      0x2003, 0x2004, 0x2005, 0x2006, 0x2007, 0x2008, 0x2009, 0x200A, 0x2028, 0x2029, 0x202F, 0x205F, 0x3000] := by
  -- the two ranges of the definition written out; the rest is the list read as a disjunction
  simp only [isWhitespace, List.mem_cons, List.mem_nil_iff, or_false, Bool.or_eq_true, Bool.and_eq_true,
    decide_eq_true_eq, range_9_13, range_2000_200A, or_assoc]

/-- "powers of 1024 for b/kb/mb/gb/tb and their -ib forms": the nine words and their exponents -/
theorem C20_size_unit_words (w : List Char) (k : Nat) :
    unitExp w = some k ↔ (w, k) ∈ sizeWords :=
  ⟨unitExp_words w k, fun h => sizeWords_exp _ h⟩

/-- "the named unit, singular or plural": the fourteen words -/
theorem C20_interval_unit_words (w : List Char) (t : TUnit) :
    unitOf w = some t ↔ (w = t.word ∨ w = t.word ++ ['s']) := by
  refine ⟨unitOf_some w t, ?_⟩
  rintro (rfl | rfl)
  · exact timeUnit_unitOf _ t.word_mem.1
  · exact timeUnit_unitOf _ t.word_mem.2

/-- The unit chain of `size.rs` IS the statement's table: for every unit text, in any letter case, the
multiplier the code uses is 1024 to the power named by the word (and no other word is a unit). -/
theorem C20_size_units (u : List Char) :
    lookupUnit sizeUnitTable u = (unitExp (u.map toAsciiLower)).map (fun k => 1024 ^ k) :=
  size_units u

/-- The unit chain of `time.rs` IS "the named unit, singular or plural", in any letter case. -/
theorem C20_interval_units (u : List Char) :
    lookupUnit timeUnitTable u = unitOf (u.map toAsciiLower) :=
  interval_units u

/-! ### No panic: the byte slicing of the visitors -/

/-- The one panic source of the two visitors, `v[..n]` / `v[n..]` with `n` from `str::find`, is
always at a character boundary: the split succeeds and yields the longest digit prefix and the rest. -/
theorem C20_split_at_find (v : List Char) :
    splitNumberUnit v =
      .ok (if v.dropWhile isAsciiDigit = [] then (trim v, none)
           else (trim (v.takeWhile isAsciiDigit), some (trim (v.dropWhile isAsciiDigit)))) :=
  splitNumberUnit_eq v

theorem C20_size_no_panic (sc : Visit) (w : String) : visitSize sc ≠ .panic w := by
  cases sc with
  | u64 v h => nofun
  | i64 v h => show (if v < 0 then _ else _) ≠ _; split <;> nofun
  | other => nofun
  | str s =>
    -- every branch of the closed form is an error or a value
    show parseSizeStr s ≠ _
    rw [parseSizeStr_eq]
    repeat' split
    all_goals nofun

theorem C20_interval_no_panic (sc : Visit) (w : String) : visitInterval sc ≠ .panic w := by
  cases sc with
  | u64 v h => show (if v ≤ I64_MAX then _ else _) ≠ _; split <;> nofun
  | i64 v h => show (if v < 0 then _ else _) ≠ _; split <;> nofun
  | other => nofun
  | str s =>
    show parseIntervalStr s ≠ _
    rw [parseIntervalStr_eq]
    repeat' split
    all_goals nofun

/-! ### Model = executable specification, on every scalar -/

theorem C20_size_eq_spec (sc : Visit) : toOpt (visitSize sc) = specSize sc := by
  cases sc with
  | other => rfl
  | u64 v h => rfl
  | i64 v h =>
    simp only [visitSize, specSize]
    by_cases h0 : v < 0
    · rw [if_pos h0, if_neg (Int.not_le.mpr h0)]; rfl
    · rw [if_neg h0, if_pos (Int.not_lt.mp h0)]; rfl
  | str s =>
    show toOpt (parseSizeStr s) = _
    simp only [parseSizeStr_eq, specSize, readLit_eq, fit, ← Nat.not_le]
    generalize s.takeWhile isAsciiDigit = ds
    generalize s.dropWhile isAsciiDigit = rest
    by_cases hd : ds = []
    · simp only [hd, true_or, if_true]; rfl
    simp only [hd, false_or, if_false]
    by_cases hr : rest = []
    · simp only [hr, if_true, ite_not]
      split <;> rfl
    simp only [hr, if_false]
    cases unitExp ((trim rest).map toAsciiLower) with
    | none => simp only []; split <;> rfl
    | some k =>
      simp only [ite_not]
      -- a number that does not fit makes the product not fit
      have hle : digitsVal ds ≤ digitsVal ds * 1024 ^ k := Nat.le_mul_of_pos_right _ (Nat.pow_pos (by decide))
      by_cases hp : digitsVal ds * 1024 ^ k ≤ U64_MAX
      · rw [if_pos (Nat.le_trans hle hp), if_pos hp, if_pos hp]; rfl
      · rw [if_neg hp]; split <;> rfl

theorem C20_interval_eq_spec (sc : Visit) : toOpt (visitInterval sc) = specInterval sc := by
  cases sc with
  | other => rfl
  | u64 v h =>
    simp only [visitInterval, specInterval, fit]
    split <;> rfl
  | i64 v h =>
    simp only [visitInterval, specInterval]
    by_cases h0 : v < 0
    · rw [if_pos h0, if_neg (Int.not_le.mpr h0)]; rfl
    · rw [if_neg h0, if_pos (Int.not_lt.mp h0)]; rfl
  | str s =>
    show toOpt (parseIntervalStr s) = _
    simp only [parseIntervalStr_eq, specInterval, readLit_eq, fit]
    generalize s.takeWhile isAsciiDigit = ds
    generalize s.dropWhile isAsciiDigit = rest
    by_cases hd : ds = []
    · simp only [hd, true_or, if_true]; rfl
    · by_cases hm : digitsVal ds ≤ I64_MAX
      · simp only [hd, Nat.not_lt.mpr hm, or_self, if_false]
        by_cases hr : rest = []
        · simp only [hr, if_true, hm]; rfl
        · simp only [hr, if_false]
          cases unitOf ((trim rest).map toAsciiLower) <;> simp only [hm, if_true] <;> rfl
      · simp only [hd, Nat.lt_of_not_le hm, or_true, if_true, if_false]
        by_cases hr : rest = []
        · simp only [hr, if_true, hm, if_false]; rfl
        · simp only [hr, if_false]
          cases unitOf ((trim rest).map toAsciiLower) <;> simp only [hm, if_false] <;> rfl

/-! ### The statement's clauses, one theorem each, in the shape of the English text -/

/-- '<number><unit>': any letter case of any of the nine unit words, any white space between number
and unit and after the unit: exactly number x 1024^k when that fits `u64`, rejected otherwise —
never wrapped. -/
theorem C20_size_number_unit (ds ws u ws' : List Char) (k : Nat)
    (hds : Digits ds) (hws : AllWs ws) (hws' : AllWs ws') (hu : unitExp (u.map toAsciiLower) = some k) :
    toOpt (visitSize (.str (ds ++ (ws ++ (u ++ ws'))))) =
      if digitsVal ds * 1024 ^ k < 2 ^ 64 then some (digitsVal ds * 1024 ^ k) else none := by
  rw [C20_size_eq_spec]
  simp only [specSize, readLit_unit unitExp unitExp_letters ds ws u ws' k hds hws
    hws' hu, fit_u64]

/-- a bare number means bytes -/
theorem C20_size_bare (ds : List Char) (hds : Digits ds) :
    toOpt (visitSize (.str ds)) = if digitsVal ds < 2 ^ 64 then some (digitsVal ds) else none := by
  rw [C20_size_eq_spec]
  simp only [specSize, readLit_bare unitExp ds hds, fit_u64]

/-- whatever is accepted starts with digits; the number is the LONGEST digit prefix; what follows is
nothing, or (after trimming) one of the nine unit words in some letter case; the value is the exact
product and fits `u64` -/
theorem C20_size_accept_sound (s : List Char) (v : Nat) (h : visitSize (.str s) = .ok v) :
    v < 2 ^ 64 ∧ Digits (s.takeWhile isAsciiDigit) ∧
      ((s.dropWhile isAsciiDigit = [] ∧ v = digitsVal (s.takeWhile isAsciiDigit)) ∨
       (∃ k, unitExp ((trim (s.dropWhile isAsciiDigit)).map toAsciiLower) = some k ∧
          v = digitsVal (s.takeWhile isAsciiDigit) * 1024 ^ k)) := by
  replace h : parseSizeStr s = .ok v := h
  rw [parseSizeStr_eq] at h
  split at h
  · nomatch h
  rename_i hn
  have hd : Digits (s.takeWhile isAsciiDigit) := ⟨fun e => hn (.inl e), takeWhile_all _ s⟩
  split at h
  · rename_i hr
    cases h
    exact ⟨(le_U64_MAX _).mp (Nat.not_lt.mp fun e => hn (.inr e)), hd, .inl ⟨hr, rfl⟩⟩
  split at h
  · nomatch h
  rename_i k hk
  split at h
  · rename_i hp
    cases h
    exact ⟨(le_U64_MAX _).mp hp, hd, .inr ⟨k, hk, rfl⟩⟩
  · nomatch h

/-- a string that does not start with an ASCII digit is rejected: negative numbers (`-5`, `-5kb`),
explicit signs, leading white space, digits of other scripts, a unit without a number, the empty string -/
theorem C20_size_leading_nondigit_rejected (s : List Char)
    (h : s = [] ∨ ∃ c t, s = c :: t ∧ isAsciiDigit c = false) :
    toOpt (visitSize (.str s)) = none := by
  rw [C20_size_eq_spec]; simp only [specSize, readLit_leading_nondigit unitExp s h]

theorem C20_size_negative_rejected (r : List Char) : toOpt (visitSize (.str ('-' :: r))) = none :=
  C20_size_leading_nondigit_rejected _ (Or.inr ⟨'-', r, rfl, by decide⟩)

/-- fractional numbers are rejected: digits, a '.', anything -/
theorem C20_size_fraction_rejected (ds r : List Char) (hds : Digits ds) :
    toOpt (visitSize (.str (ds ++ '.' :: r))) = none := by
  rw [C20_size_eq_spec]
  simp only [specSize, readLit_nonletter unitExp unitExp_letters ds r '.' hds
    (by decide) (by decide) (by decide)]

/-- unknown units and junk suffixes are rejected: digits followed by a remainder that is not (after
trimming, in lower case) one of the nine words -/
theorem C20_size_unknown_unit_rejected (ds rest : List Char) (hds : Digits ds)
    (hr : ∃ c t, rest = c :: t ∧ isAsciiDigit c = false)
    (hu : unitExp ((trim rest).map toAsciiLower) = none) :
    toOpt (visitSize (.str (ds ++ rest))) = none := by
  rw [C20_size_eq_spec]; simp only [specSize, readLit_unknown unitExp ds rest hds hr hu]

/-- integer scalars, `visit_u64`: every value is the number of bytes -/
theorem C20_size_u64 (v : Nat) (h : v < 2 ^ 64) : visitSize (.u64 v h) = .ok v := rfl

/-- integer scalars, `visit_i64`: negative rejected, everything else unchanged -/
theorem C20_size_i64 (v : Int) (h : -(2 ^ 63 : Int) ≤ v ∧ v < 2 ^ 63) :
    visitSize (.i64 v h) = if v < 0 then .err .negative else .ok v.toNat := rfl

/-- The signed visitor method agrees with the unsigned one: an integer that reaches the visitor
through TOML (always `visit_i64`) gets the same answer as through JSON / YAML. -/
theorem C20_size_routes_agree (sc : Scalar) (t : Visit) (h : sc.visitToml = some t) :
    visitSize t = visitSize sc.visit := by
  refine routes_agree_of visitSize (fun n h2 => ?_) sc t h
  rw [visitSize_int]
  show (if n < 0 then _ else _) = _
  by_cases h0 : n < 0
  · rw [if_pos h0, if_neg (by omega), if_pos h2]
  · rw [if_neg h0, if_pos (by omega)]

/-- a document integer (any size): exactly the values `0 ..= u64::MAX` are accepted, unchanged;
negative numbers and larger ones are rejected -/
theorem C20_size_int (n : Int) :
    (parseSize (.int n)).toOption = if 0 ≤ n ∧ n.toNat ≤ U64_MAX then some n.toNat else none := by
  unfold parseSize
  rw [visitSize_int]
  simp only [le_U64_MAX]
  by_cases h : 0 ≤ n ∧ n.toNat < 2 ^ 64
  · rw [if_pos h, if_pos h]; rfl
  · rw [if_neg h, if_neg h]; split <;> rfl

/-- '<number><unit>' for intervals: any letter case of any of the fourteen words, any white space:
exactly `number` of the named unit when the number fits `i64`, rejected otherwise — never wrapped.
The count is not multiplied out: what `n` months or years are is decided by the schedule (C16). -/
theorem C20_interval_number_unit (ds ws u ws' : List Char) (t : TUnit)
    (hds : Digits ds) (hws : AllWs ws) (hws' : AllWs ws') (hu : unitOf (u.map toAsciiLower) = some t) :
    toOpt (visitInterval (.str (ds ++ (ws ++ (u ++ ws'))))) =
      if digitsVal ds < 2 ^ 63 then some (t, (digitsVal ds : Int)) else none := by
  rw [C20_interval_eq_spec]
  simp only [specInterval, readLit_unit unitOf unitOf_letters ds ws u ws' t hds hws
    hws' hu, fit_i64]
  split <;> rfl

/-- a bare number means seconds -/
theorem C20_interval_bare (ds : List Char) (hds : Digits ds) :
    toOpt (visitInterval (.str ds)) =
      if digitsVal ds < 2 ^ 63 then some (.second, (digitsVal ds : Int)) else none := by
  rw [C20_interval_eq_spec]
  simp only [specInterval, readLit_bare unitOf ds hds, fit_i64]
  split <;> rfl

theorem C20_interval_accept_sound (s : List Char) (t : TUnit) (k : Int)
    (h : visitInterval (.str s) = .ok (t, k)) :
    0 ≤ k ∧ k < 2 ^ 63 ∧ Digits (s.takeWhile isAsciiDigit) ∧
      k = (digitsVal (s.takeWhile isAsciiDigit) : Int) ∧
      ((s.dropWhile isAsciiDigit = [] ∧ t = .second) ∨
       unitOf ((trim (s.dropWhile isAsciiDigit)).map toAsciiLower) = some t) := by
  replace h : parseIntervalStr s = .ok (t, k) := h
  rw [parseIntervalStr_eq] at h
  split at h
  · nomatch h
  rename_i hn
  have hd : Digits (s.takeWhile isAsciiDigit) := ⟨fun e => hn (.inl e), takeWhile_all _ s⟩
  have hm := (le_I64_MAX _).mp (Nat.not_lt.mp fun e => hn (.inr e))
  split at h
  · rename_i hr
    cases h
    exact ⟨by omega, by omega, hd, rfl, .inl ⟨hr, rfl⟩⟩
  split at h
  · nomatch h
  rename_i u hu
  cases h
  exact ⟨by omega, by omega, hd, rfl, .inr hu⟩

theorem C20_interval_leading_nondigit_rejected (s : List Char)
    (h : s = [] ∨ ∃ c t, s = c :: t ∧ isAsciiDigit c = false) :
    toOpt (visitInterval (.str s)) = none := by
  rw [C20_interval_eq_spec]; simp only [specInterval, readLit_leading_nondigit unitOf s h]

theorem C20_interval_negative_rejected (r : List Char) : toOpt (visitInterval (.str ('-' :: r))) = none :=
  C20_interval_leading_nondigit_rejected _ (Or.inr ⟨'-', r, rfl, by decide⟩)

theorem C20_interval_fraction_rejected (ds r : List Char) (hds : Digits ds) :
    toOpt (visitInterval (.str (ds ++ '.' :: r))) = none := by
  rw [C20_interval_eq_spec]
  simp only [specInterval, readLit_nonletter unitOf unitOf_letters ds r '.' hds
    (by decide) (by decide) (by decide)]

theorem C20_interval_unknown_unit_rejected (ds rest : List Char) (hds : Digits ds)
    (hr : ∃ c t, rest = c :: t ∧ isAsciiDigit c = false)
    (hu : unitOf ((trim rest).map toAsciiLower) = none) :
    toOpt (visitInterval (.str (ds ++ rest))) = none := by
  rw [C20_interval_eq_spec]; simp only [specInterval, readLit_unknown unitOf ds rest hds hr hu]

/-- `visit_u64`: seconds; values above `i64::MAX` are rejected, not wrapped (finding F8, fixed in a913ecb) -/
theorem C20_interval_u64 (v : Nat) (h : v < 2 ^ 64) :
    visitInterval (.u64 v h) = if v < 2 ^ 63 then .ok (.second, (v : Int)) else .err .overflow := by
  show (if v ≤ I64_MAX then _ else _) = _
  simp only [le_I64_MAX]

theorem C20_interval_i64 (v : Int) (h : -(2 ^ 63 : Int) ≤ v ∧ v < 2 ^ 63) :
    visitInterval (.i64 v h) = if v < 0 then .err .negative else .ok (.second, v) := rfl

theorem C20_interval_routes_agree (sc : Scalar) (t : Visit) (h : sc.visitToml = some t) :
    visitInterval t = visitInterval sc.visit := by
  refine routes_agree_of visitInterval (fun n h2 => ?_) sc t h
  rw [visitInterval_int]
  show (if n < 0 then _ else _) = _
  by_cases h0 : n < 0
  · rw [if_pos h0, if_neg (by omega), if_neg (by omega), if_pos h2]
  · rw [if_neg h0, if_pos (by omega)]

/-- a document integer: exactly `0 ..= i64::MAX` is accepted, as that many seconds -/
theorem C20_interval_int (n : Int) :
    (parseInterval (.int n)).toOption =
      if 0 ≤ n ∧ n.toNat ≤ I64_MAX then some (.second, n) else none := by
  unfold parseInterval
  rw [visitInterval_int]
  simp only [le_I64_MAX]
  by_cases h : 0 ≤ n ∧ n.toNat < 2 ^ 63
  · rw [if_pos h, if_pos h]; rfl
  · rw [if_neg h, if_neg h]; repeat' split
    all_goals rfl

/-- no accepted interval is negative or out of `i64` range — for every scalar form -/
theorem C20_interval_never_wraps (sc : Visit) (u : TUnit) (k : Int)
    (h : visitInterval sc = .ok (u, k)) : 0 ≤ k ∧ k < 2 ^ 63 := by
  cases sc with
  | other => simp [visitInterval] at h
  | u64 v hv =>
    rw [C20_interval_u64] at h
    split at h
    · simp at h; omega
    · simp at h
  | i64 v hv =>
    rw [C20_interval_i64] at h
    split at h
    · simp at h
    · simp at h; omega
  | str s =>
    have := C20_interval_accept_sound s u k h
    exact ⟨this.1, this.2.1⟩

/-- The boundary with C16. The parser accepts every count up to `i64::MAX` with every unit; it does
not multiply the count by a unit length, so `9223372036854775807 years` IS accepted here. Whether the
schedule can represent that span is C16's question (signature `C16/interval-overflows-chrono`, fixed:
the schedule answers "never"); on the configuration path the harness also builds the real
`TimeTrigger` from every accepted interval and observes that nothing panics. -/
theorem C20_interval_count_not_scaled :
    visitInterval (.str "9223372036854775807 years".toList) = .ok (.year, 9223372036854775807) ∧
    visitInterval (.str "9223372036854775808 seconds".toList) = .err .notNumber := by
  decide +kernel

/-! ### The statement as an equivalence: the code accepts exactly the literals, with exactly their value -/

/-- `deserialize_limit` on a string: accepted with value `v` iff the text is a size literal denoting
`v` (number x power of 1024, or a bare number of bytes) and `v` fits `u64`. Everything else — negative
or fractional numbers, unknown units, junk, values that do not fit — is an error. -/
theorem C20_size_iff (s : List Char) (v : Nat) :
    visitSize (.str s) = .ok v ↔ SizeLit s v ∧ v < 2 ^ 64 := by
  constructor
  · intro h
    obtain ⟨hv, hdig, hcase⟩ := C20_size_accept_sound s v h
    refine ⟨?_, hv⟩
    have hsplit := List.takeWhile_append_dropWhile (p := isAsciiDigit) (l := s)
    rcases hcase with ⟨hrest, rfl⟩ | ⟨k, hk, rfl⟩
    · have := SizeLit.bare _ hdig
      rw [hrest, List.append_nil] at hsplit
      rw [hsplit] at this ⊢
      exact this
    · -- the remainder is white space, its trimmed core, white space
      obtain ⟨ws, ws', hdec, hws, hws'⟩ := trim_decomp (s.dropWhile isAsciiDigit)
      have := SizeLit.unit _ ws _ ws' k hdig hws hws' hk
      rwa [← hdec, hsplit] at this
  · rintro ⟨hl, hv⟩
    rw [← toOpt_eq_some]
    cases hl with
    | bare _ hds => rw [C20_size_bare s hds, if_pos hv]
    | unit ds ws u ws' k hds hws hws' hk => rw [C20_size_number_unit ds ws u ws' k hds hws hws' hk, if_pos hv]

/-- the same for `TimeTriggerInterval`: accepted as `n` units `t` iff the text is an interval literal
denoting that and `n` fits `i64` -/
theorem C20_interval_iff (s : List Char) (t : TUnit) (k : Int) :
    visitInterval (.str s) = .ok (t, k) ↔ ∃ n : Nat, IntervalLit s t n ∧ n < 2 ^ 63 ∧ k = (n : Int) := by
  constructor
  · intro h
    obtain ⟨_, hk63, hdig, hk, hcase⟩ := C20_interval_accept_sound s t k h
    refine ⟨_, ?_, by omega, hk⟩
    have hsplit := List.takeWhile_append_dropWhile (p := isAsciiDigit) (l := s)
    rcases hcase with ⟨hrest, rfl⟩ | hu
    · have := IntervalLit.bare _ hdig
      rw [hrest, List.append_nil] at hsplit
      rw [hsplit] at this ⊢
      exact this
    · obtain ⟨ws, ws', hdec, hws, hws'⟩ := trim_decomp (s.dropWhile isAsciiDigit)
      have := IntervalLit.unit _ ws _ ws' t hdig hws hws' hu
      rwa [← hdec, hsplit] at this
  · rintro ⟨n, hl, hv, rfl⟩
    rw [← toOpt_eq_some]
    cases hl with
    | bare _ hds => rw [C20_interval_bare s hds, if_pos hv]
    | unit ds ws u ws' t hds hws hws' hk =>
      rw [C20_interval_number_unit ds ws u ws' t hds hws hws' hk, if_pos hv]

/-! ### Non-vacuity: concrete inputs meeting the hypotheses and exercising each branch (tests) -/

example : toOpt (visitSize (.str "10 Kb".toList)) = some 10240 := by decide +kernel
example : toOpt (visitSize (.str "1 KiB　".toList)) = some 1024 := by decide +kernel
example : toOpt (visitSize (.str "3b".toList)) = some 3 := by decide +kernel
example : toOpt (visitSize (.str "3 mB".toList)) = some 3145728 := by decide +kernel
example : toOpt (visitSize (.str "3GiB".toList)) = some 3221225472 := by decide +kernel
example : toOpt (visitSize (.str "16777216 TiB".toList)) = none := by decide +kernel
example : toOpt (visitSize (.str "16777215tb".toList)) = some 18446742974197923840 := by decide +kernel
example : toOpt (visitSize (.str "18446744073709551616".toList)) = none := by decide +kernel
example : toOpt (visitSize (.str "-1".toList)) = none := by decide +kernel
example : toOpt (visitSize (.str "1.5kb".toList)) = none := by decide +kernel
example : toOpt (visitSize (.str "5 ".toList)) = none := by decide +kernel
example : toOpt (visitInterval (.str "7 Days".toList)) = some (.day, 7) := by decide +kernel
example : toOpt (visitInterval (.str "2MONTHS".toList)) = some (.month, 2) := by decide +kernel
example : toOpt (visitInterval (.str "1 secondss".toList)) = none := by decide +kernel
example : toOpt (visitInterval (.u64 18446744073709551615 (by decide))) = none := by decide +kernel
example : SizeLit "10 Kb".toList 10240 :=
  SizeLit.unit ['1','0'] [' '] ['K','b'] [] 1 (by unfold Digits; decide) (by unfold AllWs; decide)
    (by unfold AllWs; decide) (by decide)
/-- slicing does panic off a boundary: the model's panic branch is reachable in general, the theorem
`C20_split_at_find` says `find` never produces such an offset -/
example : splitAtByte ['é', 'x'] 1 = none := by decide +kernel
example : splitAtByte ['é', 'x'] 2 = some (['é'], ['x']) := by decide +kernel

end Log4rs.Literals

/-! ## `refresh_rate` (`de_duration` → `humantime::parse_duration`)

Claimed for it (scope decision, props.d/C20.json): the value is exactly the sum of number x unit, a
value that overflows is rejected with an error, nothing panics, junk is rejected. The first two and
the last hold of the code (theorems below); "nothing panics" is FALSE of the code as it is
(`C20_refresh_panic_witness`) and holds with one input class excluded (`C20_refresh_no_panic_partial`).
Not claimed (humantime's own grammar): bare numbers, letter case, fractions — what the code does
there is recorded by `C20_refresh_bare_number_rejected` and the examples at the end. -/
namespace Log4rs.Literals.Dur
open Log4rs.Str Log4rs Log4rs.Literals

/-- Structure: on a text that is a sequence of spans `<digits><white space><letters><white space>`
(the shape the documentation describes, any number of spans, any White_Space characters) the parser
is the left-to-right fold of "number must fit u64, look the word up, add number x unit". -/
theorem C20_refresh_spans (l : List SpanLit) (hl : ∀ p ∈ l, p.wf) (hne : l ≠ []) :
    parseDuration (texts l) = foldSpans l ⟨0, 0⟩ := by
  unfold parseDuration
  rw [if_neg (texts_ne_zero l hl hne)]
  exact run_spans l hl false ⟨0, 0⟩ (Or.inl hne)

/-- Exact value: whatever is accepted is exactly the sum of number x unit over the spans (in
nanoseconds; `DUnit.nanos` is humantime's documented length of each unit), normalised, within `u64`
seconds; and every word is one of humantime's suffixes (case-sensitive `unitTable`). -/
theorem C20_refresh_exact (l : List SpanLit) (hl : ∀ p ∈ l, p.wf) (hne : l ≠ []) (d : Dur)
    (h : parseDuration (texts l) = .ok d) :
    d.secs * NPS + d.nanos = valueOf l ∧ d.nanos < NPS ∧ d.secs < 2 ^ 64 ∧
      ∀ p ∈ l, (unitOfWord p.word).isSome = true := by
  rw [C20_refresh_spans l hl hne] at h
  rcases foldSpans_start l with ⟨d', hd', hrest⟩ | ⟨e, he, _⟩ | ⟨w, _, _, _, hp, _⟩
  · rw [h] at hd'; cases hd'; exact hrest
  · rw [h] at he; nomatch he
  · rw [h] at hp; nomatch hp

/-- Overflow is rejected, never wrapped: a span list whose exact sum is 2^64 seconds or more is not accepted. -/
theorem C20_refresh_overflow_rejected (l : List SpanLit) (hl : ∀ p ∈ l, p.wf) (hne : l ≠ [])
    (hbig : 2 ^ 64 * NPS ≤ valueOf l) (d : Dur) : parseDuration (texts l) ≠ .ok d := by
  intro h
  obtain ⟨ht, hn, hs, _⟩ := C20_refresh_exact l hl hne d h
  have : d.secs * NPS + NPS ≤ 2 ^ 64 * NPS := by
    have : (d.secs + 1) * NPS ≤ 2 ^ 64 * NPS := Nat.mul_le_mul_right _ (by omega)
    rw [Nat.add_mul] at this; omega
  omega

/-- ... and what fits is accepted: every span's number x multiplier fits `u64` in the unit's own
resolution (a sub-second span staying 10^9 below 2^64 ns) and the sum is below 2^64 seconds. -/
theorem C20_refresh_accepts_when_fits (l : List SpanLit) (hl : ∀ p ∈ l, p.wf) (hne : l ≠ [])
    (hfit : ∀ p ∈ l, Fits p) (htot : valueOf l < 2 ^ 64 * NPS) :
    ∃ d, parseDuration (texts l) = .ok d ∧ d.secs * NPS + d.nanos = valueOf l := by
  rw [C20_refresh_spans l hl hne]
  rcases foldSpans_start l with ⟨d, hd, ht, _⟩ | ⟨e, _, ⟨p, hp, hnf⟩ | hbig⟩ | ⟨w, l1, p, l2, _, hl', hv⟩
  · exact ⟨d, hd, ht⟩
  · exact absurd (hfit p hp) hnf
  · exact absurd htot (Nat.not_lt.mpr hbig)
  · -- the spans read so far are part of the sum
    rw [hl', valueOf_append] at htot
    rw [valueOf_append] at hv
    simp only [valueOf] at htot hv
    omega

/-- No panic, partial: on span texts the parser panics only when the exact sum of the spans read so
far is EXACTLY 2^64 seconds (reached through a nanosecond carry). Everything else is accepted or
rejected with an error. -/
theorem C20_refresh_no_panic_partial (l : List SpanLit) (hl : ∀ p ∈ l, p.wf) (hne : l ≠ []) (w : String)
    (h : parseDuration (texts l) = .panic w) :
    ∃ l1 p l2, l = l1 ++ p :: l2 ∧ valueOf (l1 ++ [p]) = 2 ^ 64 * NPS := by
  rw [C20_refresh_spans l hl hne] at h
  rcases foldSpans_start l with ⟨d, hd, _⟩ | ⟨e, he, _⟩ | ⟨w', l1, p, l2, _, hl', hv⟩
  · rw [h] at hd; nomatch hd
  · rw [h] at he; nomatch he
  · exact ⟨l1, p, l2, hl', hv⟩

/-- The full "nothing panics" is false of the code as it is: this `refresh_rate` panics inside
`Duration::new` (reproduced on the real crate through YAML, JSON and TOML; corpus/C20.cases). -/
theorem C20_refresh_panic_witness :
    parseRefreshWith false "18446744073709551615s 1000000000ns".toList = .panic "overflow in Duration::new" := by
  decide +kernel

theorem C20_refresh_no_panic_fails : ¬ ∀ s w, parseRefreshWith false s ≠ .panic w :=
  fun h => h _ _ C20_refresh_panic_witness

/-- with the proposed repair (the call wrapped in `catch_unwind`) nothing panics, on any text -/
theorem C20_refresh_caught_no_panic (s : List Char) (w : String) : parseRefreshWith true s ≠ .panic w := by
  unfold parseRefreshWith
  cases parseDuration s <;> simp

/-- the statement for the code as configured in the model (`refreshPanicCaught` is flipped to `true`
by the integrator together with the `fix:` commit; until then the hypothesis is false) -/
theorem C20_refresh_no_panic_when_caught (h : refreshPanicCaught = true) (s : List Char) (w : String) :
    parseRefresh s ≠ .panic w := by
  unfold parseRefresh; rw [h]; exact C20_refresh_caught_no_panic s w

/-- ... and the repair changes nothing else -/
theorem C20_refresh_caught_same (s : List Char) (d : Dur) :
    parseRefreshWith true s = .ok d ↔ parseRefreshWith false s = .ok d := by
  unfold parseRefreshWith
  cases parseDuration s <;> simp

/-- Junk is rejected: a character that is no digit, white space, ASCII letter, 'µ' or '.' anywhere
in the text (`-`, `+`, `_`, `,`, `:`, digits and letters of other scripts, look-alike blanks …). -/
theorem C20_refresh_invalid_char_rejected (s : List Char) (h : ∃ c ∈ s, BadChar c) (d : Dur) :
    parseDuration s ≠ .ok d := by
  unfold parseDuration
  split
  · rename_i h0
    subst h0
    obtain ⟨c, hc, hb⟩ := h
    simp only [List.mem_singleton] at hc
    subst hc
    exact absurd hb.1 (by decide)
  · exact run_bad s _ _ h d

/-- Junk is rejected: the first non-blank character must be a digit (negative numbers, signs, a unit
without a number). -/
theorem C20_refresh_leading_nondigit_rejected (ws r : List Char) (c : Char) (hws : AllWs ws)
    (hd : isAsciiDigit c = false) (hw : isWhitespace c = false) :
    parseDuration (ws ++ c :: r) = .err .numberExpected := by
  unfold parseDuration
  have hne : ws ++ c :: r ≠ ['0'] := fun h => by
    have hc : c ∈ ['0'] := h ▸ List.mem_append_right ws List.mem_cons_self
    rw [List.mem_singleton.mp hc] at hd
    nomatch hd
  rw [if_neg hne, run_ws _ _ _ _ hws (.inl ⟨_, rfl⟩), run_cons]
  simp [step, hd, hw, obind]

/-- NOT claimed for refresh_rate, recorded: a bare number is rejected ("time unit needed"), except the
single text `0`. (The trigger literals accept bare numbers as bytes / seconds.) -/
theorem C20_refresh_bare_number_rejected (ds : List Char) (hds : Digits ds) (hne : ds ≠ ['0']) (d : Dur) :
    parseDuration ds ≠ .ok d := by
  unfold parseDuration
  rw [if_neg hne, ← List.append_nil ds, run_number ds [] false _ hds]
  split
  · rw [run, finish_num]; nofun
  · nofun

/-! ### Non-vacuity and the clauses that are not claimed (tests on samples) -/

example : parseDuration "30 seconds".toList = .ok ⟨30, 0⟩ := by decide +kernel
example : parseDuration "1hour 12min 5s".toList = .ok ⟨4325, 0⟩ := by decide +kernel
example : parseDuration "18446744073709551615ns 1ns".toList = .ok ⟨18446744073, 709551616⟩ := by decide +kernel
example : parseDuration "18446744073709551615s 999999999ns".toList = .ok ⟨18446744073709551615, 999999999⟩ := by decide +kernel
example : parseDuration "18446744073709551615s 1000000001ns".toList = .err .overflow := by decide +kernel
example : parseDuration "18446744073709551616s".toList = .err .overflow := by decide +kernel
-- letter case is significant (not claimed): `Seconds` is no unit, `M` is a month and `m` a minute
example : parseDuration "30 Seconds".toList = .err .unknownUnit := by decide +kernel
example : parseDuration "1 M".toList = .ok ⟨2630016, 0⟩ := by decide +kernel
example : parseDuration "1 m".toList = .ok ⟨60, 0⟩ := by decide +kernel
-- fractions are accepted (not claimed)
example : parseDuration "1.5s".toList = .ok ⟨1, 500000000⟩ := by decide +kernel
-- bare numbers (not claimed)
example : parseDuration "30".toList = .err .unknownUnit := by decide +kernel
example : parseDuration "0".toList = .ok ⟨0, 0⟩ := by decide +kernel
-- white space inside a number is skipped
example : parseDuration "1 2 s".toList = .ok ⟨12, 0⟩ := by decide +kernel
example : (⟨['3','0'], [' '], ['s','e','c','o','n','d','s'], []⟩ : SpanLit).wf := by
  unfold SpanLit.wf Digits AllWs; decide

end Log4rs.Literals.Dur
