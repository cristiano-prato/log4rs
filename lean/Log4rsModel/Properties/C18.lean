import Log4rsModel.Console.LemmasFormatted
/-
C18 — Console output obeys tty_only and colour policy; ANSI sequences are well-formed.

Only property theorems and non-vacuity examples live here; helpers are in Console/Lemmas*.lean.

Every `C18_*` theorem is a statement about the model of the CURRENT code (`bufLen = 13`,
`ttyOnlyUsesIsatty = true`, i.e. /repo after 2b701f0 and 1bc24e0) or about the executable Spec.
The two defects this slice found are kept as history under `Hist_C18_*` (they speak about
`setStyleN 12` and `doWriteWith false`, the code before those commits) and do not count.

What is a table is evaluated COMPLETELY (`decide`), marked [exhaustive]: the 54 rows of `colourTable`,
the 4 rows of `writeTable`, the 243 styles through the strict parser. Where the model and the Spec
would otherwise be the same expression written twice (colour precedence, tty_only) the theorem is
stated against such a TABLE written out by hand from the statement. Everything else is proved for
every environment (also outside the quantifier), every colour digit and every buffer length by
argument: the cascade of `colorMode` in the statement's vocabulary, `do_write` not looking at the
writer kind, `set_style` storing the canonical sequence byte by byte. Highlight nestings and
patterns are unbounded; those theorems are by induction on the pattern.

Assumed, not proved (also in props.d/C18.json): reading decisions R1–R3 of Console/Spec.lean;
`isatty` and the environment are inputs; the environment does not change after the first console
writer was obtained (`C18_color_mode_read_once` says what happens otherwise); the writer stack is
`codeFmtOps` (C10); unix.
-/
namespace Log4rs.Console
open Log4rs Log4rs.Console.Spec
open Log4rs.Pattern (Op Out Params codeFmtOps ofText)

/-! ## the enumerations are complete -/

/-- `allEnvs` is exactly the environments inside the property's quantifier (every
variable unset, "0" or another Unicode string): 27; `allEnvsExt` is every environment the code can
distinguish (a value that is not valid Unicode included): 64. -/
theorem C18_allEnvs_complete :
    (∀ e : Env, e ∈ allEnvs ↔ e.inQuantifier = true) ∧ allEnvs.length = 27 ∧
    (∀ e : Env, e ∈ allEnvsExt) ∧ allEnvsExt.length = 64 :=
  ⟨mem_allEnvs_iff, by decide, mem_allEnvsExt, by decide⟩

/-- `allStyles` is exactly the styles whose colours are one of the eight `Color`s: 243. -/
theorem C18_allStyles_complete :
    (∀ s : Style, s ∈ allStyles ↔
      ((∀ c, s.text = some c → c < 8) ∧ (∀ c, s.background = some c → c < 8))) ∧
    allStyles.length = 243 :=
  ⟨mem_allStyles_iff, allStyles_length⟩

/-! ## (C) colour precedence -/

/-- [exhaustive: the 54 rows] The Spec's cascade ("never under NO_COLOR, otherwise always under
CLICOLOR_FORCE, otherwise never under CLICOLOR=0, otherwise only on terminals") is the TABLE
written out from the statement. -/
theorem C18_color_rule_is_table :
    colourRows.map (fun r => colourEnabled r.1 r.2) = colourTable ∧ colourTable.length = 54 := by decide +kernel

/-- The model against that table: a colour writer — the only source of escape sequences — is
obtained on exactly the rows the table marks. -/
theorem C18_color_precedence_table :
    colourRows.map (fun r => (writerKind (colorMode r.1) r.2).isTty) = colourTable := by
  simp only [isTty_eq_colourEnabled]
  exact C18_color_rule_is_table.1

/-- the same for every environment the code can distinguish (a non-Unicode value counts as not
set, R2) and terminal/pipe. -/
theorem C18_color_precedence (e : Env) (tty : Bool) :
    (writerKind (colorMode e) tty = .tty) ↔ colourEnabled e tty = true := by
  rw [← isTty_eq_colourEnabled]
  cases writerKind (colorMode e) tty <;> decide

/-- the cascade of the statement is the formula ¬NO_COLOR ∧ (FORCE ∨ (CLICOLOR≠0 ∧ tty)) -/
theorem C18_color_rule_is_formula (e : Env) (tty : Bool) :
    colourEnabled e tty = colourEnabledFormula e tty := by
  rw [colourEnabled, colourEnabledFormula]
  cases isSet e.noColor <;> cases isSet e.clicolorForce <;> cases h : e.clicolor == EnvVal.zero <;>
    simp [bne, h]

/-- the three modes, in the statement's vocabulary -/
theorem C18_color_mode_table (e : Env) :
    colorMode e =
      if isSet e.noColor then .never
      else if isSet e.clicolorForce then .always
      else if e.clicolor == .zero then .never else .auto :=
  colorMode_eq e

/-- READING GAP (R1). The reading used here ("set" = present and not "0") and the
no-color.org reading ("NO_COLOR present, whatever its value") disagree exactly when NO_COLOR is
present but does not count as set here ("0", or not valid Unicode) and colour is otherwise on … -/
theorem C18_reading_gap (e : Env) (tty : Bool) :
    colourEnabled e tty ≠ colourEnabledStd e tty ↔
      ((e.noColor = .zero ∨ e.noColor = .nonUnicode) ∧ colourEnabled e tty = true) := by
  rcases e with ⟨a, b, c⟩
  -- the readings differ in the first test only, and where that says "present" the other one
  -- answers `false`
  cases a
  · show colourEnabled ⟨.unset, b, c⟩ tty ≠ colourEnabled ⟨.unset, b, c⟩ tty ↔ _
    simp
  · show colourEnabled ⟨.zero, b, c⟩ tty ≠ false ↔ _
    simp
  · show false ≠ false ↔ _ ∧ false = true
    simp
  · show colourEnabled ⟨.nonUnicode, b, c⟩ tty ≠ false ↔ _
    simp

/-- … which inside the property's quantifier is 10 of the 54 rows (all with NO_COLOR="0"): on
those rows `C18_color_precedence*` holds by the reading decision, not by the statement alone. -/
theorem C18_reading_gap_count :
    (colourRows.filter fun r => colourEnabled r.1 r.2 != colourEnabledStd r.1 r.2).length = 10 ∧
    (colourRows.filter fun r => r.1.noColor == .zero && colourEnabled r.1 r.2).length = 10 ∧
    colourRows.length = 54 := by decide +kernel

/-- R2 on the model's side: a value that is not valid Unicode is treated by the code
exactly like an absent variable, for each of the three variables. -/
theorem C18_non_unicode_is_unset (e : Env) :
    let u : EnvVal → EnvVal := fun v => if v = .nonUnicode then .unset else v
    colorMode e = colorMode { noColor := u e.noColor, clicolor := u e.clicolor, clicolorForce := u e.clicolorForce } := by
  simp only [colorMode, EnvVal.test_nonUnicode]

/-! ## (S) one well-formed SGR sequence with exactly the requested attributes -/

/-- every style request yields the canonical sequence
ESC [ 0 (;3c)? (;4c)? (;1|;22)? m of exactly its attributes; no panic: the longest one has 13
bytes, the length of the buffer. For every colour digit (no table). -/
theorem C18_sgr_wellformed_symbolic (s : Style) : setStyle s = .ok (sgr s) := by
  rw [setStyle, setStyleN_eq]
  exact if_pos (sgr_length s).1

/-- in particular for the 243 styles -/
theorem C18_sgr_wellformed : ∀ s ∈ allStyles, setStyle s = .ok (sgr s) :=
  fun s _ => C18_sgr_wellformed_symbolic s

/-- [exhaustive: 243 styles] "encoding exactly the requested attributes": the strict grammar
parser reads back precisely the style that was requested — nothing added, nothing dropped. -/
theorem C18_sgr_exact_attributes : ∀ s ∈ allStyles, parseSgr (sgr s) = some s := parseSgr_table

/-- The grammar of the specification is exact, for every byte string: the strict parser accepts
`bs` as the style `s` iff `s` is one of the 243 styles and `bs` is its canonical sequence. -/
theorem C18_sgr_grammar_exact (bs : Bytes) (s : Style) :
    parseSgr bs = some s ↔ (s ∈ allStyles ∧ bs = sgr s) := by
  constructor
  · intro h
    exact ⟨(parseSgr_sound bs s h).2, (parseSgr_sound bs s h).1⟩
  · rintro ⟨hs, rfl⟩
    exact parseSgr_table s hs

/-- SOUNDNESS of the strict scanner that the Spec verdict runs on real output, for every byte
string: when it accepts, the tokens it returns render back to exactly the input, every SGR token is
one of the 243 styles (in its canonical spelling), and no literal token is an ESC byte — i.e. every
ESC on the wire starts exactly one well-formed sequence. -/
theorem C18_scan_sound (bs : Bytes) (toks : List Tok) (h : scan bs = some toks) :
    render toks = bs ∧ (∀ s, Tok.sgr s ∈ toks → s ∈ allStyles) ∧ (∀ b, Tok.byte b ∈ toks → b ≠ 27) := by
  simpa [pending] using scanFrom_sound bs none toks h

/-- COMPLETENESS of the scanner: a token list without ESC literals whose SGR tokens are among the
243 styles is read back exactly from its rendering. -/
theorem C18_scan_complete (toks : List Tok) (hb : ∀ b, Tok.byte b ∈ toks → b ≠ 27)
    (hs : ∀ s, Tok.sgr s ∈ toks → s ∈ allStyles) : scan (render toks) = some toks := by
  induction toks with
  | nil => rfl
  | cons t ts ih =>
    have ih' := ih (fun b h => hb b (List.mem_cons_of_mem _ h)) (fun s h => hs s (List.mem_cons_of_mem _ h))
    cases t with
    | byte b =>
      have := hb b (List.mem_cons_self ..)
      rw [scan] at ih' ⊢
      simp [render, scanFrom_cons, scanStep, this, ih']
    | sgr s =>
      rw [render, scan_sgr_append s (hs s (List.mem_cons_self ..)), ih']
      rfl

/-! ## (W) tty_only -/

/-- the Spec's one-line rule is the TABLE written out from the statement -/
theorem C18_write_rule_is_table : ∀ row ∈ writeTable, shouldWrite row.1.1 row.1.2 = row.2 := by decide

/-- The model is that rule, for all environments, terminal status and flag: whatever the colour
variables say, a restricted appender writes iff its target is a terminal and an unrestricted one
always writes. The writer kind, the only way the environment comes in, is not looked at. -/
theorem C18_tty_only_spec (e : Env) (tty ttyOnly : Bool) :
    doWrite (writerKind (colorMode e) tty) tty ttyOnly = shouldWrite tty ttyOnly :=
  doWrite_eq _ tty ttyOnly

/-- the model against the table, row by row -/
theorem C18_tty_only_table :
    ∀ e ∈ allEnvsExt, ∀ row ∈ writeTable,
      doWrite (writerKind (colorMode e) row.1.1) row.1.1 row.1.2 = row.2 :=
  fun _ _ row hrow => C18_write_rule_is_table row hrow

/-! ## (H) highlighted groups, every level, every nesting -/

/-- For every writer kind, record level and pattern (any nesting depth of `{h(…)}`): the encoder
output is the rendering of the specified token stream — with colour, each group of a styled level
is `one SGR sequence of the level's style, the group's content, ESC[0m`; without colour, or for
Debug, the content alone. No panic (the highlight styles need at most 9 bytes). -/
theorem C18_highlight_reset (kind : WriterKind) (level : Nat) (cs : Chunks) :
    encodeChunks kind level cs = .ok (specEncode kind.isTty level cs) :=
  encodeChunksN_eq_spec bufLen bufLen_ok kind level cs

/-- the shape of one group on a colour writer, spelled out: style ++ content ++ ESC[0m -/
theorem C18_highlight_group_followed_by_reset (level : Nat) (st : Style)
    (h : highlightStyle level = some st) (inner : Chunks) :
    encodeChunks .tty level (.highlight inner .nil) =
      .ok (sgr st ++ specEncode true level inner ++ resetSeq) := by
  rw [C18_highlight_reset]
  simp [specEncode, specToks, WriterKind.isTty, h, render_append, render, sgr, resetSeq, Style.plain]

/-- The strict scanner accepts the output for every nesting and reads back exactly the specified
tokens: every ESC starts one well-formed SGR sequence, every style token of a group is followed by
its reset token. -/
theorem C18_output_scans (kind : WriterKind) (level : Nat) (cs : Chunks) (h : escFree cs = true) :
    ∃ bs, encodeChunks kind level cs = .ok bs ∧ scan bs = some (specToks kind.isTty level cs) := by
  refine ⟨_, C18_highlight_reset kind level cs, ?_⟩
  exact C18_scan_complete _ (specToks_bytes _ _ _ h) (specToks_sgrs _ _ _)

/-- Debug level (and any level without a style): no escape sequence at all, on any writer. -/
theorem C18_debug_no_escape (kind : WriterKind) (level : Nat) (hl : highlightStyle level = none)
    (cs : Chunks) :
    encodeChunks kind level cs = .ok (plainText cs) ∧
      (escFree cs = true → ∀ b ∈ plainText cs, b ≠ 27) := by
  refine ⟨?_, plainText_escFree cs⟩
  rw [C18_highlight_reset, specEncode, specToks_plain _ _ (by simp [hl]), render_bytes]

theorem C18_debug_level_has_no_style : highlightStyle 4 = none := rfl

/-- Without a colour writer: the plain text, no escape sequence, for every level and nesting. -/
theorem C18_no_colour_no_escape (level : Nat) (cs : Chunks) :
    encodeChunks .raw level cs = .ok (plainText cs) := by
  rw [C18_highlight_reset, specEncode, specToks_plain _ _ rfl, render_bytes]

/-! ## (H) with format specs on and around highlight groups, at every nesting level

`{h(…):<8.5}`, `{({h(…)}):.3}`, …: the group's `set_style` calls travel through the width / fill /
alignment writer stack of `Chunk::encode` (`codeFmtOps`, proved in C10 to be what the byte-level
writers do). -/

/-- a sink can serve every style request a pattern makes (the highlight styles need ≤ 9 bytes) -/
theorem C18_formatted_styles_fit (level : Nat) (f : FChunks) :
    ∀ s ∈ Pattern.Out.styles (opsOf level f), setStyleN bufLen s = .ok (sgr s) ∧ s ∈ allStyles := by
  intro s hs
  rw [styles_opsOf] at hs
  rcases specStyles_mem level f s hs with h | h
  · exact ⟨setStyleN_highlight bufLen bufLen_ok level s h, highlightStyle_mem level s h⟩
  · subst h; exact ⟨setStyleN_plain bufLen bufLen_ok, plain_mem⟩

theorem C18_formatted_bytes (kind : WriterKind) (level : Nat) (f : FChunks) :
    encodeFormatted kind level f = .ok (render (toksOfOps kind.isTty (opsOf level f))) :=
  sinkN_eq bufLen kind _ (fun s hs => (C18_formatted_styles_fit level f s hs).1)

/-- POSITION LAW, token-exact. For every writer kind, level and pattern whose parameters satisfy
the side condition of the width law (every minimum ≤ its maximum), at every nesting level: the
bytes are exactly the rendering of the SPECIFIED stream `specFToks` — the pattern's text cut and
padded as C10's statement says, with, for every highlighted group of a styled level, the style
sequence immediately before the group's (visible) content and ESC[0m immediately after it, the
fill characters outside the pair. No hypothesis about ESC in text, message or fill. -/
theorem C18_formatted_eq_spec (kind : WriterKind) (level : Nat) (f : FChunks) (h : fOrdered f = true) :
    encodeFormatted kind level f = .ok (render (specFToks kind.isTty level f)) := by
  rw [C18_formatted_bytes, specFToks, opsOf_eq_specOps level f h]

/-- GROUP SHAPE for ARBITRARY parameters (also minimum > maximum, maximum 0): what one highlighted
group hands on is — fill characters, the level's style, a cut of the group's own content that keeps
all its style requests, the reset, fill characters. So the reset always follows the group's text,
never precedes it; without a maximum width the content is complete. -/
theorem C18_group_shape (p : Params) (level : Nat) (st : Style) (h : highlightStyle level = some st)
    (x : Out) :
    ∃ pre mid post,
      codeFmtOps p (wrapHighlight level x)
        = ofText pre ++ (Op.style st :: mid ++ Op.style Style.plain :: ofText post) ∧
      (∀ c ∈ pre ++ post, c = p.fill) ∧ mid.Sublist x ∧
      Out.styles mid = Out.styles x ∧
      (p.maxW = none → mid = x) := by
  have hw : wrapHighlight level x = Op.style st :: x ++ [Op.style Style.plain] := by
    simp [wrapHighlight, h]
  obtain ⟨a, b, hfill, heq⟩ := codeFmtOps_shape p (wrapHighlight level x)
  rw [heq, hw]
  cases hM : p.maxW with
  | none => exact ⟨a, x, b, by simp, hfill, List.Sublist.refl _, rfl, fun _ => rfl⟩
  | some M =>
    refine ⟨a.take M, Pattern.truncOps (M - a.length) x, b.take (M - a.length - (Out.text x).length),
      truncOps_bracket M a b st x, ?_, truncOps_sublist _ x, Pattern.styles_truncOps _ x, by simp⟩
    intro c hc
    rcases List.mem_append.1 hc with hc | hc
    · exact hfill c (List.mem_append_left _ (List.mem_of_mem_take hc))
    · exact hfill c (List.mem_append_right _ (List.mem_of_mem_take hc))

/-- For every writer kind, level and pattern whose highlight groups — and the groups around them,
to any depth — carry ARBITRARY parameters: no panic, and the SGR sequences in the output are
exactly one opening style and one reset per highlighted group of a styled level, in nesting order
(`specStyles`, which ignores all parameters), properly nested; on a writer without colour there is
no sequence at all. (For the POSITIONS see `C18_formatted_eq_spec` and `C18_group_shape`.) -/
theorem C18_highlight_reset_formatted (kind : WriterKind) (level : Nat) (f : FChunks) :
    ∃ toks, encodeFormatted kind level f = .ok (render toks) ∧
      sgrToks toks = (if kind.isTty then specStyles level f else []) ∧
      wellNested (specStyles level f) = true := by
  refine ⟨_, C18_formatted_bytes kind level f, ?_, ?_⟩
  · rw [sgrToks_toksOfOps, styles_opsOf]
  · exact wellNested_specStyles level f

/-- One group, spelled out: whatever its parameters `p` (e.g. `maxW = some 0`: every character is
swallowed), the style calls that reach the sink are the level's style, the inner groups' calls,
and the reset. -/
theorem C18_highlight_group_followed_by_reset_formatted (p : Pattern.Params) (level : Nat)
    (st : Style) (h : highlightStyle level = some st) (inner : FChunks) :
    Pattern.Out.styles (opsOf level (.highlight p inner .nil)) =
      st :: specStyles level inner ++ [Style.plain] := by
  rw [styles_opsOf]
  simp [specStyles, h]

/-- The executable Spec verdict that is run on the real bytes answers `ok` on the model's bytes,
for EVERY pattern (token-exact branch for ordered parameters, style-protocol branch otherwise) —
so a FAIL of the verdict on real output is a difference between code and model or a violation,
never an artefact of the verdict. -/
theorem C18_formatted_verdict_accepts_model (kind : WriterKind) (level : Nat) (f : FChunks) :
    ∃ bs, encodeFormatted kind level f = .ok bs ∧ formattedVerdict kind.isTty level f bs = .ok := by
  refine ⟨_, C18_formatted_bytes kind level f, ?_⟩
  unfold formattedVerdict
  cases ho : fOrdered f with
  | true =>
    simp only [if_true]
    rw [specFToks, opsOf_eq_specOps level f ho]
    simp
  | false =>
    simp only [Bool.false_eq_true, if_false]
    cases he : fEscFree f with
    | false => simp
    | true =>
      have hscan := C18_scan_complete _ (toksOfOps_bytes kind.isTty _ (opsOf_escFree level f he))
        fun s hs => (C18_formatted_styles_fit level f s (toksOfOps_sgrs _ _ s hs)).2
      have hw := wellNested_specStyles level f
      simp only [Bool.not_true, Bool.false_eq_true, if_false, hscan, stylesVerdict,
        sgrToks_toksOfOps, styles_opsOf]
      cases kind <;> simp [WriterKind.isTty, hw]

/-- Patterns without any width parameter: the formatted model is the byte-level model of
`Model.lean` (so `C18_highlight_reset` … `C18_console_spec` speak about the same encoder). -/
theorem C18_formatted_generalises (kind : WriterKind) (level : Nat) (f : FChunks)
    (h : f.unformatted = true) :
    encodeFormatted kind level f = encodeChunks kind level f.erase := by
  rw [C18_formatted_bytes, C18_highlight_reset, specEncode, toksOfOps_unformatted _ _ _ h]

/-! ## the appender end to end: stream, silence, colour -/

/-- The whole statement for one appender and patterns without width parameters: for every
environment, terminal/pipe per stream, target, tty_only, level and pattern, the chosen stream
receives the specified bytes (or nothing when a restricted appender's target is no terminal) and
the other stream nothing. -/
theorem C18_console_spec (s : Setup) (level : Nat) (cs : Chunks) :
    append s level cs = .ok (expectedAppend s level cs) := by
  show appendEnc true s (fun kind l => encodeChunksN 13 kind l cs) level = _
  rw [appendEnc_spec s _ (fun colour l => specToks colour l cs) level
    (fun k l => encodeChunksN_eq_spec 13 (by decide) k l cs)]
  rfl

/-- The same for patterns WITH width parameters on and around highlight groups (ordered
parameters): the chosen stream receives exactly the specified token stream `specFToks` for the
colour decision of the statement, the other stream nothing, a restricted appender on a
non-terminal nothing at all. -/
theorem C18_console_spec_formatted (s : Setup) (level : Nat) (f : FChunks) (h : fOrdered f = true) :
    appendFormatted s level f =
      .ok (if shouldWrite s.targetIsatty s.ttyOnly then
        Streams.on s.target (render (specFToks (colourEnabled s.env s.targetIsatty) level f)) else {}) := by
  show appendEnc true s (fun kind l => encodeFormattedN 13 kind l f) level = _
  exact appendEnc_spec s _ (fun colour l => specFToks colour l f) level
    (fun k l => C18_formatted_eq_spec k l f h)

/-- … and for ARBITRARY parameters, with the model's own operation stream on the right-hand side
(who writes, to which stream, and whether style requests become sequences is still the statement's). -/
theorem C18_console_spec_formatted_any (s : Setup) (level : Nat) (f : FChunks) :
    appendFormatted s level f =
      .ok (if shouldWrite s.targetIsatty s.ttyOnly then
        Streams.on s.target (render (toksOfOps (colourEnabled s.env s.targetIsatty) (opsOf level f))) else {}) := by
  show appendEnc true s (fun kind l => encodeFormattedN 13 kind l f) level = _
  exact appendEnc_spec s _ (fun colour l => toksOfOps colour (opsOf l f)) level
    (fun k l => C18_formatted_bytes k l f)

/-- Escape bytes reach a stream only when colour is enabled by the statement's rule — for every
pattern with arbitrary parameters whose text, message and fill characters contain no ESC. -/
theorem C18_escapes_only_when_enabled (s : Setup) (level : Nat) (f : FChunks)
    (hf : fEscFree f = true) (st : Streams) (h : appendFormatted s level f = .ok st)
    (hesc : 27 ∈ st.out ∨ 27 ∈ st.err) : colourEnabled s.env s.targetIsatty = true := by
  rw [C18_console_spec_formatted_any] at h
  cases hc : colourEnabled s.env s.targetIsatty with
  | true => rfl
  | false =>
    exfalso
    rw [hc] at h
    have hno : ∀ b ∈ render (toksOfOps false (opsOf level f)), b ≠ 27 := by
      rw [toksOfOps_false, render_bytes]
      exact utf8_text_ne_esc _ (opsOf_escFree level f hf)
    split at h
    · cases h
      revert hesc
      cases s.target <;> simp [Streams.on] <;> exact fun hm => hno 27 hm rfl
    · cases h
      simp at hesc

/-- What is ALWAYS true of the bytes, ESC in the content or not: they are the pattern's own
characters (UTF-8, verbatim) interleaved with the SGR sequences of the pattern's style requests —
nothing else is ever inserted. So an ESC on the wire while colour is disabled can only be one the
pattern text, the message or a fill character brought along. -/
theorem C18_bytes_are_text_and_styles (s : Setup) (level : Nat) (f : FChunks) (st : Streams)
    (h : appendFormatted s level f = .ok st) :
    ∃ toks, (st.out = render toks ∨ st.err = render toks) ∧
      (literalBytes toks = [] ∨ literalBytes toks = utf8 (Out.text (opsOf level f))) ∧
      (sgrToks toks = [] ∨ sgrToks toks = specStyles level f) := by
  rw [C18_console_spec_formatted_any] at h
  split at h
  · cases h
    refine ⟨toksOfOps (colourEnabled s.env s.targetIsatty) (opsOf level f), ?_, Or.inr (literalBytes_toksOfOps _ _), ?_⟩
    · cases s.target <;> simp [Streams.on]
    · rw [sgrToks_toksOfOps, styles_opsOf]; cases colourEnabled s.env s.targetIsatty <;> simp
  · cases h
    exact ⟨[], Or.inl rfl, Or.inl rfl, Or.inl rfl⟩

/-! ## several appenders in one process: each one is judged by its own stream -/

/-- The builder's setters only store: whatever the order of `.target(..)` / `.tty_only(..)`, through
the config deserializer with both keys, and through it with default-valued keys left out, the
builder ends up with exactly the item's target and flag. -/
theorem C18_builder_call_order_irrelevant (it : PlanItem) :
    builderOf it = { target := it.target, ttyOnly := it.ttyOnly } := builderOf_eq it

/-- ASSUMING the environment is the same at every build (`Global.env` is one value): for every plan
(any number of appenders, targets, flags, call orders, build order), every terminal status of the
two streams, every encoder and both settings of the tty_only parameter, the output of the process
is the single-appender outputs one after the other, each depending on nothing but the environment,
ITS OWN target, that target's terminal status and its own tty_only flag. -/
theorem C18_appenders_independent (usesIsatty : Bool) (g : Global) (items : List PlanItem)
    (enc : Enc) (levels : List Nat) :
    runPlanEnc usesIsatty g items enc levels =
      seqStreams (items.map fun it => appendAllEnc usesIsatty (setupOf g it) enc levels) := by
  unfold runPlanEnc
  rw [buildAllWith_eq usesIsatty g items, appendAllBuilt_eq]

/-- WITHOUT that assumption: `COLOR_MODE` is read once. If the environment differs from build to
build, every appender — the first and all later ones — is built with the colour mode of the
environment at the FIRST build; later environments are not looked at. -/
theorem C18_color_mode_read_once (u o r : Bool) (env0 : Env) (it0 : PlanItem)
    (steps : List (Env × PlanItem)) :
    (buildAllEnvs u o r {} ((env0, it0) :: steps)).1 =
      ((env0, it0) :: steps).map fun x => builtWithMode u o r (colorMode env0) x.2 :=
  buildAllEnvs_first u o r env0 it0 steps

/-- … so the statement's colour rule, read for the environment at an appender's own build time, is
NOT met after a change: NO_COLOR=1 set after a first appender was built does not stop a second
appender on a terminal from colouring. (Assumption "environment constant from the first console
writer on"; `std::env::set_var` while logging is running is outside the property's quantifier.) -/
theorem C18_env_change_after_first_writer_is_ignored :
    let steps : List (Env × PlanItem) :=
      [({}, ⟨.stdout, false, .targetThenTtyOnly⟩), ({ noColor := .one }, ⟨.stderr, false, .targetThenTtyOnly⟩)]
    ((buildAllEnvs true true true {} steps).1.map (·.kind)) = [.tty, .tty] ∧
    colourEnabled { noColor := .one } true = false := by decide +kernel

/-- one appender of a plan, one record per level, against the statement — for any encoder that
meets its own specification `want` -/
theorem C18_item_spec (g : Global) (it : PlanItem) (enc : Enc) (want : Want) (levels : List Nat)
    (henc : ∀ k l, enc k l = .ok (render (want k.isTty l))) :
    appendAllEnc ttyOnlyUsesIsatty (setupOf g it) enc levels = .ok (expectedItemW g it levels want) := by
  rw [ttyOnlyUsesIsatty, appendAllEnc_spec _ enc want levels henc, setupOf_targetIsatty]
  rfl

/-- the whole plan against the statement, for any encoder that meets its own specification -/
theorem C18_plan_spec_any_encoder (g : Global) (items : List PlanItem) (enc : Enc) (want : Want) (levels : List Nat)
    (henc : ∀ k l, enc k l = .ok (render (want k.isTty l))) :
    runPlanEnc true g items enc levels = .ok (expectedPlanW g items levels want) := by
  have hitem : ∀ it, appendAllEnc true (setupOf g it) enc levels = _ :=
    fun it => C18_item_spec g it enc want levels henc
  rw [C18_appenders_independent]
  simp only [hitem]
  induction items with
  | nil => rfl
  | cons it its ih =>
    simp only [List.map_cons, seqStreams, ih, obind, expectedPlanW, List.foldr_cons]

/-- The whole plan against the statement, patterns without width parameters: stdout and stderr
carry exactly what the appenders targeting them must write, in build order. -/
theorem C18_plan_spec (g : Global) (items : List PlanItem) (cs : Nat → Chunks) (levels : List Nat) :
    runPlan g items cs levels = .ok (expectedPlan g items levels cs) :=
  C18_plan_spec_any_encoder g items (chunksEnc 13 cs) (chunksWant cs) levels
    (fun k l => encodeChunksN_eq_spec 13 (by decide) k l (cs l))

/-- The same for a plan whose appenders use a pattern with (ordered) width parameters — what the
harness drives the real `ConsoleAppender` with. -/
theorem C18_plan_spec_formatted (g : Global) (items : List PlanItem) (f : Nat → FChunks)
    (levels : List Nat) (h : ∀ l, fOrdered (f l) = true) :
    runPlanFormatted g items f levels = .ok (expectedPlanW g items levels (formattedWant f)) :=
  C18_plan_spec_any_encoder g items (formattedEnc 13 f) (formattedWant f) levels
    (fun k l => C18_formatted_eq_spec k l (f l) (h l))

/-! ## a stream that stops accepting bytes (R3) -/

/-- What reaches a stream that accepts `budget` more bytes: a prefix of what the appender wanted
to write; everything iff it fits; an error is reported iff it does not. -/
theorem C18_failed_stream_prefix (budget : Nat) (bs : Bytes) :
    (deliver budget bs).2 <+: bs ∧
    ((deliver budget bs).1 = .ok bs ↔ bs.length ≤ budget) ∧
    (bs.length ≤ budget → (deliver budget bs).2 = bs) ∧
    (budget < bs.length → (deliver budget bs).1 = .err () ∧ (deliver budget bs).2 = bs.take budget) := by
  unfold deliver
  by_cases h : bs.length ≤ budget
  · simp [h]
  · simp [h, List.take_prefix]

/-- … and nothing more can be said: after such a failure an opened style may stay without its
reset on the stream (an Error record cut after 14 bytes: the style sequence and `ERROR`). Clause
(H) is therefore read as conditional on the stream accepting the bytes. -/
theorem C18_failed_stream_may_lack_reset :
    let bs := render (specToks true 1 (.highlight (.text [69, 82, 82, 79, 82] .nil) (.text [10] .nil)))
    scan ((deliver 14 bs).2) = some ([Tok.sgr { text := some 1, intense := some true }] ++ [69, 82, 82, 79, 82].map Tok.byte)
    ∧ wellNested (sgrToks ([Tok.sgr { text := some 1, intense := some true }] ++ [69, 82, 82, 79, 82].map Tok.byte)) = false := by
  decide +kernel

/-! ## history: the two defects found with this model (code before 2b701f0 / 1bc24e0)

These theorems speak about `setStyleN 12` and `doWriteWith false`, which no longer exist in /repo.
They are kept as the record of what was wrong; their names do not start with `C18_`. -/

def SgrWellformed (n : Nat) : Prop := ∀ s ∈ allStyles, setStyleN n s = .ok (sgr s)

/-- with the old 12-byte buffer `set_style` panicked on exactly the styles with text, background
and `intense(false)`, the ones whose sequence has 13 bytes … -/
theorem Hist_C18_sgr_overflow_exact :
    ∀ s ∈ allStyles, (setStyleN 12 s).isPanic = overflowClass s := by
  intro s _
  rw [setStyleN_eq]
  cases h : overflowClass s
  · rw [if_pos ((sgr_length s).2.2 h)]; rfl
  · rw [if_neg (fun hle => by rw [(sgr_length s).2.1 hle] at h; cases h)]; rfl

/-- … which are 64 of the 243. -/
theorem Hist_C18_sgr_overflow_count :
    (allStyles.filter overflowClass).length = 64 ∧ allStyles.length = 243 :=
  ⟨by decide +kernel, allStyles_length⟩

theorem Hist_C18_sgr_overflow_witness :
    (setStyleN 12 { text := some 1, background := some 4, intense := some false }).isPanic = true := by
  decide +kernel

theorem Hist_C18_sgr_wellformed_false_at_12 : ¬ SgrWellformed 12 := by
  intro h
  have hw := Hist_C18_sgr_overflow_witness
  rw [h _ ((mem_allStyles_iff _).2 (by simp))] at hw
  cases hw

def TtyOnlyStatement (usesIsatty : Bool) : Prop :=
  ∀ (e : Env) (tty ttyOnly : Bool),
    doWriteWith usesIsatty (writerKind (colorMode e) tty) tty ttyOnly = shouldWrite tty ttyOnly

/-- NO_COLOR=1 on a real terminal silenced a tty_only appender. -/
theorem Hist_C18_tty_only_no_color_on_terminal_was_silent :
    doWriteWith false (writerKind (colorMode { noColor := .one }) true) true true = false
    ∧ shouldWrite true true = true := by decide

/-- CLICOLOR_FORCE=1 made a tty_only appender write into a pipe. -/
theorem Hist_C18_tty_only_force_on_pipe_wrote :
    doWriteWith false (writerKind (colorMode { clicolorForce := .one }) false) false true = true
    ∧ shouldWrite false true = false := by decide

theorem Hist_C18_tty_only_false_before_fix : ¬ TtyOnlyStatement false := by
  intro h
  have := h { noColor := .one } true true
  revert this
  decide

/-- exact extent of the old defect: wrong on exactly the restricted appenders whose colour
decision differs from "the target is a terminal". -/
theorem Hist_C18_tty_only_exact_failures (e : Env) (tty ttyOnly : Bool) :
    (doWriteWith false (writerKind (colorMode e) tty) tty ttyOnly ≠ shouldWrite tty ttyOnly) ↔
      (ttyOnly = true ∧ colourEnabled e tty ≠ tty) := by
  show ((writerKind (colorMode e) tty).isTty || !ttyOnly) ≠ (tty || !ttyOnly) ↔ _
  rw [isTty_eq_colourEnabled]
  cases colourEnabled e tty <;> cases tty <;> cases ttyOnly <;> decide

/-! ## non-vacuity (tests on samples, not proofs of the property) -/

/-- `{h(A{h(B)}C)}D` for an Error record on a colour writer: nested groups, each followed by a reset -/
example :
    encodeChunks .tty 1 (.highlight (.text [65] (.highlight (.text [66] .nil) (.text [67] .nil))) (.text [68] .nil))
      = .ok ([27, 91, 48, 59, 51, 49, 59, 49, 109, 65,
              27, 91, 48, 59, 51, 49, 59, 49, 109, 66, 27, 91, 48, 109, 67,
              27, 91, 48, 109, 68]) := by decide +kernel

example : escFree (.highlight (.text [65] (.highlight (.text [66] .nil) (.text [67] .nil))) (.text [68] .nil)) = true := by
  decide

/-- `{h(hello world):.5}|` for an Error record on a colour writer: the text is cut to `hello`, the
reset still follows; and with `.0` nothing but style and reset remains -/
example :
    encodeFormatted .tty 1 (.highlight { maxW := some 5 } (.text "hello world".toList .nil) (.text ['|'] .nil))
      = .ok ([27, 91, 48, 59, 51, 49, 59, 49, 109, 104, 101, 108, 108, 111, 27, 91, 48, 109, 124]) ∧
    encodeFormatted .tty 1 (.group { maxW := some 0 } (.highlight {} (.text ['a'] .nil) .nil) .nil)
      = .ok ([27, 91, 48, 59, 51, 49, 59, 49, 109, 27, 91, 48, 109]) := by decide +kernel

/-- right-aligned `{h(a):*>3}`: the fill characters come BEFORE the style, the reset directly
after the `a` — and the verdict rejects `style, reset, a` and a wrong text -/
example :
    specFToks true 1 (.highlight { minW := some 3, right := true, fill := '*' } (.text ['a'] .nil) .nil)
      = [Tok.byte 42, Tok.byte 42, Tok.sgr { text := some 1, intense := some true }, Tok.byte 97, Tok.sgr {}] ∧
    formattedVerdict true 1 (.highlight { minW := some 1 } (.text ['a'] .nil) .nil)
      ([27,91,48,59,51,49,59,49,109] ++ [27,91,48,109] ++ [97]) ≠ .ok ∧
    formattedVerdict true 1 (.highlight { minW := some 1 } (.text ['a'] .nil) .nil)
      ([27,91,48,59,51,49,59,49,109] ++ [120,121,122] ++ [27,91,48,109]) ≠ .ok := by decide +kernel

/-- a stream whose reset was swallowed is not well nested (what `sig=C18/highlight-reset-missing` reports) -/
example : wellNested [{ text := some 1, intense := some true }] = false ∧
    wellNested [{ text := some 1, intense := some true }, Style.plain] = true := by decide +kernel

/-- two appenders, stdout a pipe and stderr a terminal, nothing set in the environment: the
restricted stdout appender is silent, the stderr appender writes in colour — whatever the order -/
example :
    let g : Global := { env := {}, ttyOut := false, ttyErr := true }
    let cs : Nat → Chunks := fun _ => .highlight (.text [65] .nil) (.text [10] .nil)
    runPlan g [⟨.stdout, true, .ttyOnlyThenTarget⟩, ⟨.stderr, true, .ttyOnlyThenTarget⟩] cs [2]
      = .ok { out := [], err := [27, 91, 48, 59, 51, 51, 109, 65, 27, 91, 48, 109, 10] } ∧
    runPlan g [⟨.stderr, true, .viaConfig⟩, ⟨.stdout, true, .targetThenTtyOnly⟩] cs [2]
      = .ok { out := [], err := [27, 91, 48, 59, 51, 51, 109, 65, 27, 91, 48, 109, 10] } := by decide +kernel

example : colorMode {} = .auto ∧ colorMode { clicolorForce := .one } = .always ∧
    colorMode { noColor := .one, clicolorForce := .one } = .never := by decide

example : setStyle { text := some 1, background := some 4, intense := some false }
    = .ok [27, 91, 48, 59, 51, 49, 59, 52, 52, 59, 50, 50, 109] := by decide +kernel

/-- the strict scanner rejects sequences outside the grammar (wrong order, missing 0, unterminated) -/
example : scan [27, 91, 48, 59, 49, 59, 51, 49, 109] = none ∧ scan [27, 91, 109] = none ∧
    scan [65, 27, 91, 48] = none ∧ scan [27, 91, 48, 59, 51, 56, 109] = none := by decide +kernel

end Log4rs.Console
