import Log4rsModel.TimeTrigger.Lemmas
import Log4rsModel.TimeTrigger.Historic
/-
C16 — Time trigger schedules the right boundary, fires once per boundary, never panics.

Every theorem named `C16_*` is about the CURRENT code (`time.rs` since the `fix:` commit 80d997f),
modelled by `getNextTimeFixed` / `scheduleFixed` / `stepFixed` / `runFixed` (TimeTrigger/Model.lean),
or about the executable specification (TimeTrigger/Spec.lean). chrono is an input of the model:
`Civil` = its decomposition of `current`, `Env.L` / `Env.now` = local and UTC seconds of `current`,
`Env.mkL` = `Local.from_local_datetime`, `Env.naiveOf` = `NaiveDate::from_ymd_opt(..).and_hms_opt(..)`.
The theorems about the code before the fix (and the negative witnesses of the repaired defects) are
in TimeTrigger/Historic.lean under the names `Hist_C16_*`; they are not obligations of C16.
-/
namespace Log4rs.TimeTrigger

/-- the time-of-day fields chrono reports are those of the local seconds `L` -/
structure SubdayView (c : Civil) (L : Int) : Prop where
  second : c.second = L % 60
  minute : c.minute = L / 60 % 60
  hour : c.hour = L / 3600 % 24

/-- Second, minute, hour: the start of the enclosing period is the start of the minute / hour / day
of `L`, not whatever a field says … -/
theorem C16_period_start_from_L {c : Civil} {L : Int} (h : SubdayView c L) :
    startOfPeriod c L .second = L - L % 60 ∧ startOfPeriod c L .minute = L - L % 3600
      ∧ startOfPeriod c L .hour = L - L % 86400 := by
  simp only [startOfPeriod, startOfUnit, fieldOf, unitSecs, h.second, h.minute, h.hour]
  omega

/-- … so with chrono's fields being those of `L`, the specification is a function of the local
seconds alone. -/
theorem C16_expected_from_L_subday {c : Civil} {L : Int} (h : SubdayView c L) (u : IUnit)
    (hu : u = .second ∨ u = .minute ∨ u = .hour) (n : Int) (m : Bool) :
    expectedLocal c L u n m = expectedFromL L u n m := by
  obtain ⟨p1, p2, p3⟩ := C16_period_start_from_L h
  rcases hu with rfl | rfl | rfl <;>
    simp only [expectedLocal, expectedFromL, p1, p2, p3, startOfUnit, fieldOf, unitSecs, h.second, h.minute, h.hour,
      Int.mul_one]

/-- Plain day and week: with the weekday being that of `L` (1970-01-01 was a Thursday) the
specification is local midnight + n days, resp. Monday 00:00 of this week + n weeks. -/
theorem C16_expected_from_L_day_week_plain (c : Civil) (L n : Int) (hwd : c.weekday = (L / 86400 + 3) % 7) :
    expectedLocal c L .day n false = expectedFromL L .day n false
      ∧ expectedLocal c L .week n false = expectedFromL L .week n false := by
  simp [expectedLocal, expectedFromL, startOfUnit, unitSecs, hwd]

/-- The plain boundary of a fixed-length unit other than the week is a whole multiple of the unit
in local time: a full second, minute (`% 60 = 0`), hour, or local midnight. -/
theorem C16_plain_is_unit_boundary (c : Civil) (L n : Int) (u : IUnit)
    (hu : u = .second ∨ u = .minute ∨ u = .hour ∨ u = .day) : expectedLocal c L u n false % unitSecs u = 0 := by
  rcases hu with rfl | rfl | rfl | rfl <;> simp only [expectedLocal, startOfUnit, unitSecs] <;> simp <;> omega

/-- The week boundary (plain or modulated) is a Monday, 00:00 local time, when chrono's weekday is
that of `L`. -/
theorem C16_week_is_monday_midnight (c : Civil) (L n : Int) (m : Bool) (hwd : c.weekday = (L / 86400 + 3) % 7) :
    (expectedLocal c L .week n m / 86400 + 3) % 7 = 0 ∧ expectedLocal c L .week n m % 86400 = 0 := by
  rw [expectedLocal_eq]
  simp only [startOfUnit, unitSecs, hwd]
  omega

/-- With modulation the boundary of second / minute / hour lies a whole multiple of `n` units after
the start of the minute / hour / day of `L`. -/
theorem C16_modulated_is_multiple_of_n (L n : Int) :
    (expectedFromL L .second n true - (L - L % 60)) % n = 0
      ∧ (expectedFromL L .minute n true - (L - L % 3600)) % (n * 60) = 0
      ∧ (expectedFromL L .hour n true - (L - L % 86400)) % (n * 3600) = 0 := by
  have key : ∀ x k d : Int, (x + k * d - x) % d = 0 := fun x k d => by
    rw [show x + k * d - x = k * d by omega]; exact Int.mul_emod_left k d
  simp only [expectedFromL, if_true, Int.mul_assoc]
  exact ⟨key _ _ n, key _ _ (n * 60), key _ _ (n * 3600)⟩

/-- FULL no-panic statement for the repaired code: every civil decomposition, every answer of
chrono (any zone, any DST transition), every unit, every multiplier (even below 1), both modes. -/
theorem C16_no_panic_fixed (c : Civil) (e : Env) (u : IUnit) (n : Int) (m : Bool) :
    ∃ t, getNextTimeFixed c e u n m = .ok t := by
  obtain ⟨r, hr⟩ := checkedNextFixed_no_panic c e u n m
  exact ⟨_, getNextTimeFixed_of_checked hr⟩

/-- FULL strictly-after statement for the repaired code: unconditional in zone, unit, multiplier
and chrono's answers; the only hypothesis is that the clock is before the "never" instant
(9999-12-31T23:59:59Z). -/
theorem C16_after_now_fixed (c : Civil) (e : Env) (u : IUnit) (n : Int) (m : Bool) (hnow : e.now < FAR) :
    ∃ t, getNextTimeFixed c e u n m = .ok t ∧ e.now < t := by
  obtain ⟨r, hr⟩ := checkedNextFixed_no_panic c e u n m
  exact ⟨_, getNextTimeFixed_of_checked hr, orNever_gt hnow r⟩

/-- Hour, minute, second in ANY zone: with `off` the UTC offset at `current`, the schedule is the
instant whose rendering under that same offset is the specification's boundary — so wherever the
offset does not change before it, it falls on the unit boundary in local time. No answer of
chrono about local times is involved (the unit start is found on the UTC time line). -/
theorem C16_boundary_fixed_subday (c : Civil) (e : Env) (off : Int) (u : IUnit)
    (hu : u = .second ∨ u = .minute ∨ u = .hour) (n : Int) (m : Bool) (hn : 1 ≤ n)
    (hsec : c.second = e.L % 60) (hmin : c.minute = e.L / 60 % 60) (hhour : c.hour = e.L / 3600 % 24)
    (hnow : e.now = e.L - off) (hdur : n * unitSecs u ≤ DUR_MAX)
    (hlo : DT_MIN ≤ e.now) (hhi : e.now + n * unitSecs u ≤ DT_MAX) :
    getNextTimeFixed c e u n m = .ok (expectedLocal c e.L u n m - off) := by
  obtain ⟨hck, hgt, _⟩ := checkedNextFixed_subday c e u hu n m hn hsec hmin hhour hdur hlo hhi
  rw [getNextTimeFixed_of_checked hck, orNever_some (by omega)]
  congr 1; omega

/-- the same, with the boundary read off the local seconds alone -/
theorem C16_boundary_fixed_subday_from_L (c : Civil) (e : Env) (off : Int) (u : IUnit)
    (hu : u = .second ∨ u = .minute ∨ u = .hour) (n : Int) (m : Bool) (hn : 1 ≤ n)
    (hv : SubdayView c e.L) (hnow : e.now = e.L - off) (hdur : n * unitSecs u ≤ DUR_MAX)
    (hlo : DT_MIN ≤ e.now) (hhi : e.now + n * unitSecs u ≤ DT_MAX) :
    getNextTimeFixed c e u n m = .ok (expectedFromL e.L u n m - off) := by
  rw [← C16_expected_from_L_subday hv u hu n m]
  exact C16_boundary_fixed_subday c e off u hu n m hn hv.second hv.minute hv.hour hnow hdur hlo hhi

/-- Liveness for hour, minute, second in ANY zone: the schedule is never "never" — it lies in
`(now, now + n units]`. -/
theorem C16_next_within_n_units_subday (c : Civil) (e : Env) (off : Int) (u : IUnit)
    (hu : u = .second ∨ u = .minute ∨ u = .hour) (n : Int) (m : Bool) (hn : 1 ≤ n)
    (hv : SubdayView c e.L) (hnow : e.now = e.L - off) (hdur : n * unitSecs u ≤ DUR_MAX)
    (hlo : DT_MIN ≤ e.now) (hhi : e.now + n * unitSecs u ≤ DT_MAX) :
    ∃ t, getNextTimeFixed c e u n m = .ok t ∧ e.now < t ∧ t ≤ e.now + n * unitSecs u := by
  obtain ⟨_, hgt, hle⟩ := checkedNextFixed_subday c e u hu n m hn hv.second hv.minute hv.hour hdur hlo hhi
  exact ⟨_, C16_boundary_fixed_subday c e off u hu n m hn hv.second hv.minute hv.hour hnow hdur hlo hhi,
    by omega, by omega⟩

/-- Day and week, the core: in ANY zone and for whatever chrono answers, the code resolves exactly
the specification's local boundary (local midnight, Monday-aligned for weeks, counted as the
statement says) with `resolve_after`, and answers "never" only if that yields nothing after
`current`. -/
theorem C16_day_week_resolves_boundary (c : Civil) (e : Env) (u : IUnit) (hu : u = .day ∨ u = .week)
    (n : Int) (m : Bool) (hn : 1 ≤ n) (hf : 0 ≤ fieldOf c u) (hwd : 0 ≤ c.weekday ∧ c.weekday ≤ 6)
    (hdur : n * unitSecs u ≤ DUR_MAX)
    (hlo : DT_MIN + 518400 ≤ e.L - e.L % 86400) (hhi : e.L + n * unitSecs u ≤ DT_MAX) :
    getNextTimeFixed c e u n m = .ok (match resolveAfter e.mkL e.now 200 (expectedLocal c e.L u n m) with
      | some t => if t > e.now then t else FAR
      | none => FAR) := by
  have hck : checkedNextFixed c e u n m = .ok (resolveAfter e.mkL e.now 200 (expectedLocal c e.L u n m)) := by
    obtain ⟨hi1, hi2⟩ := incVal_bounds (f := fieldOf c u) m hn
    have hD : DUR_MAX ≤ I64_MAX := by decide
    rw [expectedLocal_eq]
    rcases hu with rfl | rfl <;>
      simp only [fieldOf, unitSecs, startOfUnit, checkedNextFixed] at hdur hhi hi1 hi2 hf ⊢
    · simp only [incFixed_eq m hn hf (by omega)]
      exact midnightPlus_eq e hi1 (by omega) hdur hlo hhi
    · obtain ⟨h1, h2, h3⟩ := week_branch e ⟨hi1, hi2⟩ hwd hdur hlo hhi
      simp only [incFixed_eq m hn hf (by omega), h1, h2, and_self, if_true, h3]
  rw [getNextTimeFixed_of_checked hck]
  cases resolveAfter e.mkL e.now 200 (expectedLocal c e.L u n m) <;> rfl

/-- Day and week where the boundary's local time exists: the schedule is chrono's instant for
exactly that local time — for an ambiguous one (DST overlap) the first of chrono's two instants if
it is after `current`, else the second (`resolve1`). -/
theorem C16_boundary_fixed_day_week (c : Civil) (e : Env) (u : IUnit) (hu : u = .day ∨ u = .week)
    (n : Int) (m : Bool) (hn : 1 ≤ n) (hf : 0 ≤ fieldOf c u) (hwd : 0 ≤ c.weekday ∧ c.weekday ≤ 6)
    (hdur : n * unitSecs u ≤ DUR_MAX)
    (hlo : DT_MIN + 518400 ≤ e.L - e.L % 86400) (hhi : e.L + n * unitSecs u ≤ DT_MAX)
    (hgap : e.mkL (expectedLocal c e.L u n m) ≠ .none) :
    ∃ t, resolve1 e.now (e.mkL (expectedLocal c e.L u n m)) = some t
      ∧ getNextTimeFixed c e u n m = .ok (if t > e.now then t else FAR) := by
  obtain ⟨t, ht⟩ := resolve1_some (now := e.now) hgap
  refine ⟨t, ht, ?_⟩
  rw [C16_day_week_resolves_boundary c e u hu n m hn hf hwd hdur hlo hhi,
    show (200 : Nat) = 199 + 1 from rfl, resolveAfter_resolve1 199 hgap, ht]

/-- Day and week where the boundary's local time falls in a DST gap of `k` quarter-hours: the
schedule is chrono's instant for the first local time after the gap that exists (in 15-minute
steps) — not "never". -/
theorem C16_boundary_fixed_day_week_gap (c : Civil) (e : Env) (u : IUnit) (hu : u = .day ∨ u = .week)
    (n : Int) (m : Bool) (hn : 1 ≤ n) (hf : 0 ≤ fieldOf c u) (hwd : 0 ≤ c.weekday ∧ c.weekday ≤ 6)
    (hdur : n * unitSecs u ≤ DUR_MAX)
    (hlo : DT_MIN + 518400 ≤ e.L - e.L % 86400) (hhi : e.L + n * unitSecs u ≤ DT_MAX)
    (k : Nat) (hk : k < 200)
    (hnone : ∀ j : Nat, j < k → e.mkL (expectedLocal c e.L u n m + 900 * j) = .none)
    (hrange : ∀ j : Nat, j < k → DT_MIN ≤ expectedLocal c e.L u n m + 900 * (j + 1)
      ∧ expectedLocal c e.L u n m + 900 * (j + 1) ≤ DT_MAX)
    (hex : e.mkL (expectedLocal c e.L u n m + 900 * k) ≠ .none) :
    ∃ t, resolve1 e.now (e.mkL (expectedLocal c e.L u n m + 900 * k)) = some t
      ∧ getNextTimeFixed c e u n m = .ok (if t > e.now then t else FAR) := by
  obtain ⟨t, ht⟩ := resolve1_some (now := e.now) hex
  refine ⟨t, ht, ?_⟩
  rw [C16_day_week_resolves_boundary c e u hu n m hn hf hwd hdur hlo hhi,
    resolveAfter_gap k 200 _ hk hnone hrange hex, ht]

/-- … and where the offset does not change in between (chrono resolves the boundary's local time
with the offset `off` of `current`) the schedule is that boundary, in UTC seconds. -/
theorem C16_boundary_fixed_day_week_same_offset (c : Civil) (e : Env) (off : Int) (u : IUnit)
    (hu : u = .day ∨ u = .week) (n : Int) (m : Bool) (hn : 1 ≤ n) (hf : 0 ≤ fieldOf c u)
    (hwd : 0 ≤ c.weekday ∧ c.weekday ≤ 6) (hdur : n * unitSecs u ≤ DUR_MAX)
    (hlo : DT_MIN + 518400 ≤ e.L - e.L % 86400) (hhi : e.L + n * unitSecs u ≤ DT_MAX)
    (hnow : e.now = e.L - off)
    (hmk : e.mkL (expectedLocal c e.L u n m) = .single (expectedLocal c e.L u n m - off)) :
    getNextTimeFixed c e u n m = .ok (expectedLocal c e.L u n m - off) := by
  have hgt := expectedLocal_gt c e.L u hwd (by rcases hu with rfl | rfl <;> rfl) n m hn
  rw [C16_day_week_resolves_boundary c e u hu n m hn hf hwd hdur hlo hhi,
    show (200 : Nat) = 199 + 1 from rfl, resolveAfter_resolve1 199 (by rw [hmk]; simp), hmk]
  exact congrArg _ (if_pos (by omega))

/-- the week schedule of the previous theorem, rendered in local time, is a Monday 00:00 when
chrono's weekday is that of `L` -/
theorem C16_week_schedule_is_monday_midnight (c : Civil) (e : Env) (off : Int) (n : Int) (m : Bool) (hn : 1 ≤ n)
    (hf : 0 ≤ c.week0) (hwdL : c.weekday = (e.L / 86400 + 3) % 7) (hdur : n * 604800 ≤ DUR_MAX)
    (hlo : DT_MIN + 518400 ≤ e.L - e.L % 86400) (hhi : e.L + n * 604800 ≤ DT_MAX) (hnow : e.now = e.L - off)
    (hmk : e.mkL (expectedLocal c e.L .week n m) = .single (expectedLocal c e.L .week n m - off)) :
    ∃ t, getNextTimeFixed c e .week n m = .ok t ∧ ((t + off) / 86400 + 3) % 7 = 0 ∧ (t + off) % 86400 = 0 := by
  refine ⟨_, C16_boundary_fixed_day_week_same_offset c e off .week (Or.inr rfl) n m hn hf (by omega) hdur hlo hhi hnow hmk, ?_⟩
  rw [Int.sub_add_cancel]
  exact C16_week_is_monday_midnight c e.L n m hwdL

/-- Month and year, the core: in ANY zone the code asks chrono for local midnight of the first of
the specification's month (`expectedMonthIndex`: `n` months / years on, or with modulation the next
multiple of `n` counted from January / from year 0), resolves it with `resolve_after`, and answers
"never" only if chrono has no such date or nothing after `current` comes out. -/
theorem C16_calendar_resolves_boundary (c : Civil) (e : Env) (u : IUnit) (hu : isCalendarUnit u = true)
    (n : Int) (m : Bool) (hn : 1 ≤ n) (hy : 0 ≤ c.year) (hm0 : 0 ≤ c.month0 ∧ c.month0 ≤ 11)
    (hb : c.year + n ≤ I32_MAX) :
    getNextTimeFixed c e u n m = .ok (match e.naiveOf (civilOfMonthIndex (expectedMonthIndex c u n m)) with
      | some lt => (match resolveAfter e.mkL e.now 200 lt with
        | some t => if t > e.now then t else FAR
        | none => FAR)
      | none => FAR)
      ∧ 12 * c.year + c.month0 < expectedMonthIndex c u n m := by
  refine ⟨?_, expectedMonthIndex_gt c u hu n m hn hm0⟩
  have hck : checkedNextFixed c e u n m = .ok ((e.naiveOf (civilOfMonthIndex (expectedMonthIndex c u n m))).bind
      (resolveAfter e.mkL e.now 200)) := by
    have hD : I64_MIN ≤ 0 ∧ I32_MAX ≤ I64_MAX := by decide
    cases u <;> simp [isCalendarUnit] at hu
    · obtain ⟨hi1, hi2⟩ := incVal_bounds (f := c.month0) m hn
      obtain ⟨h1, h2⟩ := firstOfMonth_branch e (M := incVal c.month0 n m + (c.year * 12 + c.month0)) (by omega)
        (by omega)
      simp only [checkedNextFixed, incFixed_eq m hn hm0.1 (by omega), h1, if_true, h2, expectedMonthIndex_month,
        Int.add_comm _ (incVal c.month0 n m)]
    · obtain ⟨hi1, hi2⟩ := incVal_bounds (f := c.year) m hn
      obtain ⟨h1, h2⟩ := firstOfMonth_branch e (M := (incVal c.year n m + c.year) * 12) (by omega) (by omega)
      simp only [checkedNextFixed, incFixed_eq m hn hy (by omega), h1, and_self, if_true, h2, expectedMonthIndex_year,
        inI64_eq_true (x := incVal c.year n m + c.year) ⟨by omega, by omega⟩]
  rw [getNextTimeFixed_of_checked hck]
  cases e.naiveOf (civilOfMonthIndex (expectedMonthIndex c u n m)) with
  | none => rfl
  | some lt =>
    simp only [Option.bind_some]
    cases resolveAfter e.mkL e.now 200 lt <;> rfl

/-- Month and year where that local midnight exists (`lt` = chrono's naive seconds of it): the
schedule is chrono's instant for it, chosen as `resolve1` says when it is ambiguous. -/
theorem C16_boundary_fixed_calendar_any_zone (c : Civil) (e : Env) (u : IUnit) (hu : isCalendarUnit u = true)
    (n : Int) (m : Bool) (hn : 1 ≤ n) (hy : 0 ≤ c.year) (hm0 : 0 ≤ c.month0 ∧ c.month0 ≤ 11)
    (hb : c.year + n ≤ I32_MAX) (lt : Int)
    (hnaive : e.naiveOf (civilOfMonthIndex (expectedMonthIndex c u n m)) = some lt) (hgap : e.mkL lt ≠ .none) :
    ∃ t, resolve1 e.now (e.mkL lt) = some t ∧ getNextTimeFixed c e u n m = .ok (if t > e.now then t else FAR) := by
  obtain ⟨t, ht⟩ := resolve1_some (now := e.now) hgap
  refine ⟨t, ht, ?_⟩
  rw [(C16_calendar_resolves_boundary c e u hu n m hn hy hm0 hb).1, hnaive]
  simp only []
  rw [show (200 : Nat) = 199 + 1 from rfl, resolveAfter_resolve1 199 hgap, ht]

/-- chrono's calendar as far as month and year units need it: the first of month number `M`
(months since year 0) has naive local seconds `monthStart M`, and a later month starts later -/
structure MonthStarts (e : Env) (monthStart : Int → Int) : Prop where
  naive : ∀ M, e.naiveOf (civilOfMonthIndex M) = some (monthStart M)
  mono : ∀ a b, a < b → monthStart a < monthStart b

/-- Month and year where the offset does not change in between (chrono resolves the boundary with
the offset `off` of `current`): the schedule is the start of the specification's month, a month
strictly later than the current one; that it is after `current` is derived from the calendar being
monotone and `current` lying before the start of the next month. -/
theorem C16_boundary_fixed_calendar (c : Civil) (e : Env) (off : Int) (u : IUnit)
    (hu : isCalendarUnit u = true) (n : Int) (m : Bool) (hn : 1 ≤ n)
    (hy : 0 ≤ c.year) (hm0 : 0 ≤ c.month0 ∧ c.month0 ≤ 11) (hb : c.year + n ≤ I32_MAX)
    (monthStart : Int → Int) (hcal : MonthStarts e monthStart)
    (hin : e.L < monthStart (12 * c.year + c.month0 + 1)) (hnow : e.now = e.L - off)
    (hmk : e.mkL (monthStart (expectedMonthIndex c u n m))
      = .single (monthStart (expectedMonthIndex c u n m) - off)) :
    getNextTimeFixed c e u n m = .ok (monthStart (expectedMonthIndex c u n m) - off)
      ∧ 12 * c.year + c.month0 < expectedMonthIndex c u n m := by
  obtain ⟨hres, hlt⟩ := C16_calendar_resolves_boundary c e u hu n m hn hy hm0 hb
  refine ⟨?_, hlt⟩
  have hle := monthStart_succ_le hcal.mono hlt
  rw [hres, hcal.naive]
  simp only []
  rw [show (200 : Nat) = 199 + 1 from rfl, resolveAfter_resolve1 199 (by rw [hmk]; simp), hmk]
  exact congrArg _ (if_pos (by omega))

/-- `TimeTrigger::new` never panics and never wraps, whatever `max_random_delay` and whatever the
generator returns: the schedule is the boundary plus the delay, or — when that cannot be represented
(delay above `i64::MAX`, above chrono's duration range, or past the end of chrono's time line) — the
undelayed boundary. -/
theorem C16_delay_total_fixed (t maxDelay d : Int) (hd : 0 ≤ d) :
    ∃ t', scheduleFixed (.ok t) maxDelay d = .ok t' ∧ (t' = t ∨ t' = t + d) := by
  unfold scheduleFixed
  rw [bind_ok]
  split
  · split
    · rcases spanFixed_cases (count := d) (unit := 1) (by simp only [I64_MIN]; omega) with h | h <;>
        rw [h, bind_ok]
      · exact ⟨t, rfl, .inl rfl⟩
      · simp only []
        split
        · exact ⟨_, rfl, .inr (by omega)⟩
        · exact ⟨t, rfl, .inl rfl⟩
    · exact ⟨t, rfl, .inl rfl⟩
  · exact ⟨t, rfl, .inl rfl⟩

theorem scheduleFixed_ok (t maxDelay d : Int) (hd : 0 ≤ d) :
    ∃ t', scheduleFixed (.ok t) maxDelay d = .ok t' ∧ t ≤ t' := by
  obtain ⟨t', h, ht⟩ := C16_delay_total_fixed t maxDelay d hd
  exact ⟨t', h, by omega⟩

/-- With a representable bound the delayed schedule is exactly boundary + d, `d ∈ [0, max)`. -/
theorem C16_delay_bounds_fixed (t maxDelay d : Int) (hd : 0 ≤ d ∧ d < maxDelay) (hmax : maxDelay ≤ DUR_MAX)
    (hr : DT_MIN ≤ t ∧ t + maxDelay ≤ DT_MAX) :
    scheduleFixed (.ok t) maxDelay d = .ok (t + d) ∧ t ≤ t + d ∧ t + d < t + maxDelay := by
  have hD : DUR_MAX ≤ I64_MAX := by decide
  have hpos : maxDelay > 0 := by omega
  have hle : d ≤ I64_MAX := by omega
  have hsp := spanFixed_ok (count := d) (unit := 1) (by omega) (by omega)
  have hrange : DT_MIN ≤ t + d ∧ t + d ≤ DT_MAX := by omega
  refine ⟨?_, by omega, by omega⟩
  simp only [scheduleFixed, bind_ok, hpos, hle, if_true, hsp, Int.mul_one, hrange, and_self]

theorem C16_no_delay_fixed (next : Out Int) (d : Int) : scheduleFixed next 0 d = next := by
  cases next <;> rfl

/-- both settings of `max_random_delay` at once: a delay in `[0, max)`, or none -/
theorem scheduleFixed_in_range (t maxDelay d : Int) (hmax : 0 ≤ maxDelay ∧ maxDelay ≤ DUR_MAX)
    (hd : 0 < maxDelay → 0 ≤ d ∧ d < maxDelay) (hr : DT_MIN ≤ t ∧ t + maxDelay ≤ DT_MAX) :
    ∃ t', scheduleFixed (.ok t) maxDelay d = .ok t' ∧ t ≤ t' ∧ t' < t + max maxDelay 1 := by
  by_cases hz : 0 < maxDelay
  · obtain ⟨h1, h2, h3⟩ := C16_delay_bounds_fixed t maxDelay d (hd hz) hmax.2 hr
    exact ⟨_, h1, h2, by omega⟩
  · obtain rfl : maxDelay = 0 := by omega
    exact ⟨t, C16_no_delay_fixed _ d, Int.le_refl t, by omega⟩

/-- The specification of a run of the trigger. `s` is the instant scheduled before the first
arrival; for every arrival `a` with answer `o` and schedule `st` afterwards: either `a` is before
the schedule, the trigger answers "no" and the schedule is unchanged, or `a` is at or after it, the
trigger answers "fire", and the new schedule is strictly after `a` and is one the relation `B`
allows for an arrival at `a` (`B a st`: "`st` is the boundary after `a`"). No consultation panics. -/
def GoodRunOn (B : Int → Int → Prop) : Int → List Int → List (Out Bool × Int) → Prop
  | _, [], [] => True
  | s, a :: as, (o, st) :: os =>
      (a < s ∧ o = .ok false ∧ st = s ∧ GoodRunOn B s as os)
      ∨ (s ≤ a ∧ o = .ok true ∧ a < st ∧ B a st ∧ GoodRunOn B st as os)
  | _, _, _ => False

theorem GoodRunOn.ind {B : Int → Int → Prop} {P : Int → List Int → List (Out Bool × Int) → Prop}
    (nil : ∀ s, P s [] [])
    (wait : ∀ s a as os, a < s → P s as os → P s (a :: as) ((.ok false, s) :: os))
    (fire : ∀ s a st as os, s ≤ a → a < st → P st as os → P s (a :: as) ((.ok true, st) :: os)) :
    ∀ (as : List Int) (s : Int) (outs : List (Out Bool × Int)), GoodRunOn B s as outs → P s as outs := by
  intro as
  induction as with
  | nil =>
    intro s outs h
    cases outs with
    | nil => exact nil s
    | cons _ _ => exact h.elim
  | cons a rest ih =>
    intro s outs h
    cases outs with
    | nil => exact h.elim
    | cons p os =>
      obtain ⟨o, st⟩ := p
      unfold GoodRunOn at h
      rcases h with ⟨ha, rfl, rfl, hr⟩ | ⟨hs, rfl, hat, _, hr⟩
      · exact wait _ a rest os ha (ih _ os hr)
      · exact fire s a st rest os hs hat (ih st os hr)

/-- Induction over the arrival list: whatever the arrival times (any order, any repetition), if at
every arrival the reschedule succeeds with an instant after the arrival that `B` allows, the run
of `Trigger::trigger` is a `GoodRunOn B`. -/
theorem C16_fires_once_fixed (B : Int → Int → Prop) (steps : List (Int × Out Int))
    (hfut : ∀ p ∈ steps, ∃ t, p.2 = .ok t ∧ p.1 < t ∧ B p.1 t) (s : Int) :
    GoodRunOn B s (steps.map (·.1)) (runFixed s steps) := by
  induction steps generalizing s with
  | nil => simp [runFixed, GoodRunOn]
  | cons p rest ih =>
    obtain ⟨a, r⟩ := p
    obtain ⟨⟨t, rfl, hat, hB⟩, hrest⟩ := List.forall_mem_cons.mp hfut
    rw [List.map_cons]
    by_cases hge : s ≤ a
    · rw [runFixed_fire hge]
      exact Or.inr ⟨hge, rfl, hat, hB, ih hrest t⟩
    · rw [runFixed_wait (by omega)]
      exact Or.inl ⟨by omega, rfl, rfl, ih hrest s⟩

/-- "The first record at or after the scheduled instant": arrivals before the schedule do not fire
and leave it unchanged; the first one at or after it fires and installs its reschedule; the rest of
the history continues from there. -/
theorem C16_fires_on_first_arrival_at_or_after_fixed (pre post : List (Int × Out Int)) (a t s : Int)
    (hpre : ∀ p ∈ pre, p.1 < s) (ha : s ≤ a) :
    runFixed s (pre ++ (a, .ok t) :: post)
      = pre.map (fun _ => (.ok false, s)) ++ (.ok true, t) :: runFixed t post := by
  rw [runFixed_before pre _ s hpre, runFixed_fire ha]

/-- "Once per boundary", first half: after a firing no arrival before the new schedule fires. -/
theorem C16_no_refire_before_next_fixed (steps : List (Int × Out Int)) (t : Int) (h : ∀ p ∈ steps, p.1 < t) :
    runFixed t steps = steps.map (fun _ => (.ok false, t)) := by
  simpa [runFixed] using runFixed_before steps [] t h

/-- the schedules installed by the firings of a run, in order -/
def firedSchedules : List (Out Bool × Int) → List Int
  | [] => []
  | (.ok true, st) :: rest => st :: firedSchedules rest
  | _ :: rest => firedSchedules rest

def Increasing : Int → List Int → Prop
  | _, [] => True
  | s, t :: ts => s < t ∧ Increasing t ts

/-- "Once per boundary", second half: every firing consumes its schedule — the schedules installed
by successive firings are strictly increasing (starting above the initial one), so no scheduled
instant is ever fired for twice, in any order of arrivals. -/
theorem C16_schedules_strictly_increase (B : Int → Int → Prop) :
    ∀ (as : List Int) (s : Int) (outs : List (Out Bool × Int)), GoodRunOn B s as outs →
      Increasing s (firedSchedules outs) :=
  GoodRunOn.ind (fun _ => trivial) (fun _ _ _ _ _ ih => ih) (fun _ _ _ _ _ hs hat ih => ⟨by omega, ih⟩)

/-- The whole trigger in EVERY zone and for every configuration: whatever chrono answers at each
arrival, whatever the unit, multiplier, mode and (non-negative) random delays, and whatever the
arrival times (before the "never" instant), the run fires exactly on arrivals at or after the
schedule, reschedules strictly after them, and never panics. (Each consultation reads the clock
once: `e.now` is the arrival.) -/
theorem C16_trigger_fixed (u : IUnit) (n : Int) (m : Bool) (maxDelay : Int) (steps : List (Int × Out Int))
    (hsteps : ∀ p ∈ steps, p.1 < FAR ∧ ∃ (c : Civil) (e : Env) (d : Int), e.now = p.1 ∧ 0 ≤ d
      ∧ p.2 = scheduleFixed (getNextTimeFixed c e u n m) maxDelay d) (s : Int) :
    GoodRunOn (fun _ _ => True) s (steps.map (·.1)) (runFixed s steps) := by
  apply C16_fires_once_fixed
  intro p hp
  obtain ⟨hfar, c, e, d, hnow, hd, hp2⟩ := hsteps p hp
  obtain ⟨t, ht, hlt⟩ := C16_after_now_fixed c e u n m (by omega)
  obtain ⟨t', ht', hor⟩ := C16_delay_total_fixed t maxDelay d hd
  exact ⟨t', by rw [hp2, ht, ht'], by omega, trivial⟩

/-- END TO END for hour, minute, second in ANY zone (`off a` = the zone's UTC offset at instant `a`):
for every arrival sequence, with chrono's time-of-day fields being those of the local seconds, the
trigger fires exactly on the arrivals at or after the schedule and every firing installs the
specification's boundary after that arrival — `expectedFromL`, read off the local seconds alone,
rendered with the offset at the arrival — plus a delay in `[0, max)`. So it fires once per boundary
and is rescheduled to the next boundary; an implementation that ever answered "never" inside the
representable range would not satisfy this. -/
theorem C16_trigger_fixed_on_boundary (u : IUnit) (hu : u = .second ∨ u = .minute ∨ u = .hour)
    (n : Int) (m : Bool) (hn : 1 ≤ n) (hdur : n * unitSecs u ≤ DUR_MAX) (off : Int → Int)
    (maxDelay : Int) (hmax : 0 ≤ maxDelay ∧ maxDelay ≤ DUR_MAX) (steps : List (Int × Out Int))
    (hsteps : ∀ p ∈ steps, ∃ (c : Civil) (e : Env) (d : Int), e.now = p.1 ∧ e.L = p.1 + off p.1
      ∧ SubdayView c e.L ∧ DT_MIN ≤ p.1 ∧ p.1 + n * unitSecs u + maxDelay ≤ DT_MAX
      ∧ (0 < maxDelay → 0 ≤ d ∧ d < maxDelay)
      ∧ p.2 = scheduleFixed (getNextTimeFixed c e u n m) maxDelay d) (s : Int) :
    GoodRunOn (fun a t => expectedFromL (a + off a) u n m - off a ≤ t
        ∧ t < expectedFromL (a + off a) u n m - off a + max maxDelay 1)
      s (steps.map (·.1)) (runFixed s steps) := by
  apply C16_fires_once_fixed
  intro p hp
  obtain ⟨c, e, d, hnow, hL, hv, hlo, hhi, hd, hp2⟩ := hsteps p hp
  have hlo' : DT_MIN ≤ e.now := by omega
  have hhi' : e.now + n * unitSecs u ≤ DT_MAX := by omega
  obtain ⟨_, hgt, hle⟩ := checkedNextFixed_subday c e u hu n m hn hv.second hv.minute hv.hour hdur hlo' hhi'
  have hb := C16_boundary_fixed_subday_from_L c e (off p.1) u hu n m hn hv (by omega) hdur hlo' hhi'
  rw [C16_expected_from_L_subday hv u hu n m] at hgt hle
  rw [hL] at hb hgt hle
  obtain ⟨t, ht, h1, h2⟩ := scheduleFixed_in_range (expectedFromL (p.1 + off p.1) u n m - off p.1) maxDelay d hmax hd
    ⟨by omega, by omega⟩
  exact ⟨t, by rw [hp2, hb, ht], by omega, h1, h2⟩

/-- END TO END for day and week where the offset does not change between an arrival and its
boundary (`off` = that offset; chrono resolves the boundary's local time with it), no delay: every
firing installs exactly the specification's boundary computed from chrono's decomposition of the
arrival instant (local midnight + n days, Monday 00:00 + n weeks, or the next multiple of n days /
ISO weeks of the year). -/
theorem C16_trigger_fixed_on_boundary_day_week (u : IUnit) (hu : u = .day ∨ u = .week)
    (n : Int) (m : Bool) (hn : 1 ≤ n) (hdur : n * unitSecs u ≤ DUR_MAX) (off : Int)
    (civ : Int → Civil) (steps : List (Int × Out Int))
    (hsteps : ∀ p ∈ steps, ∃ (e : Env), e.now = p.1 ∧ e.L = p.1 + off
      ∧ 0 ≤ fieldOf (civ p.1) u ∧ (0 ≤ (civ p.1).weekday ∧ (civ p.1).weekday ≤ 6)
      ∧ DT_MIN + 518400 ≤ e.L - e.L % 86400 ∧ e.L + n * unitSecs u ≤ DT_MAX
      ∧ e.mkL (expectedLocal (civ p.1) e.L u n m) = .single (expectedLocal (civ p.1) e.L u n m - off)
      ∧ p.2 = scheduleFixed (getNextTimeFixed (civ p.1) e u n m) 0 0) (s : Int) :
    GoodRunOn (fun a t => t = expectedLocal (civ a) (a + off) u n m - off)
      s (steps.map (·.1)) (runFixed s steps) := by
  apply C16_fires_once_fixed
  intro p hp
  obtain ⟨e, hnow, hL, hf, hwd, hlo, hhi, hmk, hp2⟩ := hsteps p hp
  have hb := C16_boundary_fixed_day_week_same_offset (civ p.1) e off u hu n m hn hf hwd hdur hlo hhi (by omega) hmk
  have hgt := expectedLocal_gt (civ p.1) e.L u hwd (by rcases hu with rfl | rfl <;> rfl) n m hn
  exact ⟨_, by rw [hp2, hb, C16_no_delay_fixed], by omega, by rw [hL]⟩

/-- END TO END for month and year, same reading: every firing installs the start of the
specification's month (`monthStart` = chrono's calendar, monotone), a month after the arrival's. -/
theorem C16_trigger_fixed_on_boundary_calendar (u : IUnit) (hu : isCalendarUnit u = true)
    (n : Int) (m : Bool) (hn : 1 ≤ n) (off : Int) (civ : Int → Civil) (monthStart : Int → Int)
    (steps : List (Int × Out Int))
    (hsteps : ∀ p ∈ steps, ∃ (e : Env), e.now = p.1 ∧ e.L = p.1 + off
      ∧ 0 ≤ (civ p.1).year ∧ (0 ≤ (civ p.1).month0 ∧ (civ p.1).month0 ≤ 11) ∧ (civ p.1).year + n ≤ I32_MAX
      ∧ MonthStarts e monthStart ∧ e.L < monthStart (12 * (civ p.1).year + (civ p.1).month0 + 1)
      ∧ e.mkL (monthStart (expectedMonthIndex (civ p.1) u n m))
          = .single (monthStart (expectedMonthIndex (civ p.1) u n m) - off)
      ∧ p.2 = scheduleFixed (getNextTimeFixed (civ p.1) e u n m) 0 0) (s : Int) :
    GoodRunOn (fun a t => t = monthStart (expectedMonthIndex (civ a) u n m) - off
        ∧ 12 * (civ a).year + (civ a).month0 < expectedMonthIndex (civ a) u n m)
      s (steps.map (·.1)) (runFixed s steps) := by
  apply C16_fires_once_fixed
  intro p hp
  obtain ⟨e, hnow, hL, hy, hm0, hb, hcal, hin, hmk, hp2⟩ := hsteps p hp
  obtain ⟨hres, hlt⟩ := C16_boundary_fixed_calendar (civ p.1) e off u hu n m hn hy hm0 hb monthStart hcal hin (by omega) hmk
  have hle := monthStart_succ_le hcal.mono hlt
  exact ⟨_, by rw [hp2, hres, C16_no_delay_fixed], by omega, rfl, hlt⟩

theorem consHead_ne_nil (i : Nat) (segs : List (List Nat)) : consHead i segs ≠ [] := by
  cases segs <;> simp [consHead]

theorem consHead_flatten (i : Nat) (segs : List (List Nat)) (h : segs ≠ []) :
    (consHead i segs).flatten = i :: segs.flatten := by
  cases segs with
  | nil => exact absurd rfl h
  | cons s more => simp [consHead]

theorem consHead_tail (i : Nat) (segs : List (List Nat)) (h : segs ≠ []) :
    (consHead i segs).tail = segs.tail := by
  cases segs with
  | nil => exact absurd rfl h
  | cons s more => simp [consHead]

theorem consHead_head (i : Nat) (segs : List (List Nat)) : ((consHead i segs).head?).bind List.head? = some i := by
  cases segs <;> simp [consHead]

/-- the files produced from record `i` on: there is always an active file; read in order they hold
the written records; the files after the first begin with the records that fired -/
theorem segmentFrom_ok (i : Nat) (flags : List (Option Bool)) :
    segmentFrom i flags ≠ [] ∧ (segmentFrom i flags).flatten = writtenFrom i flags
      ∧ (segmentFrom i flags).tail.map List.head? = (firedFrom i flags).map some := by
  induction flags generalizing i with
  | nil => simp [segmentFrom, writtenFrom, firedFrom]
  | cons f rest ih =>
    obtain ⟨hne, hfl, hhd⟩ := ih (i + 1)
    cases f with
    | none => exact ⟨hne, hfl, hhd⟩
    | some b =>
      cases hs : segmentFrom (i + 1) rest with
      | nil => exact absurd hs hne
      | cons sg more =>
        simp only [hs, List.flatten_cons, List.tail_cons] at hfl hhd
        cases b <;> simp [segmentFrom, writtenFrom, firedFrom, consHead, hs, hfl, hhd]

/-- "Before that record is written", for EVERY history (any mix of firings, non-firings, records
lost to an error; any number of firings): the files the model of `RollingFileAppender::append`
produces satisfy the declarative specification `filesOk` — concatenated they are exactly the written
records in order, and the files after the oldest begin with exactly the records on which the
trigger fired. -/
theorem C16_files_meet_spec (flags : List (Option Bool)) : filesOk flags (segment flags) = true := by
  obtain ⟨h1, h2, h3⟩ := segmentFrom_ok 1 flags
  rw [List.map_tail] at h3
  simp [filesOk, segment, h1, h2, h3]

/-- what the trigger's answers mean for the appender: `some fired` the record is written (after a
roll if `fired`), `none` a panic, the record is lost -/
def flagsOfRun (outs : List (Out Bool × Int)) : List (Option Bool) :=
  outs.map fun p => match p.1 with
    | .ok b => some b
    | _ => none

theorem writtenFrom_all_some (i : Nat) (flags : List (Option Bool)) (h : ∀ f ∈ flags, f ≠ none) :
    writtenFrom i flags = List.range' i flags.length := by
  induction flags generalizing i with
  | nil => simp [writtenFrom]
  | cons f rest ih =>
    cases f with
    | none => exact absurd rfl (h none (by simp))
    | some b => simp [writtenFrom, List.range'_succ, ih (i + 1) (fun f hf => h f (by simp [hf]))]

/-- in a good run no record is lost -/
theorem written_of_good_run (B : Int → Int → Prop) :
    ∀ (as : List Int) (s : Int) (outs : List (Out Bool × Int)), GoodRunOn B s as outs →
      ∀ i, writtenFrom i (flagsOfRun outs) = List.range' i as.length :=
  GoodRunOn.ind (fun _ _ => rfl) (fun _ _ _ _ _ ih i => congrArg (i :: ·) (ih (i + 1)))
    (fun _ _ _ _ _ _ _ ih i => congrArg (i :: ·) (ih (i + 1)))

/-- The trigger's run and the files together: in a good run every record is written (none is lost),
the files, read in order, are records 1 … k, and the files after the oldest begin with exactly the
records whose arrival was at or after the schedule — the roll precedes the write of the record that
fired. -/
theorem C16_files_of_run (B : Int → Int → Prop) (steps : List (Int × Out Int))
    (hfut : ∀ p ∈ steps, ∃ t, p.2 = .ok t ∧ p.1 < t ∧ B p.1 t) (s : Int) :
    let flags := flagsOfRun (runFixed s steps)
    (segment flags).flatten = List.range' 1 steps.length
      ∧ (segment flags).tail.map List.head? = (firedFrom 1 flags).map some := by
  obtain ⟨_, h2, h3⟩ := segmentFrom_ok 1 (flagsOfRun (runFixed s steps))
  refine ⟨?_, h3⟩
  show (segmentFrom 1 _).flatten = _
  rw [h2, written_of_good_run B _ s _ (C16_fires_once_fixed B steps hfut s) 1, List.length_map]

/-! ### the two clock readings of `trigger()` — a finding, repaired in b38390d

Until commit b38390d `Trigger::trigger` read the clock and, when it fired, `TimeTrigger::new(self.config)`
read it AGAIN and scheduled from that second reading. "Reschedules strictly into the future" is meant
of the arrival that fired (the first reading). It holds when the second reading is not earlier than
the first (`C16_reschedule_after_arrival_partial`); if the clock stepped back between the two readings
the new schedule could be at or before the arrival, and the next record fired for the same boundary
again (`C16_reschedule_after_arrival_statement_false`, witness reproduced on the code of that time:
sig `C16/second-clock-reading-earlier-than-first`). Since b38390d `trigger` passes its own reading on
(`TimeTrigger::new_at(self.config, current)`): the case `a = e.now` of the statements below, which
`secondReadFixed` in Model.lean selects. -/

/-- the arrival read `a`; `TimeTrigger::new` read `e.now` — any value — and computed the schedule -/
def C16_reschedule_after_arrival_statement : Prop :=
  ∀ (a : Int) (c : Civil) (e : Env) (u : IUnit) (n : Int) (m : Bool) (maxDelay d : Int), 1 ≤ n → 0 ≤ d →
    a < FAR → e.now < FAR → ∀ t, scheduleFixed (getNextTimeFixed c e u n m) maxDelay d = .ok t → a < t

theorem C16_reschedule_after_arrival_partial (a : Int) (c : Civil) (e : Env) (u : IUnit) (n : Int) (m : Bool)
    (maxDelay d : Int) (hd : 0 ≤ d) (hfar : e.now < FAR) (hmono : a ≤ e.now) :
    ∃ t, scheduleFixed (getNextTimeFixed c e u n m) maxDelay d = .ok t ∧ a < t := by
  obtain ⟨t, ht, hlt⟩ := C16_after_now_fixed c e u n m hfar
  obtain ⟨t', ht', hor⟩ := C16_delay_total_fixed t maxDelay d hd
  exact ⟨t', by rw [ht, ht'], by omega⟩

/-- UTC, every 10 seconds; the record arrives at …15 (schedule …10: it fires), the second reading
is …04: the new schedule is …14, not after the arrival — the record at …16 fires again. -/
theorem C16_reschedule_after_arrival_statement_false : ¬ C16_reschedule_after_arrival_statement := by
  intro h
  have := h 1790000015 ⟨2026, 8, 21, 263, 38, 0, 14, 13, 24⟩
    { L := 1790000004, now := 1790000004, naiveOf := fun _ => none, mkL := fun _ => .none }
    .second 10 false 0 0 (by decide) (by decide) (by decide) (by decide) 1790000014 (by decide)
  omega

theorem C16_refires_after_backward_clock_step :
    (runFixed 1790000010 [(1790000015, .ok 1790000014), (1790000016, .ok 1790000026)]).map (·.1)
      = [.ok true, .ok true] := by decide +kernel

/-- 2024-02-29 23:59:58 local (a leap day, two seconds before the minute, day and month end) -/
def leapEve : Civil := ⟨2024, 1, 29, 59, 8, 3, 23, 59, 58⟩

example : SubdayView leapEve 1709251198 := ⟨by decide, by decide, by decide⟩

/-- modulated 7 s at 23:59:58: 56 + 7 = 63 s after the start of the minute, i.e. 00:00:03 next day -/
example : expectedFromL 1709251198 .second 7 true = 1709251203 := by decide +kernel

/-- Asia/Kathmandu (+5:45): the same instant through the code's model -/
example : getNextTimeFixed leapEve
    { L := 1709251198, now := 1709230498, naiveOf := fun _ => none, mkL := fun _ => .none } .second 7 true
    = .ok (1709251203 - 20700) := by decide +kernel

/-- the F12 witness under the current algorithm: Europe/Berlin 2026-10-25 23:30 CET (25-hour day),
1 day: local midnight 2026-10-26 00:00 CET = 23:00:00Z, half an hour ahead -/
example : getNextTimeFixed ⟨2026, 9, 25, 297, 42, 6, 23, 30, 0⟩
    { L := 1792971000, now := 1792967400, naiveOf := fun _ => none,
      mkL := fun l => if l = 1792972800 then .single 1792969200 else .none } .day 1 false
    = .ok 1792969200 := by decide +kernel

/-- the F9 witness: Berlin 02:30 CEST, first occurrence, 1 hour: the unit started 30 minutes ago on
the UTC time line, the schedule is 01:00:00Z = 02:00 CET; chrono is not asked about a local time -/
example : getNextTimeFixed ⟨2026, 9, 25, 297, 42, 6, 2, 30, 0⟩
    { L := 1792895400, now := 1792888200, naiveOf := fun _ => none, mkL := fun _ => .none } .hour 1 false
    = .ok 1792890000 := by decide +kernel

/-- an overlap (fold) at the target: zone `ZST1ZDT,M3.2.6/23:30,M11.1.0/0:30`, 2026-10-31 23:45 first
pass, 1 day: local midnight is ambiguous; chrono 0.4.45 lists the later instant first, `resolve1`
takes it (observed on the real code, corpus) -/
example : getNextTimeFixed ⟨2026, 9, 31, 303, 43, 5, 23, 45, 0⟩
    { L := 1793490300, now := 1793490300, naiveOf := fun _ => none,
      mkL := fun l => if l = 1793491200 then .ambiguous 1793494800 1793491200 else .none } .day 1 false
    = .ok 1793494800 := by decide +kernel

/-- a gap at the target: same zone, 2026-03-14 23:00, 1 day: 00:00 and 00:15 do not exist, the
schedule is chrono's instant for 00:30 (`C16_boundary_fixed_day_week_gap` with k = 2) -/
example : getNextTimeFixed ⟨2026, 2, 14, 72, 10, 5, 23, 0, 0⟩
    { L := 1773529200, now := 1773532800, naiveOf := fun _ => none,
      mkL := fun l => if l = 1773534600 then .single 1773534600 else .none } .day 1 false
    = .ok 1773534600 := by decide +kernel

/-- an absurd interval saturates to "never" instead of panicking -/
example : getNextTimeFixed leapEve
    { L := 1709251198, now := 1709230498, naiveOf := fun _ => none, mkL := fun _ => .none } .second I64_MAX false
    = .ok FAR := by decide +kernel

/-- `MonthStarts` is satisfiable (30-day months: a monotone calendar) -/
example : MonthStarts { L := 0, now := 0, naiveOf := fun q => some ((12 * q.y + (q.mo - 1)) * 2592000), mkL := fun _ => .none }
    (fun M => M * 2592000) :=
  ⟨fun M => by simp only [civilOfMonthIndex]; congr 1; congr 1; omega, fun a b h => by omega⟩

/-- a history with three firings, one record lost to an error: files and declarative spec -/
example : segment [some false, some true, some false, none, some true, some true]
    = [[1], [2, 3], [5], [6]] := by decide +kernel

example : filesOk [some false, some true, some false, none, some true, some true] [[1], [2, 3], [5], [6]] = true := by
  decide +kernel

/-- a wrong cut is rejected by the declarative spec: record 2 fired but sits in the old file -/
example : filesOk [some false, some true, some false] [[1, 2], [3]] = false := by decide +kernel

/-- a run with two boundaries: fires at the first arrival ≥ 10, not at 12, 14, fires at 20 -/
example : (runFixed 10 [(3, .ok 15), (11, .ok 15), (12, .ok 15), (14, .ok 15), (20, .ok 25)]).map (·.1)
    = [.ok false, .ok true, .ok false, .ok false, .ok true] := by decide +kernel

end Log4rs.TimeTrigger
