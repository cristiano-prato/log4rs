import Log4rsModel.System.Lemmas
import Log4rsModel.Properties.C12
/-
System slice (audited under C01 through `extra_proof_modules`): the whole pipeline

  Logger::new(config) → Log::log(record) → ConfiguredLogger::find / ::log → Appender::append
  (real ThresholdFilter chain) → FileAppender::append (PatternEncoder, BufWriter, flush) → bytes in files

over a HISTORY of records, as the composition of the per-area models (System/Model.lean: `sysRun`),
against the end-to-end specification (System/Spec.lean: `specFile`). The proofs chain the areas'
property theorems: C01_deliver_eq_spec (which attachments), C03_threshold_chain_many (which of them
pass the appender's filters), C09_encode_parse_show / C09_parse_show (what is written per delivery),
C04_append_visible (what the file holds afterwards), by induction over the attachment list and over
the history (System/Lemmas.lean).

Every theorem quantifies over all configurations (any number of loggers and appenders, an appender
shared by several loggers, attached several times along one additive chain, nested chains cut by
non-additive loggers, implied intermediates), all patterns that are printed well-formed ASTs (all
formatters, nesting, specs), all thresholds, both open modes with any previous content, and all
histories (any length, any targets, levels, messages, per-record environments).
-/
namespace Log4rs.System
open Log4rs Log4rs.Routing Log4rs.Routing.Tree Log4rs.Pattern Log4rs.Pattern.Parse

/-- MAIN THEOREM. For every configuration whose routing part is `Valid` and whose patterns are printed
well-formed ASTs, and every history of records (chrono accepting the date formats of the patterns a
record is actually encoded with): building everything and logging the history does not panic, hands
no error to the error handler, leaves every `BufWriter` empty, and the files hold exactly what the
specification says — per appender, what opening left there followed, record by record in call order,
by as many copies of the pattern's meaning as the appender has attachments along the chain of the
record's effective logger (none when the logger's level or one of the appender's thresholds does not
admit the record). -/
theorem C01_sys_files_eq_spec (cfg : SysConfig) (asts : Name → List Pat) (h : SysWF cfg asts)
    (rs : List SysRecord) (hd : ∀ r ∈ rs, DatesOkFor cfg asts r) :
    ∃ st, sysRun cfg rs = .ok st ∧
      st.contents = specFiles cfg asts rs ∧
      (∀ a ∈ cfg.routing.appenders, st.disk a = some (specFile cfg asts a rs)) ∧
      st.errors = [] ∧ (∀ p ∈ st.apps, p.2.file.buf = []) :=
  ⟨_, sysRun_stateOf cfg asts h rs hd, contents_stateOf cfg asts _,
    fun a ha => disk_stateOf cfg asts _ a ha, rfl, quiet_stateOf cfg asts _⟩

/-- the observation the correspondence check compares (`observe ∘ sysRun`) is the specification -/
theorem C01_sys_observation_eq_spec (cfg : SysConfig) (asts : Name → List Pat) (h : SysWF cfg asts)
    (rs : List SysRecord) (hd : ∀ r ∈ rs, DatesOkFor cfg asts r) :
    observe (sysRun cfg rs) = some (specFiles cfg asts rs) := by
  obtain ⟨st, hst, hc, _⟩ := C01_sys_files_eq_spec cfg asts h rs hd
  simp [hst, observe, hc]

/-- the model's "compile the pattern once, encode per record" is the pattern area's
`PatternEncoder::new(p).encode(record)` (`Parse.run`, the object of C09) on every record, for every
appender that carries a pattern encoder -/
theorem C01_sys_encoder_is_pattern_run (cfg : SysConfig) (asts : Name → List Pat) (h : SysWF cfg asts)
    (a : Name) (ha : a ∈ cfg.routing.appenders) (hk : (cfg.app a).kind = .pattern) (r : SysRecord) :
    ∃ s cs, getApp (stateOf cfg asts fun b => Rolling.openContent (cfg.app b).mode (cfg.app b).pre).apps a = some s ∧
      s.enc = .pattern cs ∧
      sysOpen cfg = .ok (stateOf cfg asts fun b => Rolling.openContent (cfg.app b).mode (cfg.app b).pre) ∧
      encList r.env r.record cs = Parse.run cfg.cc cfg.P cfg.B r.env r.record (cfg.app a).pattern := by
  refine ⟨_, compileL cfg.B (piecesOf [] (asts a)), getApp_stateOf cfg asts _ a ha, ?_, sysOpen_ok cfg asts h, ?_⟩
  · simp only [quiet, chunksFor, hk]
  · rw [Parse.run, newEncoder_printed cfg asts h.toSysWFR a ha hk]

/-- (stage 2 (B)) the line an appender with the JSON encoder adds per delivery is a line the C12
specification (`Json.specLine`: one line, valid JSON, the documented members in order, every field
round-trips, absent fields omitted) accepts for that record and environment -/
theorem C01_sys_json_line_meets_c12_spec (cfg : SysConfig) (asts : Name → List Pat) (a : Name)
    (hk : (cfg.app a).kind = .json) (r : SysRecord) (hm : Json.MdcIsMap (jsonEnv r)) :
    specLine cfg asts a r = utf8 (jsonOf r) ∧
    Json.specLine (jsonEnv r) (jsonRecord r) (jsonOf r) = .ok := by
  refine ⟨by simp [specLine, hk], ?_⟩
  exact Json.C12_model_satisfies_spec (jsonEnv r) (jsonRecord r) hm

/-- Isolation of files, for ANY state and any patterns (no well-formedness needed): a record that the
specification routes zero copies of to appender `a` — because `a` is not attached along the chain,
or the effective logger's level does not admit the record, or one of `a`'s thresholds rejects it —
leaves `a`'s file and writer exactly as they were, whatever happens at the other appenders. -/
theorem C01_sys_zero_copies_untouched (cfg : SysConfig) (hv : Valid cfg.routing) (st st' : FilesState)
    (r : SysRecord) (a : Name) (hc : specCopies cfg a r = 0) (hlog : sysLog cfg st r = .ok st') :
    getApp st'.apps a = getApp st.apps a ∧ st'.disk a = st.disk a := by
  have := sysLog_untouched cfg hv st st' r a hc hlog
  exact ⟨this, by simp [FilesState.disk, this]⟩

/-- … in particular a file whose appender is not on the record's chain is unchanged by that record. -/
theorem C01_sys_unrouted_files_untouched (cfg : SysConfig) (hv : Valid cfg.routing) (st st' : FilesState)
    (r : SysRecord) (a : Name)
    (hna : a ∉ chain cfg.routing (comps r.target).length (effective cfg.routing r.target))
    (hlog : sysLog cfg st r = .ok st') :
    getApp st'.apps a = getApp st.apps a ∧ st'.disk a = st.disk a := by
  apply C01_sys_zero_copies_untouched cfg hv st st' r a _ hlog
  unfold specCopies
  split
  · exact List.count_eq_zero.mpr hna
  · rfl

/-- Per file, records appear in call order and nothing is rewritten: the file after a longer history
is the file after any prefix of it followed by the contributions of the remaining records, in order. -/
theorem C01_sys_order (cfg : SysConfig) (asts : Name → List Pat) (h : SysWF cfg asts)
    (rs₁ rs₂ : List SysRecord) (hd : ∀ r ∈ rs₁ ++ rs₂, DatesOkFor cfg asts r)
    (a : Name) (ha : a ∈ cfg.routing.appenders) :
    ∃ st₁ st₂ d₁, sysRun cfg rs₁ = .ok st₁ ∧ sysRun cfg (rs₁ ++ rs₂) = .ok st₂ ∧
      st₁.disk a = some d₁ ∧
      st₂.disk a = some (d₁ ++ rs₂.flatMap (specContribution cfg asts a)) := by
  refine ⟨_, _, _, sysRun_stateOf cfg asts h rs₁ fun r hr => hd r (List.mem_append_left _ hr),
    sysRun_stateOf cfg asts h _ hd, disk_stateOf cfg asts _ a ha, ?_⟩
  rw [disk_stateOf cfg asts _ a ha, specFile, specFile, List.flatMap_append, List.append_assoc]

/-- What a reader sees after every single record (the snapshots the correspondence check takes):
the `k`-th snapshot is the specification of the first `k+1` records. -/
theorem C01_sys_snapshots_eq_spec (cfg : SysConfig) (asts : Name → List Pat) (h : SysWF cfg asts)
    (rs : List SysRecord) (hd : ∀ r ∈ rs, DatesOkFor cfg asts r) :
    (sysTrace cfg rs).length = rs.length ∧
    ∀ k, k < rs.length →
      ((sysTrace cfg rs)[k]?).map observe = some (some (specFiles cfg asts (rs.take (k + 1)))) := by
  have hlen : (sysTrace cfg rs).length = rs.length := by
    simp only [sysTrace, sysOpen_ok cfg asts h]
    exact sysTraceFrom_length_ok cfg asts h rs _ hd
  refine ⟨hlen, fun k hk => ?_⟩
  have hp : (sysTrace cfg rs)[k]? = some (sysRun cfg (rs.take (k + 1))) := by
    have hk' : k < (sysTrace cfg rs).length := hlen.symm ▸ hk
    simp only [sysTrace, sysRun, sysOpen_ok cfg asts h] at hk' ⊢
    exact sysTraceFrom_prefix cfg rs _ k hk'
  rw [hp, Option.map_some,
    C01_sys_observation_eq_spec cfg asts h (rs.take (k + 1)) (fun r hr => hd r (List.mem_of_mem_take hr))]

/-- The files do not depend on the order in which loggers were declared nor on the order of the
appender table: under any reordering of both, every file ends up with the same content. -/
theorem C01_sys_independent_of_declaration_order (cfg : SysConfig) (asts : Name → List Pat)
    (h : SysWF cfg asts) (ls' : List LoggerCfg) (tbl' : List Name)
    (h1 : cfg.routing.loggers.Perm ls') (h2 : cfg.routing.appenders.Perm tbl')
    (rs : List SysRecord) (hd : ∀ r ∈ rs, DatesOkFor cfg asts r) :
    ∃ st st', sysRun cfg rs = .ok st ∧
      sysRun { cfg with routing := { cfg.routing with loggers := ls', appenders := tbl' } } rs = .ok st' ∧
      ∀ a ∈ cfg.routing.appenders, st'.disk a = st.disk a ∧ st.disk a = some (specFile cfg asts a rs) := by
  let cfg' : SysConfig := { cfg with routing := { cfg.routing with loggers := ls', appenders := tbl' } }
  have hv' : Valid cfg'.routing := C01_valid_perm cfg.routing h.valid ls' tbl' h1 h2
  have hdel : ∀ t lvl, specDeliver cfg'.routing t lvl = specDeliver cfg.routing t lvl := fun t lvl =>
    Option.some.inj ((C01_deliver_eq_spec _ hv' t lvl).symm.trans
      ((C01_perm_config cfg.routing h.valid ls' tbl' h1 h2 t lvl).trans (C01_deliver_eq_spec _ h.valid t lvl)))
  have hwf' : SysWF cfg' asts :=
    ⟨⟨hv', h.cc, h.us, h.dcp, h.mdc, h.mdcE, fun a ha => h.printed a (h2.mem_iff.mpr ha),
      fun a ha => h.wf a (h2.mem_iff.mpr ha)⟩, fun a ha => h.noRolling a (h2.mem_iff.mpr ha)⟩
  have hd' : ∀ r ∈ rs, DatesOkFor cfg' asts r := fun r hr a ha hc =>
    hd r hr a (h2.mem_iff.mpr ha) (specCopies_congr cfg cfg' rfl hdel a r ▸ hc)
  refine ⟨_, _, sysRun_stateOf cfg asts h rs hd, sysRun_stateOf cfg' asts hwf' rs hd', fun a ha => ?_⟩
  rw [disk_stateOf cfg asts _ a ha, disk_stateOf cfg' asts _ a (h2.mem_iff.mp ha),
    specFile_congr cfg cfg' asts rfl hdel]
  exact ⟨rfl, rfl⟩

/-! ### non-vacuity (tests on samples, not proofs of the property)

Two appenders `f` and `g`. `f` is attached to the root, to logger `a` and to logger `a::b` (shared by
three loggers; along the additive chain of `a::b` it is attached three times), carries a threshold
filter at Info, is opened in append mode on a file that already holds `P`, and its pattern has a
width spec and a two-byte character. `g` is attached to `a`, has no filter, truncates. -/

def exF : Name := ['f']
def exG : Name := ['g']

def exRouting : Config :=
  { appenders := [exF, exG]
    rootLevel := 3
    rootAppenders := [exF]
    loggers := [
      { name := ['a', ':', ':', 'b'], level := 5, additive := true, appenders := [exF] },
      { name := ['a'], level := 4, additive := true, appenders := [exF, exG] }] }

/-- `{l:>6}é{m}{n}` -/
def exAstF : List Pat :=
  [.leaf .level false (some { align := some true, minW := some [6] }), .lit ⟨'é', .plain⟩,
   .leaf .message false none, .leaf .newline false none]

/-- `{(<{t}\)):.7}{m:*<3.3};` -/
def exAstG : List Pat :=
  [.group .align false [.lit ⟨'<', .plain⟩, .leaf .target false none, .lit ⟨')', .backslash⟩]
     (some { maxW := some [7] }),
   .leaf .message false (some { fill := some '*', align := some false, minW := some [3], maxW := some [3] }),
   .lit ⟨';', .plain⟩]

def exAsts (a : Name) : List Pat := if a = exF then exAstF else exAstG

def exCfg : SysConfig :=
  { routing := exRouting
    app := fun a =>
      if a = exF then
        { thresholds := [3], pattern := cs!"{l:>6}é{m}{n}", mode := .append, pre := some [80] }
      else
        { thresholds := [], pattern := cs!"{(<{t}\\)):.7}{m:*<3.3};", mode := .truncate, pre := some [81, 81] }
    cc := asciiClass
    P := Profile.debug64
    B := { renderOk := fun _ => true } }

def exEnv : Env :=
  { strftimeOk := fun _ => true, dateText := fun _ _ => [], threadName := none, threadId := 1, pid := 2,
    mdc := [], debugBuild := true }

def exRecords : List SysRecord := [
  -- Info to `a::b::c`: chain f (a::b), f g (a), f (root): three copies in f, one in g
  { record := { level := 3, message := ['h', 'i'], target := ['a', ':', ':', 'b', ':', ':', 'c'] }, env := exEnv },
  -- Debug to `a::b`: admitted by the logger, rejected by f's threshold (Info), written to g
  { record := { level := 4, message := ['d', 'e', 'b', 'u', 'g'], target := ['a', ':', ':', 'b'] }, env := exEnv },
  -- Trace to `a::bb` (textual, not component, prefix `a::b`): logger `a` (Debug) does not admit it
  { record := { level := 5, message := ['t'], target := ['a', ':', ':', 'b', 'b'] }, env := exEnv },
  -- Error to an unrelated target: the root, f once
  { record := { level := 1, message := ['€'], target := ['x'] }, env := exEnv }]

theorem exValid : Valid exRouting := by unfold Valid; decide +kernel

theorem exAsts_wf (a : Name) : WF Profile.debug64 (exAsts a) := by
  unfold exAsts
  split <;> decide +kernel

theorem exCfg_printed (a : Name) : (exCfg.app a).pattern = showPats (exAsts a) := by
  unfold exCfg exAsts
  dsimp only
  split <;> decide +kernel

theorem exCfg_plain (a : Name) : (exCfg.app a).rolling = none := by
  unfold exCfg
  dsimp only
  split <;> rfl

/-- a configuration on the example's platform whose pattern appenders carry the example's patterns
meets the hypotheses of the theorems, whatever its routing part, its kinds of sink and its modes -/
theorem exSysWFR (cfg : SysConfig) (hcc : cfg.cc = asciiClass) (hP : cfg.P = Profile.debug64)
    (hB : cfg.B.mdcWhole = true) (hE : cfg.B.mdcEmptyOk = true) (hv : Valid cfg.routing)
    (hpat : ∀ a, (cfg.app a).pattern = (exCfg.app a).pattern) : SysWFR cfg exAsts where
  valid := hv
  cc := by rw [hcc]; intro c hc; simp [asciiClass, hc]
  us := by rw [hP]; rfl
  dcp := by rw [hP]; rfl
  mdc := hB
  mdcE := hE
  printed := fun a _ _ => (hpat a).trans (exCfg_printed a)
  wf := fun a _ _ => by rw [hP]; exact exAsts_wf a

/-- the hypotheses of the theorems hold of the example -/
example : SysWF exCfg exAsts :=
  { exSysWFR exCfg rfl rfl rfl rfl exValid fun _ => rfl with noRolling := fun a _ => exCfg_plain a }

example : ∀ r ∈ exRecords, DatesOkFor exCfg exAsts r := by
  intro r _ a ha _ _
  simp only [exCfg, exRouting, List.mem_cons, List.not_mem_nil, or_false] at ha
  rcases ha with rfl | rfl <;>
    exact ⟨by intro f hf; simp [exAsts, exAstF, exAstG, exF, exG, allDatesPats, allDatesPat] at hf,
           by intro x hx; simp [exAsts, exAstF, exAstG, exF, exG, datesPats, datesPat] at hx⟩

/-- test on a sample: the copies per record — f gets 3, 0 (threshold), 0 (logger level), 1; g gets 1, 1, 0, 0 -/
example : exRecords.map (specCopies exCfg exF) = [3, 0, 0, 1] ∧
    exRecords.map (specCopies exCfg exG) = [1, 1, 0, 0] := by decide +kernel

/-- test on a sample: what the specification puts into the files
(f: `P`, then three times `  INFOéhi\n`, then ` ERRORé€\n`; g, truncated: `<a::b::hi*;<a::b)deb;`) -/
example : specFiles exCfg exAsts exRecords =
    [(exF, [80,
        32, 32, 73, 78, 70, 79, 195, 169, 104, 105, 10,
        32, 32, 73, 78, 70, 79, 195, 169, 104, 105, 10,
        32, 32, 73, 78, 70, 79, 195, 169, 104, 105, 10,
        32, 69, 82, 82, 79, 82, 195, 169, 226, 130, 172, 10]),
     (exG, [60, 97, 58, 58, 98, 58, 58, 104, 105, 42, 59,
        60, 97, 58, 58, 98, 41, 100, 101, 98, 59])] := by decide +kernel

/-- test on a sample: the model (parser, chunk table, encoder, filter loop, tree, BufWriter) computes the same -/
example : observe (sysRun exCfg exRecords) = some (specFiles exCfg exAsts exRecords) := by decide +kernel

end Log4rs.System
