import Log4rsModel.Routing.FiltersLemmas
/-
C03 — Filter chains decide per appender; rejections and errors are isolated.
The record type `ρ` is arbitrary, a filter is any function `ρ → Response`, an appender's `append` may
return a different result on every call; chains, appender tables and attachment lists have any
length. The composition with the logger tree (which node `find` returns, inherited attachments,
index ranges) is `Compose_log_record_eq_spec` in Properties/Compose.lean.

Reading decisions (also in props.d/C03.json):
* "the configured error handler" = the closure given to `Logger::new_with_err_handler`; with
  `Logger::new` the configured handler is the default stderr one.
* panics of filters or appenders are outside the statement ("a returned error"); what the code does
  then is stated as `C03_panic_not_isolated`, labelled as a limitation.
-/
namespace Log4rs.Routing
variable {ρ : Type}

/-- The loop of `Appender::append` consults exactly the first `specConsulted` filters of the
appender's vector, in vector order (their labels are returned in that order), and reaches the
appender iff the first non-Neutral answer is Accept or there is none. -/
theorem C03_runChain_spec (r : ρ) (ch : List (LFilter ρ)) :
    runChainL r ch = ((ch.take (specConsulted r (fns ch))).map (·.1), specDelivered r (fns ch)) :=
  runChainL_eq_spec r ch

/-- "filters are consulted in declaration order": for a chain declared as `fs` (labels = positions of
declaration) the labels consulted are `0, 1, …, k-1` in this order, `k` the position of the first
decisive answer + 1 (or the length). This is a statement about the labels the interpreter
returns, not about how events are named: a vector holding the declared filters in another order
returns other labels (see the example at the end). -/
theorem C03_consulted_in_declaration_order (r : ρ) (fs : List (ρ → Response)) :
    (runChainL r (declare fs)).1 = List.range (specConsulted r fs) ∧
    specConsulted r fs ≤ fs.length := by
  refine ⟨?_, specConsulted_le r fs⟩
  rw [runChainL_eq_spec, fns_declare, List.map_take, labels_declare, List.take_range,
    Nat.min_eq_left (specConsulted_le r fs)]

/-- The same without `find?`: with `rs` the answers the filters would give and `k` the number of
filters consulted — the consulted ones are the first `k` of the vector, the first `k-1` answered
Neutral, and either all answered Neutral, all were consulted and the record is delivered, or the
`k`-th answer is the first non-Neutral one and the record is delivered iff it is Accept. -/
theorem C03_runChain_declarative (r : ρ) (ch : List (LFilter ρ)) :
    let rs := (fns ch).map (· r)
    let out := runChainL r ch
    let k := out.1.length
    k ≤ ch.length ∧ out.1 = (ch.take k).map (·.1) ∧ (∀ j, j + 1 < k → rs[j]? = some .neutral) ∧
    (((∀ a ∈ rs, a = .neutral) ∧ k = ch.length ∧ out.2 = true) ∨
     ∃ a, 1 ≤ k ∧ rs[k - 1]? = some a ∧ a ≠ .neutral ∧ (out.2 = true ↔ a = .accept)) := by
  intro rs out k
  have hrs : rs = ch.map (·.2 r) := by simp [rs, fns]
  rcases chain_split r ch with h | ⟨pre, g, rest, rfl, hpre, hg⟩
  · have hout : out = (ch.map (·.1), true) := runChainL_all_neutral r ch h
    have hk : k = ch.length := by simp [k, hout]
    have hall : ∀ a ∈ rs, a = .neutral := by
      rw [hrs]; exact List.forall_mem_map.mpr h
    refine ⟨by omega, by rw [hk, List.take_length, hout], fun j hj => ?_, Or.inl ⟨hall, hk, by rw [hout]⟩⟩
    exact getElem?_of_forall_eq hall (by rw [hrs, List.length_map]; omega)
  · have hout : out = ((pre ++ [g]).map (·.1), decide (g.2 r = .accept)) := runChainL_decided r pre g rest hpre hg
    have hk : k = pre.length + 1 := by simp [k, hout]
    have hrs' : rs = pre.map (·.2 r) ++ g.2 r :: rest.map (·.2 r) := by simp [hrs]
    refine ⟨by simp [hk], ?_, fun j hj => ?_, Or.inr ⟨g.2 r, by omega, ?_, hg, by simp [hout]⟩⟩
    · rw [hk, hout, List.take_length_add_append]; rfl
    · rw [hrs', List.getElem?_append_left (by rw [List.length_map]; omega)]
      exact getElem?_of_forall_eq (List.forall_mem_map.mpr hpre) (by rw [List.length_map]; omega)
    · rw [hk, hrs', Nat.add_sub_cancel, List.getElem?_append_right (by rw [List.length_map]; exact Nat.le_refl _),
        List.length_map, Nat.sub_self]
      rfl

/-- Delivery in terms of the first decisive answer. -/
theorem C03_delivered_iff (r : ρ) (ch : List (LFilter ρ)) :
    (runChainL r ch).2 = true ↔
      firstDecisive r (fns ch) = none ∨ firstDecisive r (fns ch) = some .accept := by
  rw [runChainL_eq_spec]
  simp only [specDelivered]
  cases firstDecisive r (fns ch) <;> simp

/-- Short circuit: whatever stands behind the consulted prefix of a decided chain has no influence
and is not consulted. -/
theorem C03_later_filters_irrelevant (r : ρ) (ch other : List (LFilter ρ))
    (h : firstDecisive r (fns ch) ≠ none) :
    runChainL r (ch.take (runChainL r ch).1.length ++ other) = runChainL r ch := by
  rcases chain_split r ch with hn | ⟨pre, g, rest, rfl, hpre, hg⟩
  · exact absurd (by simpa [firstDecisive, fns] using hn) h
  · rw [runChainL_decided r pre g rest hpre hg]
    simp only [List.length_map, List.length_append, List.length_singleton,
      List.take_length_add_append, List.take_succ_cons, List.take_zero, List.append_assoc,
      List.singleton_append]
    exact runChainL_decided r pre g other hpre hg

/-- "the threshold filter rejects exactly the records more verbose than its level" -/
theorem C03_threshold_rejects_iff (thr lvl : Nat) :
    (Filter.threshold thr).respond lvl = .reject ↔ lvl > thr := by
  simp only [Filter.respond, thresholdFilter]
  split <;> simp_all

/-- … and is Neutral (never Accept) on all other records. -/
theorem C03_threshold_neutral_iff (thr lvl : Nat) :
    (Filter.threshold thr).respond lvl = .neutral ↔ lvl ≤ thr := by
  simp only [Filter.respond, thresholdFilter]
  by_cases h : lvl > thr
  · simp [h]
  · simp [h]; omega

/-- a filter whose answer depends on the level alone and is never Accept: a threshold, or a scripted
Neutral -/
def LevelGate : Filter → Prop
  | .threshold _ => True
  | .fixed r => r = .neutral

def thresholdsOf : List Filter → List Nat
  | [] => []
  | .threshold t :: rest => t :: thresholdsOf rest
  | .fixed _ :: rest => thresholdsOf rest

theorem runChain_delivered (lvl : Nat) (chain : List Filter) :
    (runChain lvl chain).2 = specDelivered lvl (chain.map Filter.respond) := by
  simp [runChain, runChainL_eq_spec, fns_declare]

theorem gates_all_neutral (lvl : Nat) (pre : List Filter) (h : ∀ f ∈ pre, LevelGate f) :
    (pre.map Filter.respond).all (fun f => f lvl = .neutral) =
      (thresholdsOf pre).all (fun t => decide (lvl ≤ t)) := by
  induction pre with
  | nil => rfl
  | cons f fs ih =>
    rw [List.forall_mem_cons] at h
    rw [List.map_cons, List.all_cons, ih h.2]
    cases f with
    | threshold t => exact congrArg (· && _) (decide_eq_decide.mpr (C03_threshold_neutral_iff t lvl))
    | fixed a => rw [show a = .neutral from h.1]; rfl

theorem gates_no_accept (lvl : Nat) (pre : List Filter) (h : ∀ f ∈ pre, LevelGate f) :
    ∀ f ∈ pre.map Filter.respond, f lvl ≠ .accept := by
  intro f hf
  obtain ⟨g, hg, rfl⟩ := List.mem_map.mp hf
  cases g with
  | threshold t => simp only [Filter.respond, thresholdFilter]; split <;> nofun
  | fixed a => rw [show a = .neutral from h _ hg]; nofun

/-- Several thresholds, anywhere before the first scripted decision: with `pre` made of threshold
filters and scripted-Neutral filters only, the chain `pre ++ rest` delivers exactly when the record
is at most as verbose as EVERY threshold in `pre` — i.e. as their minimum — and `rest` delivers. -/
theorem C03_thresholds_conjoin (lvl : Nat) (pre rest : List Filter) (h : ∀ f ∈ pre, LevelGate f) :
    (runChain lvl (pre ++ rest)).2 = true ↔
      (∀ t ∈ thresholdsOf pre, lvl ≤ t) ∧ (runChain lvl rest).2 = true := by
  rw [runChain_delivered, runChain_delivered, List.map_append,
    specDelivered_prefix_no_accept lvl _ _ (gates_no_accept lvl pre h), gates_all_neutral lvl pre h]
  simp

/-- the same with the minimum named -/
theorem C03_thresholds_minimum (lvl : Nat) (pre rest : List Filter) (h : ∀ f ∈ pre, LevelGate f) :
    (∀ m, (thresholdsOf pre).min? = some m →
      ((runChain lvl (pre ++ rest)).2 = true ↔ lvl ≤ m ∧ (runChain lvl rest).2 = true)) ∧
    ((thresholdsOf pre).min? = none →
      (runChain lvl (pre ++ rest)).2 = (runChain lvl rest).2) := by
  constructor
  · intro m hm
    rw [C03_thresholds_conjoin lvl pre rest h, ← List.le_min?_iff hm]
  · intro hn
    rw [Bool.eq_iff_iff, C03_thresholds_conjoin lvl pre rest h, List.min?_eq_none_iff.mp hn]
    exact and_iff_right nofun

/-- a chain of thresholds alone (any number, any order) delivers exactly the records at most as
verbose as the strictest of them -/
theorem C03_threshold_chain_many (lvl : Nat) (thrs : List Nat) :
    (runChain lvl (thrs.map Filter.threshold)).2 = true ↔ ∀ t ∈ thrs, lvl ≤ t := by
  have hts : thresholdsOf (thrs.map Filter.threshold) = thrs := by
    induction thrs with
    | nil => rfl
    | cons t ts ih => exact congrArg (t :: ·) ih
  have := C03_thresholds_conjoin lvl (thrs.map Filter.threshold) []
    (fun f hf => by obtain ⟨t, _, rfl⟩ := List.mem_map.mp hf; trivial)
  rw [List.append_nil, hts] at this
  exact this.trans (and_iff_left rfl)

/-- an earlier Accept bypasses every later filter, thresholds included: after `pre` (all Neutral on
this record) exactly `pre.length + 1` filters are consulted and the record is delivered -/
theorem C03_accept_bypasses_later (r : ρ) (pre later : List (ρ → Response)) (g : ρ → Response)
    (h : ∀ f ∈ pre, f r = .neutral) (hg : g r = .accept) :
    runChainL r (declare (pre ++ g :: later)) = (List.range (pre.length + 1), true) := by
  have hpre : ∀ f ∈ declare pre, f.2 r = .neutral :=
    fun f hf => h _ (fns_declare pre ▸ List.mem_map_of_mem hf)
  rw [declare_append, List.zipIdx_cons, List.map_cons,
    runChainL_decided r _ _ _ hpre (by simp [hg]), List.map_append, labels_declare, List.range_succ]
  simp only [hg, List.map_cons, List.map_nil, decide_true]

/-- Lossy document path in general: the chain is the entries that deserialize, each keeping the
position it has in the document as its label, these positions strictly increasing (document order is
never changed, whatever the kinds); each entry that does not deserialize is reported once. -/
theorem C03_config_chain_keeps_document_order (doc : List (FilterEntry ρ)) :
    configChain doc =
      (validEntries (doc.zipIdx.map fun p => (p.2, p.1)), badCount (doc.zipIdx.map fun p => (p.2, p.1))) ∧
    ((configChain doc).1.map (·.1)).Pairwise (· < ·) := by
  have h := configChain_fold (doc.zipIdx.map fun p => (p.2, p.1)) ([], 0)
  rw [List.nil_append, Nat.zero_add] at h
  refine ⟨h, ?_⟩
  rw [configChain, h]
  refine List.Pairwise.sublist (validEntries_labels_sublist _) ?_
  rw [List.map_map]
  exact List.zipIdx_map_snd 0 doc ▸ List.pairwise_lt_range'

/-- Builder path: whatever mix of `.filter(f)` and `.filters(iter)` calls is made, the appender's
vector is the declared filters in declaration order. Configuration-file path: a `filters:` sequence
whose entries all deserialize gives the same labelled chain as declaring them through the builder;
no error is reported. -/
theorem C03_chain_order_is_declaration_order (calls : List (BuilderCall ρ)) (fs : List (ρ → Response)) :
    builderVec calls = calls.flatMap BuilderCall.declared ∧
    configChain (fs.map FilterEntry.ok) = (declare fs, 0) := by
  refine ⟨(builderVec_fold calls []).trans (List.nil_append _), ?_⟩
  rw [(C03_config_chain_keeps_document_order _).1]
  obtain ⟨h1, h2⟩ := validEntries_all_ok fs 0
  rw [h1, h2]; rfl

/-- `filters:` that is not a sequence costs the whole appender (one reported error), an absent key
means no filters. -/
theorem C03_config_filters_value (result : Nat → CallResult) :
    (configAppender (FiltersValue.notSeq : FiltersValue ρ) result).1.isNone = true ∧
    (configAppender (FiltersValue.notSeq : FiltersValue ρ) result).2 = 1 ∧
    ((configAppender (FiltersValue.absent : FiltersValue ρ) result).1.map (·.chain.length)) = some 0 := by
  simp [configAppender]

/-- The whole call sequence of one `Log::log` is the one assembled from each attached appender's own
chain, when the attachment indices are in range (discharged for every node of a built tree in
`Compose_log_record_eq_spec`) and no reached `append` panics. -/
theorem C03_fanout_eq_spec (table : List (AppenderG ρ)) (nodeLevel : Nat) (attached : List Nat)
    (lvlOf : ρ → Nat) (r : ρ) (hnp : NoPanic table) (h : ∀ j ∈ attached, j < table.length) :
    fanoutG table nodeLevel attached lvlOf r = .returned (specTraceG table nodeLevel attached lvlOf r) :=
  fanoutG_eq_spec table nodeLevel attached lvlOf r hnp h

/-- Isolation: the calls that concern appender `i` (its filters, its `append`, the handler calls for
its errors) are the same under any replacement of the other appenders — their chains, their
results, even their number. -/
theorem C03_fanout_isolated (t t' : List (AppenderG ρ)) (nodeLevel : Nat) (attached : List Nat)
    (lvlOf : ρ → Nat) (r : ρ) (i : Nat) (hi : t[i]? = t'[i]?)
    (hnp : NoPanic t) (hnp' : NoPanic t')
    (h : ∀ j ∈ attached, j < t.length) (h' : ∀ j ∈ attached, j < t'.length) :
    ∃ tr tr', fanoutG t nodeLevel attached lvlOf r = .returned tr ∧
      fanoutG t' nodeLevel attached lvlOf r = .returned tr' ∧ project i tr = project i tr' :=
  ⟨_, _, fanoutG_eq_spec t nodeLevel attached lvlOf r hnp h,
    fanoutG_eq_spec t' nodeLevel attached lvlOf r hnp' h',
    project_specTraceG_congr t t' nodeLevel attached lvlOf r i hi⟩

/-- What appender `i` receives, explicitly: per attachment of `i` to the logger, the consulted
prefix of its own chain and then (if its chain delivers) one `append`; afterwards one handler call
for each of these calls that returned `Err` (`errCount … 0 n` counts the calls number `0 … n-1` of
appender `i` that are errors). Nothing else in the trace concerns `i`. -/
theorem C03_received_formula (t : List (AppenderG ρ)) (nodeLevel : Nat) (attached : List Nat)
    (lvlOf : ρ → Nat) (r : ρ) (i : Nat) (a : AppenderG ρ) (hi : t[i]? = some a)
    (hadm : admits nodeLevel (lvlOf r) = true) (hnp : NoPanic t) (h : ∀ j ∈ attached, j < t.length) :
    ∃ tr, fanoutG t nodeLevel attached lvlOf r = .returned tr ∧
      project i tr =
        (List.replicate (attached.count i) (specAppenderEvents i a r)).flatten ++
        List.replicate (errCount t r i 0 (attached.count i)) (Event.handler i) := by
  refine ⟨_, fanoutG_eq_spec t nodeLevel attached lvlOf r hnp h, ?_⟩
  rw [project_specTraceG t _ _ _ _ _ hadm]
  simp [specAttachEvents, hi]

/-- "each appender error is handed to the … error handler exactly once": the handler calls are
exactly the attachments whose call returned `Err` (per call, not per appender: the k-th call of an
appender attached several times counts iff that call failed), once each, in attachment order, and
they come after every filter and append call. -/
theorem C03_errors_once (t : List (AppenderG ρ)) (nodeLevel : Nat) (attached : List Nat)
    (lvlOf : ρ → Nat) (r : ρ) (hadm : admits nodeLevel (lvlOf r) = true) (hnp : NoPanic t)
    (h : ∀ j ∈ attached, j < t.length) :
    ∃ calls, fanoutG t nodeLevel attached lvlOf r =
        .returned (calls ++ (specErrList t r attached).map Event.handler) ∧
      ∀ e ∈ calls, ∀ j, e ≠ Event.handler j ∧ e ≠ Event.stderr j := by
  refine ⟨attached.flatMap (specAttachEvents t r), ?_, fun e he j => ?_⟩
  · rw [fanoutG_eq_spec t nodeLevel attached lvlOf r hnp h, specTraceG, if_pos hadm]
  · obtain ⟨k, _, hk⟩ := List.mem_flatMap.mp he
    rcases mem_specAttachEvents hk with ⟨l, rfl⟩ | ⟨rfl, _⟩ <;> exact ⟨nofun, nofun⟩

/-- A record the node does not admit causes no call at all. -/
theorem C03_not_admitted_silent (t : List (AppenderG ρ)) (nodeLevel : Nat) (attached : List Nat)
    (lvlOf : ρ → Nat) (r : ρ) (hadm : admits nodeLevel (lvlOf r) = false) :
    fanoutG t nodeLevel attached lvlOf r = .returned [] := by
  simp [fanoutG, hadm]

/-- A rejection is not an error: an appender whose chain rejects gets no `append` call and causes
no handler call, however often it is attached and whatever its `append` would do. -/
theorem C03_rejection_silent (t : List (AppenderG ρ)) (nodeLevel : Nat) (attached : List Nat)
    (lvlOf : ρ → Nat) (r : ρ) (i : Nat) (a : AppenderG ρ) (hi : t[i]? = some a)
    (hrej : (runChainL r a.chain).2 = false) (hnp : NoPanic t) (h : ∀ j ∈ attached, j < t.length) :
    ∃ tr, fanoutG t nodeLevel attached lvlOf r = .returned tr ∧
      Event.append i ∉ tr ∧ Event.handler i ∉ tr := by
  simp only [runChainL_eq_spec] at hrej
  refine ⟨_, fanoutG_eq_spec t nodeLevel attached lvlOf r hnp h, ?_⟩
  unfold specTraceG
  split
  · simp only [List.mem_append, List.mem_flatMap, List.mem_map, not_or]
    refine ⟨⟨?_, nofun⟩, ?_, ?_⟩
    · rintro ⟨k, _, hk⟩
      rcases mem_specAttachEvents hk with ⟨l, hl⟩ | ⟨hk, b, hb, hd⟩
      · cases hl
      · cases hk
        rw [hi] at hb
        cases hb
        rw [hd] at hrej
        cases hrej
    · rintro ⟨k, _, hk⟩
      rcases mem_specAttachEvents hk with ⟨l, hl⟩ | ⟨hl, _⟩ <;> cases hl
    · rintro ⟨j, hj, hji⟩
      cases hji
      obtain ⟨p, hp, rfl⟩ := List.mem_map.mp hj
      have hk := (List.mem_filter.mp hp).2
      simp [specErrs, errAt, hi, hrej] at hk
  · exact ⟨List.not_mem_nil, List.not_mem_nil⟩

/-- A logger hands its errors to the handler its snapshot holds: created with a configured
handler, the trace is that of `fanoutG`; with the default one every handler call is a stderr line. -/
theorem C03_log_uses_snapshot_handler (s : Shared ρ) (lvlOf : ρ → Nat) (r : ρ) :
    (s.handler = .configured → s.log lvlOf r = fanoutG s.table s.nodeLevel s.attached lvlOf r) ∧
    (s.handler = .default → ∀ tr, s.log lvlOf r = .returned tr → ∀ a, Event.handler a ∉ tr) := by
  constructor
  · intro h
    rw [Shared.log, h, viaHandler_configured, LogResult.map_id]
  · intro h tr htr a ha
    rw [Shared.log, h] at htr
    cases hf : fanoutG s.table s.nodeLevel s.attached lvlOf r <;> rw [hf] at htr <;> cases htr
    obtain ⟨e, _, he⟩ := List.mem_map.mp ha
    cases e <;> cases he

/-- THE FULL STATEMENT for the handler: whatever sequence of `Handle::set_config` calls follows the
creation of a logger, its errors keep going to the handler it was created with. -/
def C03_configured_handler_statement (kept : Bool) : Prop :=
  ∀ (ρ : Type) (s : Shared ρ) (cfgs : List (List (AppenderG ρ) × Nat × List Nat)),
    (s.reconfigureWith kept cfgs).handler = s.handler

/-- … holds of the code as it is (`handlerKeptAcrossSetConfig = true`, /repo 4b40d58): after any
number of reconfigurations, to any configurations, the snapshot holds the handler the logger was
created with; together with `C03_log_uses_snapshot_handler` and `C03_errors_once` every returned
error is handed to THAT handler exactly once. -/
theorem C03_configured_handler_kept :
    C03_configured_handler_statement handlerKeptAcrossSetConfig := by
  intro ρ s cfgs
  exact (reconfigureWith_handler true s cfgs).trans (if_pos (Or.inl rfl))

/-- HISTORICAL (code before /repo 4b40d58, model flag `false`; not a statement about the current
code): `set_config` built `SharedLogger::new(config)`, so after one reconfiguration the handler was
the default stderr closure, for every configuration — the full statement was false. Kept as the
record of finding `C03/err-handler-lost-on-set-config`; the executable Spec still fails with that
signature should the behaviour recur. -/
theorem Hist_C03_configured_handler_lost_on_set_config :
    ¬ C03_configured_handler_statement false ∧
    ∀ (ρ : Type) (s : Shared ρ) (c : List (AppenderG ρ) × Nat × List Nat)
      (cs : List (List (AppenderG ρ) × Nat × List Nat)),
      (s.reconfigureWith false (c :: cs)).handler = .default := by
  constructor
  · intro h
    cases h Nat (Shared.create .configured [] 0 []) [([], 0, [])]
  · intro ρ s c cs
    rw [reconfigureWith_handler, if_neg (by simp)]

/-! ### panics (outside the statement — stated as a limitation) -/

/-- The statement speaks of returned errors. When an appender's `append` PANICS, the unwinding
leaves `ConfiguredLogger::log` at once: later appenders are not called and the errors already
collected from earlier appenders never reach the handler — neither isolation nor "exactly once"
extends to panics. Witness: a failing appender followed by a panicking one and a healthy one. -/
theorem C03_panic_not_isolated :
    fanout [{ chain := [], rest := .err }, { chain := [], rest := .panic }, { chain := [] }] 5 [0, 1, 2] 3 =
      .panicked [.append 0, .append 1] := by decide +kernel

/-! ### Non-vacuity (tests on samples, not proofs of the property) -/

/-- Accept before Reject delivers after two consultations; the third filter is not consulted. -/
example : runChain 3 [.fixed .neutral, .fixed .accept, .fixed .reject] = ([0, 1], true) := by decide +kernel
/-- Reject before Accept drops. -/
example : runChain 3 [.fixed .neutral, .fixed .reject, .fixed .accept] = ([0, 1], false) := by decide +kernel
/-- all-Neutral delivers. -/
example : runChain 3 [.fixed .neutral, .threshold 4] = ([0, 1], true) := by decide +kernel
/-- labels are those of the declaration, not positions in the vector: a vector holding the declared
chain [N, A, R] in the order [A, N, R] reports that it consulted the filter declared second. -/
example : runChainL 3 [(1, Filter.respond (.fixed .accept)), (0, Filter.respond (.fixed .neutral)),
    (2, Filter.respond (.fixed .reject))] = ([1], true) := by decide +kernel
/-- a failing appender before a healthy one: both are called, one handler call at the end. -/
example : fanout [⟨[.fixed .neutral], [], .err⟩, ⟨[.threshold 2], [], .ok⟩, ⟨[], [], .ok⟩] 5 [0, 1, 2] 3 =
    .returned [.filter 0 0, .append 0, .filter 1 0, .append 2, .handler 0] := by decide +kernel
/-- per-call results: an appender attached three times that fails on its second call only -/
example : fanout [⟨[], [.ok, .err], .ok⟩] 5 [0, 0, 0] 3 =
    .returned [.append 0, .append 0, .append 0, .handler 0] := by decide +kernel
/-- an out-of-range attachment is an explicit panic of the model, so the range hypothesis matters. -/
example : fanout [⟨[], [], .ok⟩] 5 [1] 3 = .panicked [] := by decide +kernel
/-- two leading thresholds of different levels: the stricter one decides, in either order -/
example : (runChain 2 [.threshold 2, .threshold 1]).2 = false ∧ (runChain 2 [.threshold 1, .threshold 2]).2 = false ∧
    (runChain 1 [.threshold 0, .threshold 1]).2 = false ∧ (runChain 1 [.threshold 2, .threshold 1]).2 = true := by decide +kernel
/-- Accept declared before a strict threshold delivers; declared after it does not -/
example : (runChain 3 [.fixed .accept, .threshold 1]).2 = true ∧ (runChain 3 [.threshold 1, .fixed .accept]).2 = false := by
  decide +kernel
/-- the witness of the (fixed) handler finding: created with a configured handler, reconfigured once
with the same configuration, a failing appender's error still reaches the configured handler; with
the historical `set_config` it went to stderr -/
example : ((Shared.create .configured [(⟨[.fixed .neutral], [], .err⟩ : AppenderM).toG, (⟨[], [], .ok⟩ : AppenderM).toG] 5 [0, 1]).setConfig
      [(⟨[.fixed .neutral], [], .err⟩ : AppenderM).toG, (⟨[], [], .ok⟩ : AppenderM).toG] 5 [0, 1]).log id 1 =
    .returned [.filter 0 0, .append 0, .append 1, .handler 0] := by decide +kernel
example : ((Shared.create .configured [(⟨[.fixed .neutral], [], .err⟩ : AppenderM).toG, (⟨[], [], .ok⟩ : AppenderM).toG] 5 [0, 1]).setConfigWith false
      [(⟨[.fixed .neutral], [], .err⟩ : AppenderM).toG, (⟨[], [], .ok⟩ : AppenderM).toG] 5 [0, 1]).log id 1 =
    .returned [.filter 0 0, .append 0, .append 1, .stderr 0] := by decide +kernel

end Log4rs.Routing
