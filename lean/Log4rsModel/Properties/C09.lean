import Log4rsModel.Pattern.RoundTripLemmas
import Log4rsModel.Pattern.MeaningLemmas
import Log4rsModel.Pattern.DenoteLemmas
/-
C09 — Pattern encoder output equals the pattern's meaning for well-formed patterns.

Code side: the model of `parser.rs`, `From<Piece> for Chunk`, `Chunk::encode` (Pattern/Parser,
Chunk, Encode). Spec side: the AST of the documented grammar with printer `showPats`, meaning
`denotePats`, style calls `stylesPats` and decidable well-formedness `WF` (Pattern/Ast).
Only property theorems and examples live here; the proofs' machinery is in
`Pattern/ParseStepLemmas.lean` and `Pattern/RoundTripLemmas.lean` (parser round trip, mutual induction
over the nested AST), `Pattern/MeaningLemmas.lean` (compiling the pieces gives the direct translation)
and `Pattern/DenoteLemmas.lean` (text, style calls and dates of the direct translation).

Every theorem quantifies over all ASTs — every formatter and alias (`thread_id` too), arbitrary literal text in both
escape styles, arguments, every nesting depth up to the code's limit `Profile.maxDepth` (= 64; what
happens beyond it is `C09_depth_limit`) —, all records, all environments (date texts, thread
name and ids, MDC content, build profile) and all character classifications that behave as Rust's
on ASCII (`CCAscii`).
-/
namespace Log4rs.Pattern.Parse

/-- Parser round trip, exact: parsing the printed AST yields precisely the pieces `piecesOf`
(ordinary neighbouring characters merged into one `Text` piece), at every nesting depth up to the
code's limit (`WF` contains `depthPats ps ≤ P.maxDepth`). -/
theorem C09_parse_show (cc : CharClass) (hcc : CCAscii cc) (P : Profile) (hus : P.underscoreNames = true) (hP : P.doubledCloseParen = true)
    (ps : List Pat) (h : WF P ps) :
    parse cc P (showPats ps) = .ok (piecesOf [] ps) := by
  have := parse_printed cc hcc P hus hP ps [] h.1 rfl
  rwa [List.nil_append, if_pos h.2] at this

/-- `PatternEncoder::new(show ps).encode(record)` has the same outcome — operations or panic — as
encoding the direct translation of the AST. No hypothesis on the date formats (a format chrono's
item parser rejects is the `{ERROR: invalid date format …}` chunk on both sides). -/
theorem C09_run_show (cc : CharClass) (hcc : CCAscii cc) (P : Profile) (hus : P.underscoreNames = true) (hP : P.doubledCloseParen = true)
    (B : Build) (hB : B.mdcWhole = true) (hE : B.mdcEmptyOk = true) (env : Env) (r : Record) (ps : List Pat) (h : WF P ps) :
    run cc P B env r (showPats ps) = encList env r (chunksOf B ps) := by
  have hm := meaning_piecesOf B hB hE env r ps []
  simp only [run, newEncoder, C09_parse_show cc hcc P hus hP ps h, omap]
  rw [hm]
  simp [ofText, seqOut_ok_nil]

/-- The operation stream (characters and style calls, in order) of encoding a printed
well-formed AST, when chrono accepts its date formats. -/
theorem C09_ops_parse_show (cc : CharClass) (hcc : CCAscii cc) (P : Profile) (hus : P.underscoreNames = true) (hP : P.doubledCloseParen = true)
    (B : Build) (hB : B.mdcWhole = true) (hE : B.mdcEmptyOk = true) (env : Env) (r : Record) (ps : List Pat) (h : WF P ps)
    (hd : DatesOk B env ps) :
    run cc P B env r (showPats ps) = .ok (opsList env r (chunksOf B ps)) := by
  rw [C09_run_show cc hcc P hus hP B hB hE env r ps h]
  apply encList_eq_ops
  rw [rendered_chunksOf B env ps hd.1]
  exact hd.2

/-- MAIN THEOREM. For every well-formed pattern (every AST of the documented grammar — all
formatters and aliases including `thread_id`, MDC keys and defaults with escaped specials, every
nesting depth up to the code's limit of `Profile.maxDepth` = 64 open arguments), every record and environment: the text the encoder writes for the printed pattern
is exactly the pattern's meaning — literal text with escapes reduced, each formatter's value
(`???` for absent fields, MDC value or default, date in the requested format and zone, nested
groups, debug/release groups by build profile), each under its format spec — nothing added,
dropped or reordered. (`hus`, `hP`, `hB`: the current code, i.e. the defaults of `Profile` / `Build`.) -/
theorem C09_encode_parse_show (cc : CharClass) (hcc : CCAscii cc) (P : Profile)
    (hus : P.underscoreNames = true) (hP : P.doubledCloseParen = true) (B : Build) (hB : B.mdcWhole = true) (hE : B.mdcEmptyOk = true) (env : Env) (r : Record)
    (ps : List Pat) (h : WF P ps) (hd : DatesOk B env ps) :
    ∃ o, run cc P B env r (showPats ps) = .ok o ∧ o.text = denotePats env r ps :=
  ⟨_, C09_ops_parse_show cc hcc P hus hP B hB hE env r ps h hd,
    text_chunksOf B P.wordBits env r ps false h.1 hd.1⟩

/-- Style calls are exactly: the level's style before and the plain style after every rendered
highlight group, in order — a format spec never drops or moves them, nothing else sets a style. -/
theorem C09_styles_only_around_highlight (cc : CharClass) (hcc : CCAscii cc) (P : Profile)
    (hus : P.underscoreNames = true) (hP : P.doubledCloseParen = true) (B : Build) (hB : B.mdcWhole = true) (hE : B.mdcEmptyOk = true) (env : Env)
    (r : Record) (ps : List Pat) (h : WF P ps) (hd : DatesOk B env ps) :
    ∃ o, run cc P B env r (showPats ps) = .ok o ∧ o.styles = stylesPats env r ps :=
  ⟨_, C09_ops_parse_show cc hcc P hus hP B hB hE env r ps h hd, styles_chunksOf B env r ps⟩

/-- no highlight group, no style call -/
theorem C09_no_highlight_no_styles (env : Env) (r : Record) (ps : List Pat)
    (h : hasHighlightL ps = false) : stylesPats env r ps = [] :=
  stylesPats_eq_nil env r ps (Or.inl h)

/-- the Debug level (and anything without a style in the table) is never styled -/
theorem C09_debug_level_unstyled (env : Env) (r : Record) (ps : List Pat)
    (h : highlightStyle r.level = none) : stylesPats env r ps = [] :=
  stylesPats_eq_nil env r ps (Or.inr h)

/-- Aliases are equivalent — `thread_id` included: writing every formatter in its short form
changes nothing; the outcome of construct + encode is the same for all records and environments. -/
theorem C09_alias_equiv (cc : CharClass) (hcc : CCAscii cc) (P : Profile) (hus : P.underscoreNames = true) (hP : P.doubledCloseParen = true)
    (B : Build) (hB : B.mdcWhole = true) (hE : B.mdcEmptyOk = true) (env : Env) (r : Record) (ps : List Pat) (h : WF P ps) :
    run cc P B env r (showPats ps) = run cc P B env r (showPats (unaliasL ps)) := by
  rw [C09_run_show cc hcc P hus hP B hB hE env r ps h,
    C09_run_show cc hcc P hus hP B hB hE env r (unaliasL ps) (WF_unalias P ps h),
    chunksOf_unalias]

/-- in particular `{thread_id}` and `{I}` -/
theorem C09_thread_id_alias (cc : CharClass) (hcc : CCAscii cc) (P : Profile) (hus : P.underscoreNames = true) (hP : P.doubledCloseParen = true)
    (B : Build) (hB : B.mdcWhole = true) (hE : B.mdcEmptyOk = true) (env : Env) (r : Record) :
    run cc P B env r cs!"{thread_id}" = run cc P B env r cs!"{I}" := by
  have h : WF P [.leaf .threadId true none] :=
    ⟨rfl, by simp [depthPats_cons, depthPats_nil, depthPat_leaf]⟩
  have := C09_alias_equiv cc hcc P hus hP B hB hE env r [.leaf .threadId true none] h
  simpa [showPats_cons, showPats_nil, showPat_leaf, unaliasL, unalias, leafName, showSpec] using this

/-- `WF` is honest about the limit: `Profile.maxDepth` (= `MAX_DEPTH = 64` of parser.rs, pinned by
`C09_gen_max_depth`) open parenthesised arguments are inside, one more is outside. A pattern that
is well formed but for going deeper — at any position, by any kind of argument (group body, date
format, MDC key) — is parsed as: the pieces of the top-level elements in front of the first one
that goes too deep, then `Error("expected '}'")`, and nothing after it (the rest of the pattern
is swallowed; the text `nesting too deep` never reaches the output). -/
theorem C09_depth_limit (cc : CharClass) (hcc : CCAscii cc) (P : Profile) (hus : P.underscoreNames = true)
    (hP : P.doubledCloseParen = true) (ps : List Pat) (hwf : wfPats P.wordBits false ps = true)
    (hdeep : P.maxDepth < depthPats ps) :
    parse cc P (showPats ps) = .ok (piecesOf [] (okPrefix P ps) ++ [.error cs!"expected '}'"]) := by
  have := parse_printed cc hcc P hus hP ps [] hwf rfl
  rwa [List.nil_append, if_neg (Nat.not_le.mpr hdeep)] at this

/-- … and so the encoder writes the meaning of those elements followed by the marker
`{ERROR: expected '}'}` — the behaviour C11 promises for rejected patterns, exactly. -/
theorem C09_depth_limit_text (cc : CharClass) (hcc : CCAscii cc) (P : Profile) (hus : P.underscoreNames = true)
    (hP : P.doubledCloseParen = true) (B : Build) (hB : B.mdcWhole = true) (hE : B.mdcEmptyOk = true) (env : Env) (r : Record)
    (ps : List Pat) (hwf : wfPats P.wordBits false ps = true) (hdeep : P.maxDepth < depthPats ps)
    (hd : DatesOk B env (okPrefix P ps)) :
    ∃ o, run cc P B env r (showPats ps) = .ok o ∧
      o.text = denotePats env r (okPrefix P ps) ++ errorMarker cs!"expected '}'" ∧
      o.styles = stylesPats env r (okPrefix P ps) := by
  have hwf' := wfPats_okPrefix P P.wordBits false ps hwf
  have hm := meaning_piecesOf B hB hE env r (okPrefix P ps) []
  have hops : encList env r (chunksOf B (okPrefix P ps)) = .ok (opsList env r (chunksOf B (okPrefix P ps))) := by
    apply encList_eq_ops
    rw [rendered_chunksOf B env _ hd.1]
    exact hd.2
  refine ⟨opsList env r (chunksOf B (okPrefix P ps)) ++ ofText (errorMarker cs!"expected '}'"), ?_, ?_, ?_⟩
  · simp only [run, newEncoder, C09_depth_limit cc hcc P hus hP ps hwf hdeep, omap, compileL_append,
      encList_append]
    rw [hm, hops]
    simp [ofText, seqOut, compileL_cons, compileL_nil, compile, encList, encChunk]
  · rw [text_append, text_chunksOf B P.wordBits env r _ false hwf' hd.1, text_ofText]
  · rw [styles_append, styles_chunksOf B env r, styles_ofText, List.append_nil]

/-- at the limit and one beyond it (tests of the two theorems' hypotheses on `{(`×n `x` `)}`×n):
depth 64 is well formed, depth 65 is not and satisfies the hypotheses of `C09_depth_limit` -/
def nestN : Nat → List Pat
  | 0 => [.lit ⟨'x', .plain⟩]
  | n + 1 => [.group .align false (nestN n) none]

example : WF Profile.debug64 (nestN 64) := by decide +kernel
example : ¬ WF Profile.debug64 (nestN 65) := by decide +kernel
example : wfPats Profile.debug64.wordBits false (.lit ⟨'a', .plain⟩ :: nestN 65 ++ [.leaf .message false none]) = true ∧
    Profile.debug64.maxDepth < depthPats (.lit ⟨'a', .plain⟩ :: nestN 65 ++ [.leaf .message false none]) ∧
    (okPrefix Profile.debug64 (.lit ⟨'a', .plain⟩ :: nestN 65 ++ [.leaf .message false none])).length = 1 := by
  decide +kernel

/-- a concrete environment and record for witnesses -/
def witnessEnv : Env :=
  { strftimeOk := fun _ => true, dateText := fun _ _ => [], threadName := none,
    threadId := 7, pid := 0, mdc := [], debugBuild := true }

def witnessRecord : Record := { level := 3, message := [], target := [] }

/-- F5 (historical, repaired by commit eb8340d): before `_` was accepted in names the documented
alias `{thread_id}` could not be parsed — `Parser::name` stopped at `_`. -/
theorem C09_F5_thread_id_alias_unparsable_unfixed :
    showPats [.leaf .threadId true none] = cs!"{thread_id}" ∧
    parse asciiClass Profile.unfixed64 cs!"{thread_id}" = .ok [.error cs!"expected '}'"] ∧
    parse asciiClass Profile.debug64 cs!"{thread_id}" = .ok [.arg cs!"thread_id" [] {}] := by
  refine ⟨?_, ?_, ?_⟩ <;> rfl

/-- F6 (a) (historical, repaired by commit 185a57e): inside a parenthesised argument the doubled
form `))` did not produce `)`: the first `)` closed the argument, whatever followed. -/
theorem C09_F6_doubled_close_paren_closes_argument_unfixed (cc : CharClass) (P : Profile)
    (hP : P.doubledCloseParen = false) (d : Nat) (more : List Char) (acc : List Piece) :
    argB cc P d (')' :: ')' :: more) acc = .ok acc (')' :: more) :=
  argB_close_unfixed cc P d hP _ acc

/-- since the repair: `))` inside an argument is the piece `Text(")")`, and the loop goes on -/
theorem C09_doubled_close_paren_is_literal (cc : CharClass) (P : Profile) (hP : P.doubledCloseParen = true)
    (d : Nat) (more : List Char) (acc : List Piece) :
    argB cc P d (')' :: ')' :: more) acc = argB cc P d more (acc ++ [.text [')']]) :=
  argB_dbl cc P d hP more acc

/-- F6 (a), end to end: `{(a)))}` was an error, and is `a)` now. -/
theorem C09_F6_witness (B : Build) :
    showPats [.group .align false [.lit ⟨'a', .plain⟩, .lit ⟨')', .doubled⟩] none] = cs!"{(a)))}" ∧
    newEncoder asciiClass Profile.unfixed64 B cs!"{(a)))}" = .ok [.error cs!"expected '}'"] ∧
    newEncoder asciiClass Profile.debug64 B cs!"{(a)))}" =
      .ok [.group .align [.text ['a'], .text [')']] {}] := by
  refine ⟨?_, ?_, ?_⟩ <;> rfl

/-- the instance of the main statement with `))` inside an argument: false before the repair … -/
def C09_with_doubled_close_paren (P : Profile) : Prop :=
  ∀ (B : Build) (env : Env) (r : Record), ∃ o,
    run asciiClass P B env r
      (showPats [.group .align false [.lit ⟨'a', .plain⟩, .lit ⟨')', .doubled⟩] none]) = .ok o ∧
    o.text = denotePats env r [.group .align false [.lit ⟨'a', .plain⟩, .lit ⟨')', .doubled⟩] none]

theorem C09_with_doubled_close_paren_false_unfixed : ¬ C09_with_doubled_close_paren Profile.unfixed64 := by
  intro h
  obtain ⟨o, ho, ht⟩ := h { renderOk := fun _ => true } witnessEnv witnessRecord
  have hrun : run asciiClass Profile.unfixed64 { renderOk := fun _ => true } witnessEnv witnessRecord
      (showPats [.group .align false [.lit ⟨'a', .plain⟩, .lit ⟨')', .doubled⟩] none]) =
      .ok (ofText (errorMarker cs!"expected '}'")) := by rfl
  rw [hrun] at ho
  cases ho
  rw [text_ofText] at ht
  have : denotePats witnessEnv witnessRecord
      [.group .align false [.lit ⟨'a', .plain⟩, .lit ⟨')', .doubled⟩] none] = ['a', ')'] := by
    simp [denotePats_cons, denotePats_nil, denotePat_group, groupOn, denotePat_lit, applySpec]
  rw [this] at ht
  exact absurd ht (by decide)

/-- … and true of the current code (an instance of `C09_encode_parse_show`). -/
theorem C09_with_doubled_close_paren_holds : C09_with_doubled_close_paren Profile.debug64 := by
  intro B env r
  have hcc : CCAscii asciiClass := by
    intro c hc; simp [asciiClass, hc]
  have hwf : WF Profile.debug64 [.group .align false [.lit ⟨'a', .plain⟩, .lit ⟨')', .doubled⟩] none] := by
    decide
  obtain ⟨o, ho, ht⟩ := C09_encode_parse_show asciiClass hcc Profile.debug64 rfl rfl
    { B with mdcWhole := true, mdcEmptyOk := true } rfl rfl env r _ hwf ⟨by intro f hf; simp [allDatesPats, allDatesPat] at hf,
      by intro x hx; simp [datesPats, datesPat] at hx⟩
  refine ⟨o, ?_, ht⟩
  rw [← ho]
  rfl

/-- F6 (b) (historical, repaired by commit 7be4123): the MDC key (and default) kept only the first
text piece of their argument, so an escape inside the key cut it … -/
theorem C09_F6_mdc_first_piece_only_unfixed (B : Build) (hB : B.mdcWhole = false) (k : List Char)
    (more : List Piece) (p : Params) :
    compile B (.arg ['X'] [.text k :: more] p) = .leaf (.mdc k []) p := by
  rw [compile_mdcName B _ (Or.inl rfl), mdcChunk_one]
  simp [mdcArg, mdcArgText, hB, mdcTextOf]

/-- … now the whole text is the key -/
theorem C09_mdc_whole_key_witness (B : Build) (hB : B.mdcWhole = true) (hE : B.mdcEmptyOk = true) :
    newEncoder asciiClass Profile.debug64 B cs!"{X(a{{b)}" = .ok [.leaf (.mdc cs!"a{b" []) {}] := by
  have hp : parse asciiClass Profile.debug64 cs!"{X(a{{b)}" =
      .ok [.arg ['X'] [[.text ['a'], .text ['{'], .text ['b']]] {}] := by rfl
  simp only [newEncoder, hp, omap, compileL_cons, compileL_nil]
  rw [compile_mdcName B _ (Or.inl rfl), mdcChunk_one, mdcArg_cons B hB]
  rfl

/-- `C09/mdc-empty-argument` (repaired in round 6): an explicitly empty MDC default `{X(k)()}` — and
the empty key `{X()}` — was rejected (`invalid MDC default` / `invalid MDC key`) although the
documented default of the default is the empty string; now it is the empty string. -/
theorem C09_mdc_empty_argument_witness :
    showPats [.mdc false [⟨'k', .plain⟩] (some []) none] = cs!"{X(k)()}" ∧
    newEncoder asciiClass Profile.debug64 { renderOk := fun _ => true, mdcEmptyOk := false } cs!"{X(k)()}" =
      .ok [.error cs!"invalid MDC default"] ∧
    newEncoder asciiClass Profile.debug64 { renderOk := fun _ => true, mdcEmptyOk := false } cs!"{X()}" =
      .ok [.error cs!"invalid MDC key"] ∧
    newEncoder asciiClass Profile.debug64 { renderOk := fun _ => true } cs!"{X(k)()}" = .ok [.leaf (.mdc ['k'] []) {}] ∧
    newEncoder asciiClass Profile.debug64 { renderOk := fun _ => true } cs!"{X()}" = .ok [.leaf (.mdc [] []) {}] := by
  refine ⟨?_, ?_, ?_, ?_, ?_⟩ <;> rfl

/-- the instance of the main statement with an explicitly empty MDC default: false before the repair … -/
def C09_with_empty_mdc_default (B : Build) : Prop :=
  ∀ (env : Env) (r : Record), ∃ o,
    run asciiClass Profile.debug64 B env r (showPats [.mdc false [⟨'k', .plain⟩] (some []) none]) = .ok o ∧
    o.text = denotePats env r [.mdc false [⟨'k', .plain⟩] (some []) none]

theorem C09_with_empty_mdc_default_false_unfixed :
    ¬ C09_with_empty_mdc_default { renderOk := fun _ => true, mdcEmptyOk := false } := by
  intro h
  obtain ⟨o, ho, ht⟩ := h witnessEnv witnessRecord
  have hrun : run asciiClass Profile.debug64 { renderOk := fun _ => true, mdcEmptyOk := false } witnessEnv witnessRecord
      (showPats [.mdc false [⟨'k', .plain⟩] (some []) none]) =
      .ok (ofText (errorMarker cs!"invalid MDC default")) := by rfl
  rw [hrun] at ho
  cases ho
  rw [text_ofText] at ht
  have : denotePats witnessEnv witnessRecord [.mdc false [⟨'k', .plain⟩] (some []) none] = [] := by
    simp [denotePats_cons, denotePats_nil, denotePat_mdc, applySpec, mdcValue, litChars, witnessEnv, mdcGet]
  rw [this] at ht
  exact absurd ht (by decide)

/-- … and true of the current code (an instance of `C09_encode_parse_show`). -/
theorem C09_with_empty_mdc_default_holds (B : Build) (hB : B.mdcWhole = true) (hE : B.mdcEmptyOk = true) :
    C09_with_empty_mdc_default B := by
  intro env r
  have hcc : CCAscii asciiClass := by
    intro c hc; simp [asciiClass, hc]
  exact C09_encode_parse_show asciiClass hcc Profile.debug64 rfl rfl B hB hE env r _ (by decide)
    ⟨by intro f hf; simp [allDatesPats, allDatesPat] at hf, by intro x hx; simp [datesPats, datesPat] at hx⟩

/-! ## examples: the hypotheses are satisfiable on non-trivial inputs (tests) -/

/-- `[{l:>7}] {h({m} \(x\))}{D({({t}{{):*<4.6})}` : alias-free, escapes in both styles, nesting 3 -/
def examplePattern : List Pat :=
  [.lit ⟨'[', .plain⟩, .leaf .level false (some { align := some true, minW := some [7] }), .lit ⟨']', .plain⟩,
   .lit ⟨' ', .plain⟩,
   .group .highlight false [.leaf .message false none, .lit ⟨' ', .plain⟩, .lit ⟨'(', .backslash⟩,
     .lit ⟨'x', .plain⟩, .lit ⟨')', .backslash⟩] none,
   .group .debug false [.group .align false [.leaf .target false none, .lit ⟨'{', .doubled⟩]
     (some { fill := some '*', align := some false, minW := some [4], maxW := some [6] })] none]

example : showPats examplePattern = cs!"[{l:>7}] {h({m} \\(x\\))}{D({({t}{{):*<4.6})}" := by rfl
example : WF Profile.debug64 examplePattern := by decide +kernel
example : WF Profile.debug64 [.mdc true [⟨'k', .plain⟩] (some [⟨'d', .plain⟩]) none,
    .date false (some ([⟨'%', .plain⟩, ⟨'Y', .plain⟩, ⟨')', .backslash⟩], some true)) none] := by decide +kernel
/-- inside WF since the repairs: the alias `thread_id`, escapes in an MDC key / default -/
example : WF Profile.debug64 [.leaf .threadId true none] := by decide +kernel
example : WF Profile.debug64 [.mdc false [⟨'k', .plain⟩, ⟨'{', .doubled⟩, ⟨')', .backslash⟩]
    (some [⟨'\\', .doubled⟩]) none] := by decide +kernel
/-- inside WF since the repair of F6a: `))` inside an argument, also in an MDC key -/
example : WF Profile.debug64 [.group .align false [.lit ⟨')', .doubled⟩, .lit ⟨')', .doubled⟩] none] := by decide +kernel
example : WF Profile.debug64 [.mdc false [⟨'k', .plain⟩, ⟨')', .doubled⟩] none none] := by decide +kernel
/-- outside WF: an unescaped special; m > M -/
example : ¬ WF Profile.debug64 [.lit ⟨')', .plain⟩] := by decide +kernel
/-- inside WF since the repair of `C09/mdc-empty-argument`: an empty MDC key, an explicitly empty default -/
example : WF Profile.debug64 [.mdc false [] none none, .mdc true [⟨'k', .plain⟩] (some []) none] := by decide +kernel
example : ¬ WF Profile.debug64 [.leaf .message false (some { minW := some [9], maxW := some [3] })] := by decide +kernel

end Log4rs.Pattern.Parse
