import Log4rsModel.Routing.LemmasBuild
import Log4rsModel.Routing.LemmasChain
/-
C01 — Routing delivers each record to exactly the appenders of its logger chain.
Only property theorems and non-vacuity examples live here; what they rest on is in Routing/Lemmas*.lean.

* `deliver` (Routing/Tree.lean) is the model of `Logger::new` + `Log::log`: `none` would be a panic
  (`appender_map[..]` at construction or `appenders[idx]` at delivery) — the theorems show `some`.
* `specDeliver` (Routing/Spec.lean) is the statement as a program; the theorems of the first section say what its
  ingredients (`comps`, `admits`, `effective`, `parent`, `chain`) are, without reference to any program.
* hypothesis `Valid cfg` = what `ConfigBuilder::build{,_lossy}` guarantees (C13; composed in Properties/Compose.lean).
-/
namespace Log4rs.Routing.Tree
open Log4rs

/-- Main theorem: for every valid configuration, target and level the appenders called — as a list, in
call order, with multiplicity — are exactly the attachments along the additive chain of the effective
logger when its threshold admits the level, and nothing otherwise. -/
theorem C01_deliver_eq_spec (cfg : Config) (hv : Valid cfg) (t : Name) (lvl : Nat) :
    deliver cfg t lvl = some (specDeliver cfg t lvl) :=
  deliver_eq_spec cfg hv t lvl

/-! ### what the specification's words mean (no reference to the tree) -/

/-- The specification's `effective` really is the configured logger with the longest component-wise
prefix (and `none`, the root, exactly when no configured name is a component prefix). -/
theorem C01_effective_longest (cfg : Config) (t : Name) :
    match effective cfg t with
    | some l => l ∈ cfg.loggers ∧ comps l.name <+: comps t ∧
        ∀ l' ∈ cfg.loggers, comps l'.name <+: comps t → (comps l'.name).length ≤ (comps l.name).length
    | none => ∀ l ∈ cfg.loggers, ¬ comps l.name <+: comps t :=
  effectiveAt_spec cfg.loggers (comps t)

/-- "the" longest-prefix logger: in a valid configuration two configured loggers that are component prefixes
of the same path and have the same number of components are the same logger. -/
theorem C01_effective_unique (cfg : Config) (hv : Valid cfg) (p : List Name) (l l' : LoggerCfg)
    (hl : l ∈ cfg.loggers) (hl' : l' ∈ cfg.loggers) (hp : comps l.name <+: p) (hp' : comps l'.name <+: p)
    (hlen : (comps l.name).length = (comps l'.name).length) : l = l' := by
  obtain ⟨s, hs⟩ := hp
  obtain ⟨s', hs'⟩ := hp'
  exact eq_of_nodup_names hv.2.1 hl hl' (comps_inj (List.append_inj (hs.trans hs'.symm) hlen).1)

/-- The specification's `parent` is the configured logger with the longest *proper* component prefix of the
logger's name (`none`, the root, when there is none). Implied (unconfigured) intermediates are transparent. -/
theorem C01_parent_longest_proper (cfg : Config) (l : LoggerCfg) :
    match parent cfg l with
    | some q => q ∈ cfg.loggers ∧ comps q.name <+: comps l.name ∧ comps q.name ≠ comps l.name ∧
        ∀ q' ∈ cfg.loggers, comps q'.name <+: comps l.name → comps q'.name ≠ comps l.name →
          (comps q'.name).length ≤ (comps q.name).length
    | none => ∀ q ∈ cfg.loggers, comps q.name <+: comps l.name → comps q.name = comps l.name := by
  have h := effectiveAt_spec cfg.loggers (comps l.name).dropLast
  have hpre := fun x => prefix_dropLast_iff x (comps l.name) (comps_ne_nil l.name)
  unfold parent
  cases he : effectiveAt cfg.loggers (comps l.name).dropLast with
  | some q =>
    rw [he] at h
    obtain ⟨h1, h2, h3⟩ := h
    exact ⟨h1, ((hpre _).mp h2).1, ((hpre _).mp h2).2, fun q' hq' hp hn => h3 q' hq' ((hpre _).mpr ⟨hp, hn⟩)⟩
  | none =>
    rw [he] at h
    exact fun q hq hp => Classical.byContradiction fun hn => h q hq ((hpre _).mpr ⟨hp, hn⟩)

/-- `chain` is nothing but the attachments of the visited loggers, concatenated in walk order. -/
theorem C01_chain_is_visited (cfg : Config) (t : Name) :
    chain cfg (comps t).length (effective cfg t) =
      ((visited cfg (comps t).length (effective cfg t)).map (attached cfg)).flatten :=
  chain_is_visited cfg _ _

/-- Shape of the walk for any target: it starts at the effective logger; every step goes from an *additive*
logger to its parent (the chain is unbroken); it ends at the root, or at the first non-additive logger. -/
theorem C01_visited_shape (cfg : Config) (t : Name) :
    let v := visited cfg (comps t).length (effective cfg t)
    v.head? = some (effective cfg t) ∧
    (∀ i a b, v[i]? = some a → v[i + 1]? = some b → ∃ l, a = some l ∧ l.additive = true ∧ b = parent cfg l) ∧
    (v.getLast? = some none ∨ ∃ l, v.getLast? = some (some l) ∧ l.additive = false) :=
  ⟨visited_head cfg _ _, visited_adj cfg _ _, visited_last cfg _ _ fun _ h => effectiveAt_length h⟩

/-- "Each attachment along that chain produces exactly one delivery and no other appender sees the record":
an appender is delivered to as many times as it is attached along the walk — zero for every other appender. -/
theorem C01_deliveries_count (cfg : Config) (hv : Valid cfg) (t : Name) (lvl : Nat) (a : Name) :
    ∃ ds, deliver cfg t lvl = some ds ∧
      ds.count a = if admits (specLevel cfg t) lvl
        then ((visited cfg (comps t).length (effective cfg t)).map fun v => (attached cfg v).count a).sum
        else 0 := by
  refine ⟨_, deliver_eq_spec cfg hv t lvl, ?_⟩
  unfold specDeliver
  split
  · rw [C01_chain_is_visited, List.count_flatten, List.map_map]; rfl
  · simp

/-- The bound in `chain` (the number of components of the target) never cuts a chain: any larger bound gives
the same list. -/
theorem C01_chain_fuel (cfg : Config) (t : Name) (n : Nat) (hn : (comps t).length ≤ n) :
    chain cfg n (effective cfg t) = chain cfg (comps t).length (effective cfg t) :=
  chain_fuel cfg (comps t) n _ hn (Nat.le_refl _)

/-- `comps` — the specification's (and the model's) reading of "'::'-separated" — splits at the *leftmost*
occurrences of `"::"`: joining the components with `"::"` gives the text back, no component contains `"::"`,
and no component before a separator ends in a colon. -/
theorem C01_comps_char (s : Name) :
    joinC (comps s) = s ∧ (∀ c ∈ comps s, NoSep c) ∧ (∀ c ∈ (comps s).dropLast, c.getLast? ≠ some ':') := by
  refine ⟨joinC_comps s, ?_⟩
  induction s using comps_induction with
  | hnone s h =>
    rw [comps_eq, h]
    exact ⟨List.forall_mem_singleton.mpr (findSep_none h), fun c hc => absurd hc List.not_mem_nil⟩
  | hsome s p r h ih =>
    obtain ⟨_, hns, hl⟩ := findSep_some h
    rw [comps_eq, h]
    simp only [List.dropLast_cons_of_ne_nil (comps_ne_nil r), List.forall_mem_cons]
    exact ⟨⟨hns, ih.1⟩, hl, ih.2⟩

/-- … and that determines it: any such decomposition of `s` is `comps s`. -/
theorem C01_comps_unique (s : Name) (cs : List Name) (hne : cs ≠ []) (h : joinC cs = s)
    (h1 : ∀ c ∈ cs, NoSep c) (h2 : ∀ c ∈ cs.dropLast, c.getLast? ≠ some ':') : cs = comps s := by
  subst h
  induction cs with
  | nil => exact absurd rfl hne
  | cons c cs ih =>
    cases cs with
    | nil =>
      rw [joinC, comps_eq]
      cases hfs : findSep c with
      | none => rfl
      | some pr => exact absurd (findSep_some hfs).1 (h1 c (by simp) pr.1 pr.2)
    | cons d ds =>
      rw [List.dropLast_cons_cons] at h2
      rw [joinC, comps_eq, findSep_leftmost c _ (h1 c (by simp)) (h2 c (by simp))]
      simp only [List.cons.injEq, true_and]
      exact ih (by simp) (fun x hx => h1 x (by simp [hx])) (fun x hx => h2 x (by simp [hx]))

/-- `admits` — the specification's (and the model's) reading of "threshold admitting L" — is `L ≤ threshold`
in the numbering Off=0 < Error=1 < Warn=2 < Info=3 < Debug=4 < Trace=5 (all naturals, hence the whole table). -/
theorem C01_admits_iff (threshold lvl : Nat) : admits threshold lvl = true ↔ lvl ≤ threshold := by
  simp [admits]

/-! ### independence of declaration order -/

/-- permuting the logger list and the appender table keeps a configuration valid -/
theorem C01_valid_perm (cfg : Config) (hv : Valid cfg) (ls' : List LoggerCfg) (tbl' : List Name)
    (h1 : cfg.loggers.Perm ls') (h2 : cfg.appenders.Perm tbl') :
    Valid { cfg with loggers := ls', appenders := tbl' } := by
  obtain ⟨v1, v2, v3, v4⟩ := hv
  exact ⟨h2.nodup_iff.mp v1, ((h1.map _).nodup_iff).mp v2,
    fun l hl => ⟨(v3 l (h1.mem_iff.mpr hl)).1, fun a ha => h2.mem_iff.mp ((v3 l (h1.mem_iff.mpr hl)).2 a ha)⟩,
    fun a ha => h2.mem_iff.mp (v4 a ha)⟩

/-- The outcome does not depend on the order in which loggers were declared. -/
theorem C01_perm_loggers (cfg : Config) (hv : Valid cfg) (ls' : List LoggerCfg)
    (hp : cfg.loggers.Perm ls') (t : Name) (lvl : Nat) :
    deliver { cfg with loggers := ls' } t lvl = deliver cfg t lvl := by
  have hv' : Valid { cfg with loggers := ls' } := C01_valid_perm cfg hv ls' cfg.appenders hp (List.Perm.refl _)
  rw [C01_deliver_eq_spec _ hv', C01_deliver_eq_spec _ hv, specDeliver_eq_res, specDeliver_eq_res,
    res_perm _ (by rw [List.map_map]; exact nodup_map_comps hv.2.1) (hp.map entOfCfg)]

/-- … nor on the order of the declared appender table. -/
theorem C01_perm_appenders (cfg : Config) (hv : Valid cfg) (tbl' : List Name)
    (hp : cfg.appenders.Perm tbl') (t : Name) (lvl : Nat) :
    deliver { cfg with appenders := tbl' } t lvl = deliver cfg t lvl := by
  have hv' : Valid { cfg with appenders := tbl' } := C01_valid_perm cfg hv cfg.loggers tbl' (List.Perm.refl _) hp
  -- the specification does not mention the appender table
  rw [C01_deliver_eq_spec _ hv', C01_deliver_eq_spec _ hv, specDeliver_eq_res, specDeliver_eq_res]

/-- Both at once: any reordering of the declared loggers together with any reordering of the appender table. -/
theorem C01_perm_config (cfg : Config) (hv : Valid cfg) (ls' : List LoggerCfg) (tbl' : List Name)
    (h1 : cfg.loggers.Perm ls') (h2 : cfg.appenders.Perm tbl') (t : Name) (lvl : Nat) :
    deliver { cfg with loggers := ls', appenders := tbl' } t lvl = deliver cfg t lvl :=
  have hv1 : Valid { cfg with loggers := ls' } := C01_valid_perm cfg hv ls' cfg.appenders h1 (List.Perm.refl _)
  (C01_perm_appenders { cfg with loggers := ls' } hv1 tbl' h2 t lvl).trans (C01_perm_loggers cfg hv ls' h1 t lvl)

/-- Reordering the attachment list *inside* the root or inside a logger changes the order of the calls but not
which appender is called how often: the deliveries are a permutation of each other. -/
theorem C01_perm_attachments (cfg cfg' : Config) (hv : Valid cfg) (hv' : Valid cfg') (h : AttachPerm cfg cfg')
    (t : Name) (lvl : Nat) :
    ∃ a b, deliver cfg t lvl = some a ∧ deliver cfg' t lvl = some b ∧ a.Perm b := by
  refine ⟨_, _, deliver_eq_spec cfg hv t lvl, deliver_eq_spec cfg' hv' t lvl, ?_⟩
  obtain ⟨_, hl, hr, hls⟩ := h
  have hp := res_attachPerm hls cfg.rootLevel cfg.rootAppenders cfg'.rootAppenders hr (comps t)
  rw [specDeliver_eq_res, specDeliver_eq_res, ← hl, ← hp.1]
  split
  · exact hp.2
  · exact List.Perm.refl _

/-- An appender that returns an error does not starve the others: whatever set of appenders fails, every
attachment along the chain is still called exactly once, in the same order, and exactly the failing ones
are reported to the error handler. -/
theorem C01_failing_appender_isolated (cfg : Config) (hv : Valid cfg) (fails : Name → Bool) (t : Name)
    (lvl : Nat) :
    deliverF cfg fails t lvl = some (specDeliver cfg t lvl, specFailures cfg fails t lvl) := by
  rw [deliverF_eq, deliver_eq_spec cfg hv]
  rfl

/-- The Rust branch "child exists and `rest` is empty" (`child.add("")`) is never taken while building
the tree of a valid configuration. The flag is the one returned by the model's `add` itself (the function that
builds the tree), accumulated over the insertion loop. Model-only: the real code offers no way to observe it. -/
theorem C01_weird_branch_dead (cfg : Config) (hv : Valid cfg) : buildWeird cfg = some false := by
  obtain ⟨_, _, hw, _⟩ := build_spec cfg hv
  exact hw

/-- The fuel that makes `add` structurally recursive is inert, for every tree and every path (valid or not):
more fuel than `add` passes gives the same tree and the same flag, so the fuel-exhausted arm is never the answer. -/
theorem C01_add_fuel_inert (node : Node) (path : Name) (apps : List Nat) (additive : Bool) (level : Nat)
    (f : Nat) (hf : path.length + node.depth + 1 ≤ f) :
    addAux f node path apps additive level = add node path apps additive level :=
  addAux_fuel f _ node path apps additive level hf (Nat.le_refl _)

/-- `Logger::new` does not panic on a valid configuration (the `appender_map[..]` look-ups succeed); that no
`appenders[idx]` index is out of range at delivery is part of `C01_deliver_eq_spec` (`deliver` is `some`). -/
theorem C01_build_total (cfg : Config) (hv : Valid cfg) : (build cfg).isSome = true := by
  obtain ⟨_, hb, _⟩ := build_spec cfg hv
  rw [hb]; rfl

/-! ### non-vacuity: a valid configuration with an implied intermediate (`a::b`), a non-additive cut
(`a`), loggers declared longest first, and a sibling sharing a textual but not a component prefix -/

def exCfg : Config :=
  { appenders := [['x'], ['y'], ['r']]
    rootLevel := 3
    rootAppenders := [['r']]
    loggers := [
      { name := ['a', ':', ':', 'b', ':', ':', 'a'], level := 4, additive := true, appenders := [['x'], ['x']] },
      { name := ['a', ':', ':', 'b', 'b'], level := 5, additive := true, appenders := [] },
      { name := ['a'], level := 1, additive := false, appenders := [['y']] }] }

example : Valid exCfg := by unfold Valid; decide +kernel

/-- test on a sample: own attachments twice, then the non-additive ancestor's, never the root's -/
example : deliver exCfg ['a', ':', ':', 'b', ':', ':', 'a', ':', ':', 'z'] 4 = some [['x'], ['x'], ['y']] := by decide +kernel
/-- test on a sample: the implied node `a::b` copies `a` -/
example : deliver exCfg ['a', ':', ':', 'b', ':', ':', 'c'] 1 = some [['y']] := by decide +kernel
/-- test on a sample: `a::bb` is not below `a::b`; textual prefix `a::b` of `a::bb::q` plays no role -/
example : deliver exCfg ['a', ':', ':', 'b', 'b', ':', ':', 'q'] 5 = some [['y']] := by decide +kernel
/-- test on a sample: the walk of `a::b::a::z` is [a::b::a, a] — the implied `a::b` is transparent, the
non-additive `a` ends it before the root -/
example : (visited exCfg 4 (effective exCfg ['a', ':', ':', 'b', ':', ':', 'a', ':', ':', 'z'])).map
    (fun o => o.map (·.name)) = [some ['a', ':', ':', 'b', ':', ':', 'a'], some ['a']] := by decide +kernel
/-- test on a sample: `x` is attached twice along that walk, `r` never -/
example : (specDeliver exCfg ['a', ':', ':', 'b', ':', ':', 'a', ':', ':', 'z'] 4).count ['x'] = 2 ∧
    (specDeliver exCfg ['a', ':', ':', 'b', ':', ':', 'a', ':', ':', 'z'] 4).count ['r'] = 0 := by decide +kernel
/-- test on a sample: stray colons — `a:::b` splits at the leftmost `::` into `a` and `:b` -/
example : comps ['a', ':', ':', ':', 'b'] = [['a'], [':', 'b']] := by decide +kernel
/-- test on a sample: unrelated target goes to the root, gated by the root's threshold -/
example : deliver exCfg ['a', 'b'] 3 = some [['r']] ∧ deliver exCfg ['a', 'b'] 4 = some [] := by decide +kernel

end Log4rs.Routing.Tree
