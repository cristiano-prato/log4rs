import Log4rsModel.Pattern.TreeLemmas
import Log4rsModel.Pattern.WritersErrLemmas
import Log4rsModel.Pattern.WidthSpecLemmas
/-
C10 — Width/fill/alignment count characters, truncate then pad, never split UTF-8.

Only the property theorems and non-vacuity examples live here (the bridge to the C09/C11 chunk
table is `Properties/C10Bridge.lean`). Definitions:
* `Base/Bytes.lean` — UTF-8 (`utf8Char` = Lean core's encoder, `C10_utf8_is_core`), lead bytes;
* `Pattern/Format.lean` — `specFmt` = the statement's law, `codeFmtOps` = what the writer stack does
  to an operation stream;
* `Pattern/Writers.lean` — error-free byte-level model of `MaxWidthWriter`, `LeftAlignWriter`,
  `RightAlignWriter`, `write_all`, `Chunk::encode`; pattern trees `Node` (incl. `{D(..)}`/`{R(..)}`);
* `Pattern/WritersErr.lean` — the same code with every failure path (sink `Err` / `Interrupted`,
  failing `set_style`, `?` skipping `finish`, std's panic on a failing `Display`);
* `Pattern/WidthSpec.lean` — `specOrCode` (hypothesis-free tree law) and `matchNodes` (the driver's
  executable Spec: what the statement alone allows).
Helper lemmas: `Pattern/{Text,WriteAll,Piece,Tree}Lemmas.lean`, `WritersErrLemmas.lean`, `WidthSpecLemmas.lean`.

Hypotheses that are ASSUMED, not discharged (also listed in props.d/C10.json):
* what a formatter hands to a writer is a sequence of whole `str`s (`Piece.data (cs : List Char)`,
  written as `utf8 cs`) — Rust's `fmt::Write::write_str` / `write_all(s.as_bytes())` cannot split
  inside a character; by code reading of every `FormattedChunk` variant. `C10_split_inside_char_leaks`
  shows the hypothesis is needed. Short writes of the DOWNSTREAM are arbitrary (every theorem
  quantifies over the sink's acceptance oracle, and `C10_maxW_write_all` over arbitrary buffers).
* the error-free theorems (`orc : List Nat`) range over sinks that never fail — by construction of
  `accept`; failing sinks are the `C10_err_*` theorems (`orc : List Acc`, any schedule).
-/
namespace Log4rs.Pattern
open Log4rs

/-- The `for` loop of `MaxWidthWriter::write` on whole characters with budget `r` stops exactly
after the first `r` characters and leaves `r ∸ |cs|`. -/
theorem C10_scan_utf8 (r : Nat) (cs : List Char) :
    (utf8 cs).take (scanEnd r (utf8 cs)).1 = utf8 (cs.take r) ∧
    (scanEnd r (utf8 cs)).2 = r - cs.length := by
  rw [scanEnd_eq]
  refine ⟨?_, ?_⟩
  · rw [cut_prefix, cut_utf8]
  · show r - leads (cut r (utf8 cs)) = r - cs.length
    rw [cut_utf8, leads_utf8, List.length_take]
    rcases Nat.le_total r cs.length with h | h
    · rw [Nat.min_eq_left h, Nat.sub_self, Nat.sub_eq_zero_of_le h]
    · rw [Nat.min_eq_right h]

/-- `self.remaining -= char_starts(&buf[..len])` never underflows (the other two subtractions are
guarded / saturating), so the truncated subtraction of the model is the code's subtraction. -/
theorem C10_no_underflow (r : Nat) (b : Bytes) (n : Nat) :
    leads ((b.take (scanEnd r b).1).take n) ≤ r := by
  rw [scanEnd_eq, cut_prefix]
  exact Nat.le_trans (Nat.le.intro (leads_take_add_drop _ n)) (leads_cut_le r b)

/-- every layer reports progress on a non-empty buffer, so std's `write_all` never sees `Ok(0)`.
For the bottom writer this holds BY CONSTRUCTION of the error-free sink (`accept` answers 1..len);
it is the layers above it the theorem is about. Failing answers are the subject of the
`C10_err_*` theorems (model `WritersErr.lean`). -/
theorem C10_write_progress (w : W) (b : Bytes) (hb : b ≠ []) :
    1 ≤ (w.write b).2 ∧ (w.write b).2 ≤ b.length := write_progress w b hb

/-- One `write_all` through a `MaxWidthWriter` over ANY writer below (any stack, any short
writes), for ANY byte buffer: exactly the cut goes down, as one `write_all`. -/
theorem C10_maxW_write_all (b : Bytes) (r : Nat) (w : W) :
    (W.maxW r w).writeAll b = W.maxW (r - leads b) (w.writeAll (b.take (scanEnd r b).1)) := by
  rw [scanEnd_eq]; simp only [cut_prefix]; exact writeAll_maxW b r w

/-- For every split of a text into whole-`str` pieces and every acceptance oracle, the bytes a
`MaxWidthWriter` lets through are the encoding of the first `M` characters of the whole text. -/
theorem C10_maxW_stream (M : Nat) (pieces : List (List Char)) (orc : List Nat) :
    ((W.maxW M (W.sink orc [])).feed (pieces.map Piece.data)).emitted =
      (utf8 (pieces.flatten.take M)).map BEv.byte := by
  have hops : opsOf (pieces.map Piece.data) = ofText pieces.flatten := by
    induction pieces with
    | nil => rfl
    | cons x xs ih => rw [List.map_cons, opsOf_cons_data, ih, List.flatten_cons, ofText_append]
  have htr : truncOps M (ofText pieces.flatten) = ofText (pieces.flatten.take M) := by
    have := truncOps_ofText_append M pieces.flatten []
    simpa [truncOps] using this
  rw [feed_maxW]
  obtain ⟨orc', h⟩ := feed_sink (truncPieces M (pieces.map Piece.data)) orc []
  simp only [W.emitted]
  rw [h, opsOf_truncPieces, hops, htr, render_ofText]; rfl

/-- Without the whole-`str` hypothesis the writer does leak: with `M = 0`, the two bytes of `é`
handed over in two separate `write_all` calls put the lone continuation byte `0xA9` on the wire.
(Unreachable from Rust's `fmt::Write`; recorded so that the hypothesis is not mistaken for slack.) -/
theorem C10_split_inside_char_leaks :
    bytesOf (((W.maxW 0 (W.sink [] [])).writeAll [0xC3]).writeAll [0xA9]).emitted = [0xA9] := by
  decide +kernel

/-- The byte-level six-way composition over ANY writer `w` (so also inside other width specs),
fed the inner chunk's operations piecewise, hands `w` a sequence of whole-`str` pieces and style
calls whose operation stream is exactly `codeFmtOps p ops`. -/
theorem C10_writers_refine_any_writer (p : Params) (ps : List Piece) (w : W) :
    chunkEncode p (fun w' => w'.feed ps) w = w.feed (fmtPieces p ps) ∧
    opsOf (fmtPieces p ps) = codeFmtOps p (opsOf ps) :=
  ⟨chunkEncode_feed p ps _ (fun _ => rfl) w, opsOf_fmtPieces p ps⟩

/-- … and at the bottom: for all m, M, fill, alignment, piece splits and acceptance oracles the
sink receives exactly the rendering (UTF-8 of the characters, style calls in place) of
`codeFmtOps p ops`. -/
theorem C10_writers_refine_codeFmtOps (p : Params) (ps : List Piece) (orc : List Nat)
    (out : List BEv) :
    (chunkEncode p (fun w => w.feed ps) (W.sink orc out)).emitted =
      out ++ render (codeFmtOps p (opsOf ps)) := by
  rw [(C10_writers_refine_any_writer p ps _).1]
  obtain ⟨orc', h⟩ := feed_sink (fmtPieces p ps) orc out
  rw [h, opsOf_fmtPieces]; rfl

/-- The same through every nesting of width specs: a whole pattern forest, encoded by the
byte-level model into a sink with any oracle, emits the rendering of its `codeFmtOps` denotation. -/
theorem C10_writers_refine_tree (forest : List Node) (orc : List Nat) (out : List BEv) :
    (encodeNodes forest (W.sink orc out)).emitted = out ++ render (denotes forest) :=
  emitted_encodeNodes forest orc out

/-- The law of the statement: with `m ≤ M` (when both are given) the text of `codeFmtOps` is the
formatter's text cut to its first `M` characters and then padded to `m` on the chosen side. -/
theorem C10_code_eq_spec (p : Params) (o : Out)
    (h : ∀ m M, p.minW = some m → p.maxW = some M → m ≤ M) :
    (codeFmtOps p o).text = specFmt p o.text := by
  apply codeFmtOps_text_eq_spec
  unfold Params.ordered
  cases hm : p.minW <;> cases hM : p.maxW <;> simp
  exact h _ _ hm hM

/-- In every case — no hypothesis relating m and M — at most `M` characters are emitted. -/
theorem C10_at_most_M (p : Params) (o : Out) (M : Nat) (hM : p.maxW = some M) :
    (codeFmtOps p o).text.length ≤ M := codeFmtOps_text_length_le p o M hM

/-- Style calls are never dropped, duplicated or reordered by a width spec. -/
theorem C10_styles_preserved (p : Params) (o : Out) : (codeFmtOps p o).styles = o.styles :=
  styles_codeFmtOps p o

/-- What the code does for ALL m, M (so also outside the statement, m > M): it pads the UNCUT text
to m and then keeps the first M characters. For left alignment that clamps the minimum width to
M; for right alignment the fill characters come first and push the text out of the window. -/
theorem C10_m_gt_M_behaviour (p : Params) (o : Out) (m M : Nat)
    (hm : p.minW = some m) (hM : p.maxW = some M) :
    (codeFmtOps p o).text = (specFmt { p with maxW := none } o.text).take M ∧
    (M < m → p.right = false → (codeFmtOps p o).text = specFmt { p with minW := some M } o.text) ∧
    (M < m → p.right = true →
      (codeFmtOps p o).text = (fills p.fill (m - o.text.length) ++ o.text).take M) := by
  have h1 := codeFmtOps_text p o
  rw [hM] at h1
  refine ⟨h1, ?_, ?_⟩
  · intro hlt hr
    rw [h1]
    unfold specFmt
    simp only [hm, hM]
    rw [hr]
    exact take_padTo_left_clamp p.fill o.text (Nat.le_of_lt hlt)
  · intro _ hr
    rw [h1]
    simp only [specFmt, hm, hr, if_true]

/-- … and that is NOT the statement's law when m > M: `{m:>5.3}` on "ab" gives three blanks (the
text is gone), where cut-then-pad would give "   ab" (which has more than M characters — the two
halves of the statement cannot both hold there, hence its side condition). TEST on one witness. -/
theorem C10_m_gt_M_witness :
    let p : Params := { right := true, minW := some 5, maxW := some 3 }
    (codeFmtOps p (ofText ['a', 'b'])).text = [' ', ' ', ' '] ∧
    specFmt p ['a', 'b'] = [' ', ' ', ' ', 'a', 'b'] := by
  decide +kernel

/-- The emitted bytes are always the UTF-8 encoding of a character sequence — a multi-byte
character is never split — for every pattern forest (all nestings, all m, M, fills, alignments),
all pieces and all acceptance oracles. -/
theorem C10_valid_utf8 (forest : List Node) (orc : List Nat) :
    ∃ cs : List Char, bytesOf (encodeNodes forest (W.sink orc [])).emitted = utf8 cs :=
  ⟨(denotes forest).text, bytesOf_encodeNodes forest orc⟩

/-- The law composes through nested groups: when every spec in the forest has `m ≤ M`, the text of
a group is `specFmt` of the concatenation of its children's formatted texts, at every depth. -/
theorem C10_nested (forest : List Node) (h : Node.orderedAll forest = true) :
    (denotes forest).text = specTexts forest := denotes_text_eq_spec forest h

/-- End to end: bytes on the wire = UTF-8 of the statement's law applied through the tree. -/
theorem C10_bytes_eq_spec (forest : List Node) (orc : List Nat)
    (h : Node.orderedAll forest = true) :
    bytesOf (encodeNodes forest (W.sink orc [])).emitted = utf8 (specTexts forest) := by
  rw [bytesOf_encodeNodes, C10_nested forest h]

/-- However the same operations are split into pieces and whatever the downstream accepts per
call, the bytes and style calls on the wire are the same. -/
theorem C10_split_and_oracle_independent (p : Params) (ps ps' : List Piece) (orc orc' : List Nat)
    (h : opsOf ps = opsOf ps') :
    (chunkEncode p (fun w => w.feed ps) (W.sink orc [])).emitted =
      (chunkEncode p (fun w => w.feed ps') (W.sink orc' [])).emitted := by
  rw [C10_writers_refine_codeFmtOps, C10_writers_refine_codeFmtOps, h]

/-- The decoder the driver uses for the `String::from_utf8` clause of the verdict accepts exactly
the encodings: `decodeUtf8 b = some cs ↔ b = utf8 cs`. -/
theorem C10_decoder_exact (b : Bytes) (cs : List Char) : decodeUtf8 b = some cs ↔ b = utf8 cs :=
  ⟨decodeUtf8_sound b cs, fun h => h ▸ decodeUtf8_complete cs⟩

/-- `utf8` is injective: the emitted bytes determine the emitted characters. -/
theorem C10_utf8_injective (a b : List Char) (h : utf8 a = utf8 b) : a = b := by
  have h1 := decodeUtf8_complete a
  rw [h, decodeUtf8_complete b] at h1
  exact (Option.some.inj h1).symm

/-- An ACTIVE profile-dependent group (`{D(..)}` with `cfg!(debug_assertions)`, `{R(..)}` without)
is the unnamed group: same bytes through any writer, same operation stream, same law. -/
theorem C10_active_group_eq_group (p : Params) (cs : List Node) (w : W) :
    encodeNode (.gated true p cs) w = encodeNode (.fmt p cs) w ∧
    denote (.gated true p cs) = denote (.fmt p cs) ∧
    specText (.gated true p cs) = specText (.fmt p cs) := by
  refine ⟨?_, ?_, ?_⟩
  · rw [encodeNode, encodeNode]
  · rw [denote, denote]
  · rw [specText, specText]

/-- An INACTIVE profile-dependent group runs none of its children, yet it is still a
`Chunk::Formatted`: at byte level, through ANY writer (so at every nesting position), it hands on
exactly the pieces of `codeFmtOps p []` — its width spec applied to the empty text. -/
theorem C10_inactive_group_refines (p : Params) (cs : List Node) (w : W) :
    encodeNode (.gated false p cs) w = w.feed (fmtPieces p []) ∧
    opsOf (fmtPieces p []) = codeFmtOps p [] ∧
    denote (.gated false p cs) = codeFmtOps p [] := by
  refine ⟨encodeNode_feed (.gated false p cs) w, opsOf_fmtPieces p [], ?_⟩
  rw [denote]

/-- … so the bytes of an inactive group are the statement's law on the empty text: with a minimum
width m (and no smaller maximum) exactly m fill characters, whatever the children are. -/
theorem C10_inactive_group_padded (p : Params) (cs : List Node) (orc : List Nat)
    (h : p.ordered = true) :
    bytesOf (encodeNodes [Node.gated false p cs] (W.sink orc [])).emitted = utf8 (specFmt p []) ∧
    (∀ m, p.minW = some m → specFmt p [] = fills p.fill m) := by
  refine ⟨?_, ?_⟩
  · have ho : Node.orderedAll [Node.gated false p cs] = true := by
      simp [Node.orderedAll, Node.ordered, h]
    rw [C10_bytes_eq_spec _ orc ho]
    simp [specTexts, specText]
  · intro m hm
    unfold specFmt
    cases hM : p.maxW <;> cases hr : p.right <;> simp [hm, fills]

/-- The law for ONE node, whatever its children are (their specs may be outside the statement):
if this node's own spec has m ≤ M, its text is `specFmt` of its children's text. -/
theorem C10_node_law (p : Params) (cs : List Node) (h : p.ordered = true) :
    (denote (.fmt p cs)).text = specFmt p (denotes cs).text := by
  rw [denote]; exact codeFmtOps_text_eq_spec p _ h

/-- Hypothesis-free: for EVERY forest (any mix of specs inside and outside the statement) and every
oracle the bytes are the UTF-8 of `specOrCodes forest` — at each node the statement's law when its
spec has m ≤ M, the code's documented pad-then-cut otherwise. One m > M node does not void the law
for its siblings or ancestors. -/
theorem C10_bytes_eq_specOrCode (forest : List Node) (orc : List Nat) :
    bytesOf (encodeNodes forest (W.sink orc [])).emitted = utf8 (specOrCodes forest) := by
  rw [bytesOf_encodeNodes, denotes_text_specOrCode]

/-- `specOrCode` is the statement's law wherever the statement applies. -/
theorem C10_specOrCode_eq_spec (forest : List Node) (h : Node.orderedAll forest = true) :
    specOrCodes forest = specTexts forest := by
  rw [← denotes_text_specOrCode, C10_nested forest h]

/-- "In every case at most M characters", at byte level and at any top-level position: the bytes
of a forest are the bytes of what precedes, then the encoding of at most M characters for the
node with maximum width M, then the bytes of what follows — no hypothesis on m, on the children
or on the neighbours. -/
theorem C10_at_most_M_bytes (pre post : List Node) (p : Params) (cs : List Node) (orc : List Nat)
    (M : Nat) (hM : p.maxW = some M) :
    ∃ t : List Char, t.length ≤ M ∧
      bytesOf (encodeNodes (pre ++ [Node.fmt p cs] ++ post) (W.sink orc [])).emitted =
        utf8 (denotes pre).text ++ utf8 t ++ utf8 (denotes post).text := by
  refine ⟨(denote (.fmt p cs)).text, ?_, ?_⟩
  · rw [denote]; exact C10_at_most_M p _ M hM
  · rw [bytesOf_encodeNodes, denotes_append, denotes_append,
      denotes_singleton, text_append, text_append, utf8_append, utf8_append]

/-- The executable Spec of the driver (`matchNodes`: what the STATEMENT alone allows — exact
`specText` for subtrees inside the statement, transparent plain groups, a length window ≤ M / ≥ m
for anything containing an m > M spec) accepts the model's output for every forest: the verdict
cannot raise a false alarm on behaviour the model has. -/
theorem C10_spec_accepts_model (forest : List Node) :
    matchNodes forest (denotes forest).text = true := matchNodes_denotes forest

/-- `MaxWidthWriter` on piece streams over ANY writer and with any earlier output (the general form
of `C10_maxW_stream`). -/
theorem C10_maxW_feed_any_writer (ps : List Piece) (r : Nat) (w : W) :
    (W.maxW r w).feed ps = W.maxW (r - chars ps) (w.feed (truncPieces r ps)) ∧
    opsOf (truncPieces r ps) = truncOps r (opsOf ps) :=
  ⟨feed_maxW ps r w, opsOf_truncPieces r ps⟩

/-- "Valid UTF-8" does not rest on a hand-written encoder: `utf8Char` is Lean core's
`String.utf8EncodeChar` for every scalar value, and `utf8 cs` is the byte content of the Lean
string with the characters `cs`. -/
theorem C10_utf8_is_core (c : Char) (cs : List Char) :
    (String.utf8EncodeChar c).map UInt8.toNat = utf8Char c ∧
    (String.ofList cs).toUTF8.data.toList.map UInt8.toNat = utf8 cs :=
  ⟨utf8Char_core c, utf8_core cs⟩

/-! ### failing runs: the bottom writer returns `Err`, `set_style` fails, a `Display` fails

`WritersErr.lean` models every error path of the writer stack (`Err(e) => Err(e)`, `?` skipping
`finish`, `Interrupted` retried by `write_all`, std's panic on a failing `Display`). The theorems
below quantify over ALL failure schedules: any script of accept / fail / interrupt answers, any
`set_style` budget, any position of a failing `Display` piece. -/

/-- Whatever fails and whenever: if the encode goes through, the bottom writer holds exactly the
rendering of the forest (failed-`Display` markers that were never reached are irrelevant); if it
stops — I/O error or panic —, what the bottom writer holds is a PREFIX of that rendering. Nothing
out of order, nothing extra (no padding for text that was lost, no partial right-aligned text). -/
theorem C10_err_prefix (forest : List NodeE) (orc : List Acc) (sb : Option Nat) :
    match encodeNodesE forest (WE.sink orc sb []) with
    | .ok w' => w'.emitted = render (denotes (NodeE.eraseAll forest))
    | .stop _ o => o <+: render (denotes (NodeE.eraseAll forest)) := by
  have h := encodeNodes_ref forest (WE.sink orc sb [])
  have hI := emitted_encodeNodes (NodeE.eraseAll forest) (takes orc) []
  rw [List.nil_append] at hI
  generalize encodeNodesE forest (WE.sink orc sb []) = res at h
  cases res with
  | ok w' =>
    simp only [Ref, WE.erase] at h ⊢
    rw [← emitted_erase, h, hI]
  | stop y o =>
    simp only [Ref, WE.erase] at h ⊢
    rw [← hI]; exact h.2

/-- On a failing run the bytes are a prefix of the UTF-8 of the forest's text — of the statement's
law `specTexts` when every spec has m ≤ M —; they consist of complete characters of that text plus
at most one incomplete last character (a byte sink may fail in the middle of a character: that is
the downstream's cut, never the encoder's); and the number of characters started is at most M for
a root with maximum width M. -/
theorem C10_err_bytes (forest : List NodeE) (orc : List Acc) (sb : Option Nat) (y : Stop)
    (o : List BEv) (hstop : encodeNodesE forest (WE.sink orc sb []) = .stop y o) :
    bytesOf o <+: utf8 (specOrCodes (NodeE.eraseAll forest)) ∧
    (Node.orderedAll (NodeE.eraseAll forest) = true →
      bytesOf o <+: utf8 (specTexts (NodeE.eraseAll forest))) ∧
    (∃ k tail, bytesOf o = utf8 ((specOrCodes (NodeE.eraseAll forest)).take k) ++ tail ∧
      (tail = [] ∨ ∃ c, (specOrCodes (NodeE.eraseAll forest))[k]? = some c ∧
        tail <+: utf8Char c ∧ tail.length < (utf8Char c).length)) ∧
    (∀ p cs M, NodeE.eraseAll forest = [Node.fmt p cs] → p.maxW = some M → leads (bytesOf o) ≤ M) := by
  have h := C10_err_prefix forest orc sb
  rw [hstop] at h
  simp only at h
  have hb : bytesOf o <+: utf8 (specOrCodes (NodeE.eraseAll forest)) := by
    have := bytesOf_prefix h
    rwa [bytesOf_render, denotes_text_specOrCode] at this
  refine ⟨hb, ?_, prefix_utf8_decomp _ _ hb, ?_⟩
  · intro ho; rw [← C10_specOrCode_eq_spec _ ho]; exact hb
  · intro p cs M hf hM
    have h1 := leads_prefix_le hb
    rw [leads_utf8, ← denotes_text_specOrCode, hf, denotes_singleton, denote] at h1
    exact Nat.le_trans h1 (C10_at_most_M p _ M hM)

/-- The error-aware model extends the error-free one: whenever an error-aware encode goes through
(`Interrupted` answers included), its final state is, up to the unused failure schedule, the final
state of the error-free model on the same accept answers. -/
theorem C10_err_model_extends (forest : List NodeE) (orc : List Acc) (sb : Option Nat)
    (out : List BEv) (w' : WE) (h : encodeNodesE forest (WE.sink orc sb out) = .ok w') :
    w'.erase = encodeNodes (NodeE.eraseAll forest) (W.sink (takes orc) out) := by
  have := encodeNodes_ref forest (WE.sink orc sb out)
  rw [h] at this
  exact this

/-- The error-aware model is not vacuous: when no failing answer is scripted (interruptions are
allowed), `set_style` never fails and no `Display` fails, the encode goes through and the bottom
writer holds the complete rendering. -/
theorem C10_err_free_run_goes_through (forest : List Node) (orc : List Acc)
    (h : orc.contains Acc.fail = false) :
    ∃ w', encodeNodesE (Node.liftAll forest) (WE.sink orc none []) = .ok w' ∧
      w'.emitted = render (denotes forest) := by
  have hc : (WE.sink orc none []).clean = true := by
    simp only [WE.clean, h]; rfl
  have hok := encodeNodes_clean forest _ hc
  have hp := C10_err_prefix (Node.liftAll forest) orc none
  generalize encodeNodesE (Node.liftAll forest) (WE.sink orc none []) = res at hok hp
  cases res with
  | ok w' =>
    refine ⟨w', rfl, ?_⟩
    simp only at hp
    rw [hp, eraseAll_liftAll]
  | stop y o => exact hok.elim

/-! ### non-vacuity (TESTS on concrete inputs, by evaluation) -/

/-- a 3-byte character sits exactly at the width boundary and is dropped whole; the sink accepts
one byte per call; the text arrives in two pieces; m ≤ M holds -/
example :
    let p : Params := { fill := '~', right := false, minW := some 3, maxW := some 3 }
    p.ordered = true ∧
    bytesOf (chunkEncode p (fun w => w.feed [.data ['a', 'é'], .data ['b', '中', 'c']])
      (W.sink [1, 1, 1, 1, 1, 1, 1, 1] [])).emitted = [0x61, 0xC3, 0xA9, 0x62] := by
  decide +kernel

/-- right alignment with a 4-byte fill, padding shorter text, nested in a truncating group with a
style call buffered in between -/
example :
    let inner : Node := .fmt { fill := '😀', right := true, minW := some 3, maxW := some 4 }
      [.leaf [.style {}, .data ['中']]]
    let outer : Node := .fmt { maxW := some 2 } [inner, .leaf [.data ['x']]]
    Node.orderedAll [outer] = true ∧
    specTexts [outer] = ['😀', '😀'] ∧
    bytesOf (encodeNodes [outer] (W.sink [2, 3, 1] [])).emitted =
      [0xF0, 0x9F, 0x98, 0x80, 0xF0, 0x9F, 0x98, 0x80] := by
  decide +kernel

/-- `[{R({l} {m}):<6}]` in a build with debug assertions (release group inactive): six blanks
between the brackets; and the same pattern with `{D(..)}` pads the level and message to six -/
example :
    let body : List Node := [.leaf [.data ['I', 'N', 'F', 'O']], .leaf [.data [' ']], .leaf [.data ['x']]]
    let spec : Params := { minW := some 6 }
    let br (n : Node) : List Node := [.leaf [.data ['[']], n, .leaf [.data [']']]]
    bytesOf (encodeNodes (br (Node.releaseGroup true spec body)) (W.sink [1, 2] [])).emitted =
      utf8 ['[', ' ', ' ', ' ', ' ', ' ', ' ', ']'] ∧
    bytesOf (encodeNodes (br (Node.debugGroup true spec body)) (W.sink [1, 2] [])).emitted =
      utf8 ['[', 'I', 'N', 'F', 'O', ' ', 'x', ']'] ∧
    Node.orderedAll (br (Node.releaseGroup true spec body)) = true := by
  decide +kernel

/-- failing runs, evaluated: `{m:~>6}` on "ab" + failing `Display` panics with NOTHING written (the
buffered text is dropped); `{m:~<6}` on "abc" with the sink failing at its third call leaves "ab"
and no padding; an `Interrupted` answer is retried and changes nothing -/
example :
    let r : Params := { fill := '~', right := true, minW := some 6 }
    let l : Params := { fill := '~', right := false, minW := some 6 }
    let ob (x : Res) : Option Stop × Bytes := (x.observe.1, bytesOf x.observe.2)
    ob (encodeNodesE [.fmt r [.leaf [some (.data ['a', 'b']), none]]] (WE.sink [] none [])) =
      (some Stop.fmtPanic, []) ∧
    ob (encodeNodesE [.fmt l [.leaf [some (.data ['a', 'b', 'c'])]]]
        (WE.sink [.take 1, .intr, .take 1, .fail] none [])) = (some Stop.ioErr, [0x61, 0x62]) ∧
    ob (encodeNodesE [.fmt l [.leaf [some (.data ['a'])]]] (WE.sink [.intr, .intr] none [])) =
      (none, [0x61, 0x7E, 0x7E, 0x7E, 0x7E, 0x7E]) := by
  decide +kernel

end Log4rs.Pattern
