import Log4rsModel.EnvExpand.LemmasFixed
/-
C19: the call-site model (EnvExpand/CallSites.lean: code-shaped, with the argument, the expanded
local, the stored field and the descriptor as separate variables) refines the specification
"everything happens at `specExpand given`" (EnvExpand/Spec.lean), on every file system and for
every outcome (errors included).
-/
namespace Log4rs.EnvExpand
open Log4rs Log4rs.Str

variable {alnum : Char → Bool} {env : Env} {cwd : Comps} {pre : Bool} {roller : RollerFn}

theorem bindO_ok {ε α β : Type} (a : α) (f : α → Outcome ε β) : bindO (.ok a) f = f a := rfl

theorem bindO_assoc {ε α β γ : Type} (x : Outcome ε α) (f : α → Outcome ε β) (g : β → Outcome ε γ) :
    bindO (bindO x f) g = bindO x (fun a => bindO (f a) g) := by
  cases x <;> rfl

theorem bindO_congr {ε α β : Type} (x : Outcome ε α) (f g : α → Outcome ε β) (h : ∀ a, f a = g a) :
    bindO x f = bindO x g := by
  cases x <;> simp [bindO, h]

/-! ### the index -/

/-- the specification's own index substitution is the code's `pattern.replace("{}", …)` -/
theorem fillIndex_eq_slotText (t : Text) (i : Nat) : fillIndex (decimal i) t = slotText t i := by
  show _ = replaceAllGo ['{', '}'] (decimal i) 0 t
  induction t using fillIndex.induct with
  | case1 rest ih => rw [fillIndex, ih]; exact (replaceAllGo_match ['{', '}'] _ rest (List.cons_ne_nil _ _)).symm
  | case2 c rest hne ih =>
    have hp : isPrefix ['{', '}'] (c :: rest) = false := by
      cases hp : isPrefix ['{', '}'] (c :: rest) with
      | false => rfl
      | true =>
        obtain ⟨r, hr⟩ := (isPrefix_iff _ _).1 hp
        cases hr
        exact (hne r rfl rfl).elim
    rw [replaceAllGo_nomatch _ _ _ _ hp, ← ih, fillIndex]
    exact hne
  | case3 => rfl

/-! ### plumbing -/

theorem toStringLossy_utf8 (t : Text) : toStringLossy (utf8 t) = t := by
  simp [toStringLossy, decodeUtf8_complete]

theorem expandAt_eq (t : Text) :
    expandAt alnum env t = .ok (specExpand alnum env t) := by
  simp [expandAt, expand_eq_spec]

theorem slotName_eq (pattern : Text) (i : Nat) :
    slotName alnum env pattern i = .ok (specSlot alnum env pattern i) := by
  simp [slotName, expandAt_eq, specSlot, fillIndex_eq_slotText]

/-! ### file appender (the argument is converted with `to_string_lossy`, then expanded) -/

theorem fileBuildFs_lossy (given : Bytes) (fs : Fs) :
    fileBuildFs alnum env cwd given fs =
      bindO (specFileBuild cwd (specExpand alnum env (toStringLossy given)) fs) fun (fd, fs') =>
        .ok ({ path := specExpand alnum env (toStringLossy given), file := fd }, fs') := by
  simp only [fileBuildFs, expandAt_eq, bindO_ok, specFileBuild, bindO_assoc]

/-! ### rolling appender -/

theorem getWriter_eq (st : RollingSt) (fs : Fs) :
    getWriter cwd st fs =
      bindO (specWriter cwd st.path st.writer fs) fun (fd, len, fs') =>
        .ok ({ path := st.path, writer := some (fd, len) }, fd, len, fs') := by
  obtain ⟨path, writer⟩ := st
  cases writer with
  | some w => obtain ⟨fd, len⟩ := w; rfl
  | none =>
    simp only [getWriter, specWriter, bindO_assoc]
    apply bindO_congr
    intro a; rfl

theorem processPolicy_eq (roller : RollerFn) (st : RollingSt) (len : Nat) (op : AppendOp) (fs : Fs) :
    processPolicy roller st len op fs =
      bindO (specProcess roller st.path st.writer len op fs) fun (w, fs') =>
        .ok ({ path := st.path, writer := w }, fs') := by
  simp only [processPolicy, specProcess]
  split
  · simp only [bindO_assoc]; apply bindO_congr; intro a; rfl
  · rfl

theorem rollingAppendFs_eq (st : RollingSt) (op : AppendOp) (fs : Fs) :
    rollingAppendFs cwd pre roller st op fs =
      bindO (specRollingAppend cwd pre roller st.path st.writer op fs) fun (w, fs') =>
        .ok ({ path := st.path, writer := w }, fs') := by
  simp only [rollingAppendFs, specRollingAppend, getWriter_eq, bindO_assoc, bindO_ok]
  apply bindO_congr
  intro a
  obtain ⟨fd, len, fs1⟩ := a
  cases pre with
  | true =>
    simp only [if_true, processPolicy_eq, bindO_assoc, bindO_ok]
  | false =>
    simp only [Bool.false_eq_true, if_false, processPolicy_eq]

theorem rollingHistoryFs_eq :
    ∀ (ops : List AppendOp) (st : RollingSt) (fs : Fs),
      rollingHistoryFs cwd pre roller st ops fs =
        bindO (specRollingHistory cwd pre roller st.path st.writer ops fs) fun (w, fs') =>
          .ok ({ path := st.path, writer := w }, fs') := by
  intro ops
  induction ops with
  | nil => intro st fs; obtain ⟨p, w⟩ := st; rfl
  | cons op ops ih =>
    intro st fs
    simp only [rollingHistoryFs, specRollingHistory, rollingAppendFs_eq, bindO_assoc, bindO_ok]
    apply bindO_congr
    intro a
    obtain ⟨w, fs'⟩ := a
    exact ih _ _

theorem rollingBuildFs_lossy (given : Bytes) (fs : Fs) :
    rollingBuildFs alnum env cwd given fs =
      bindO (specRollingBuild cwd (specExpand alnum env (toStringLossy given)) fs) fun (w, fs') =>
        .ok ({ path := specExpand alnum env (toStringLossy given), writer := w }, fs') := by
  simp only [rollingBuildFs, expandAt_eq, bindO_ok, specRollingBuild, getWriter_eq, bindO_assoc]

/-! ### fixed-window roller -/

theorem shiftLoop_eq (pattern : Text) (parent0 : Option RPath) :
    ∀ (todo : List Nat) (fs : Fs),
      shiftLoop alnum env cwd pattern parent0 todo fs =
        specShift cwd (specSlot alnum env pattern) parent0 todo fs := by
  intro todo
  induction todo with
  | nil => intro fs; rfl
  | cons i rest ih =>
    intro fs
    simp only [shiftLoop, specShift, slotName_eq, bindO_ok]
    apply bindO_congr
    intro fs1
    apply bindO_congr
    intro fs2
    exact ih fs2

/-! ### the Unicode view of the environment block and `getenv` -/

theorem unicodeView_cons (e : Bytes × Bytes) (os : OsEnv) :
    unicodeView (e :: os) =
      match decodeUtf8 e.1, decodeUtf8 e.2 with
      | some n, some v => (n, v) :: unicodeView os
      | _, _ => unicodeView os := by
  rw [unicodeView, List.filterMap_cons]
  cases decodeUtf8 e.1 with
  | none => rfl
  | some n => cases decodeUtf8 e.2 <;> rfl

theorem unicodeView_append (a b : OsEnv) : unicodeView (a ++ b) = unicodeView a ++ unicodeView b :=
  List.filterMap_append

/-- another variable, or one that is not valid Unicode, is invisible to `std::env::var(n)` -/
theorem lookup_unicodeView_single {b : Bytes × Bytes} {n : Text}
    (hb : decodeUtf8 b.1 ≠ some n ∨ decodeUtf8 b.2 = none) : lookup (unicodeView [b]) n = none := by
  rw [unicodeView_cons]
  split
  · rename_i m v h1 h2
    rcases hb with hb | hb
    · have hm : m ≠ n := fun e => hb (e ▸ h1)
      rw [lookup, if_neg hm]; rfl
    · rw [h2] at hb; cases hb
  · rfl

/-- an entry that `std::env::var(n)` cannot see does not change what it returns -/
theorem lookup_unicodeView_remove (os₁ os₂ : OsEnv) (b : Bytes × Bytes) (n : Text)
    (hb : lookup (unicodeView [b]) n = none) :
    lookup (unicodeView (os₁ ++ b :: os₂)) n = lookup (unicodeView (os₁ ++ os₂)) n := by
  show lookup (unicodeView (os₁ ++ ([b] ++ os₂))) n = _
  rw [unicodeView_append, unicodeView_append, unicodeView_append, lookup_append, lookup_append,
    lookup_append, hb]
  rfl

theorem lookup_unicodeView_name {os : OsEnv} {n v : Text} (h : lookup (unicodeView os) n = some v) :
    ∃ e ∈ os, e.1 = utf8 n := by
  obtain ⟨e, he, hv⟩ := List.mem_filterMap.1 (lookup_mem h)
  refine ⟨e, he, ?_⟩
  split at hv
  · rename_i m w h1 _
    cases hv
    exact decodeUtf8_sound _ _ h1
  · cases hv

/-- `getenv` looks at the first entry only -/
theorem osVar_cons (e : Bytes × Bytes) (os : OsEnv) (n : Text) :
    osVar (e :: os) n =
      if e.1 = utf8 n then
        (match decodeUtf8 e.2 with
          | some v => .ok v
          | none => .error .notUnicode)
      else osVar os n := by
  unfold osVar
  rw [List.find?_cons]
  by_cases h : e.1 = utf8 n
  · rw [if_pos h, beq_iff_eq.2 h]; rfl
  · rw [if_neg h, beq_eq_false_iff_ne.2 h]

/-! ### the effect on a fresh directory, spelled out -/

/-- `cur/c₁`, `cur/c₁/c₂`, … -/
def dirChain (cur : Comps) (cs : List Text) : List Comps :=
  (List.range cs.length).map (fun k => cur ++ cs.take (k + 1))

theorem dirChain_cons (cur : Comps) (c : Text) (cs : List Text) :
    dirChain cur (c :: cs) = (cur ++ [c]) :: dirChain (cur ++ [c]) cs := by
  simp only [dirChain, List.length_cons, List.range_succ_eq_map, List.map_cons, List.map_map,
    List.take_succ_cons, List.take_zero]
  refine congrArg _ (List.map_congr_left fun k _ => ?_)
  simp

theorem length_lt_of_mem_dirChain {cur d : Comps} {cs : List Text} (name : Text)
    (h : d ∈ dirChain cur cs) : d.length < (cur ++ cs ++ [name]).length := by
  obtain ⟨k, hk, rfl⟩ := List.mem_map.1 h
  have hk' := List.mem_range.1 hk
  simp only [List.length_append, List.length_take, List.length_singleton]
  omega

/-- a location longer than every directory is not a directory -/
theorem isDir_false_of_length {fs : Fs} {cur : Comps} {c : Text}
    (h : ∀ x ∈ fs.dirs, x.length < (cur ++ [c]).length) : fs.isDir (cur ++ [c]) = false := by
  have he : (cur ++ [c]).isEmpty = false := by cases cur <;> rfl
  rw [Fs.isDir, he, Bool.false_or]
  cases hc : fs.dirs.contains (cur ++ [c]) with
  | false => rfl
  | true => exact absurd (h _ (List.contains_iff_mem.1 hc)) (Nat.lt_irrefl _)

theorem mkdirAllFrom_fresh : ∀ (cs cur : List Text) (fs : Fs), fs.files = [] →
    (∀ d ∈ fs.dirs, d.length ≤ cur.length) → dotdot ∉ cs →
    mkdirAllFrom fs cur cs = .ok { fs with dirs := fs.dirs ++ dirChain cur cs } := by
  intro cs
  induction cs with
  | nil => intro cur fs _ _ _; rw [mkdirAllFrom, dirChain]; simp
  | cons c cs ih =>
    intro cur fs hf hd hdd
    have hlen : (cur ++ [c]).length = cur.length + 1 := List.length_append
    have hnd : fs.isDir (cur ++ [c]) = false :=
      isDir_false_of_length fun x hx => hlen ▸ Nat.lt_succ_of_le (hd x hx)
    have hnf : fs.isFile (cur ++ [c]) = false := by rw [Fs.isFile, hf]; rfl
    have hrec := ih (cur ++ [c]) { fs with dirs := fs.dirs ++ [cur ++ [c]] } hf
      (fun d hd' => by
        rcases List.mem_append.1 hd' with h | h
        · exact hlen ▸ Nat.le_succ_of_le (hd d h)
        · rw [List.mem_singleton.1 h]; exact Nat.le_refl _)
      fun h => hdd (List.mem_cons_of_mem _ h)
    have hc : c ≠ dotdot := fun e => hdd (e ▸ List.mem_cons_self)
    rw [mkdirAllFrom, if_neg hc]
    simp only [hnd, hnf, Bool.false_eq_true, if_false]
    rw [hrec, dirChain_cons, List.append_assoc]
    rfl

theorem walkDirs_chain (fs : Fs) : ∀ (cs cur : List Text), (∀ d ∈ dirChain cur cs, d ∈ fs.dirs) → dotdot ∉ cs →
    walkDirs fs cur cs = .ok (cur ++ cs) := by
  intro cs
  induction cs with
  | nil => intro cur _ _; rw [walkDirs, List.append_nil]
  | cons c cs ih =>
    intro cur h hdd
    rw [dirChain_cons] at h
    have hd : fs.isDir (cur ++ [c]) = true := by
      rw [Fs.isDir, List.contains_iff_mem.2 (h _ List.mem_cons_self), Bool.or_true]
    have hc : c ≠ dotdot := fun e => hdd (e ▸ List.mem_cons_self)
    rw [walkDirs, if_neg hc]
    simp only [hd, if_true]
    rw [ih (cur ++ [c]) (fun d hd' => h d (List.mem_cons_of_mem _ hd')) fun h' => hdd (List.mem_cons_of_mem _ h'),
      List.append_assoc]
    rfl

/-- a file appender for a plain relative location `d₁/…/dₖ/name` in an empty directory: exactly the
directories `d₁`, `d₁/d₂`, …, and exactly the one empty file -/
theorem specFileBuild_fresh (loc : Text) (ds : List Text) (name : Text)
    (hr : rpath loc = { abs := false, comps := ds ++ [name], trailing := false })
    (hdd : dotdot ∉ ds ++ [name]) :
    specFileBuild [] loc Fs.empty =
      .ok (ds ++ [name], { files := [(ds ++ [name], [])], dirs := dirChain [] ds }) := by
  have hds : dotdot ∉ ds := fun h => hdd (List.mem_append_left _ h)
  have hname : name ≠ dotdot := fun e => hdd (e ▸ List.mem_append_right _ List.mem_cons_self)
  have he : (ds ++ [name]).isEmpty = false := by cases ds <;> rfl
  have hmk : mkParent [] Fs.empty loc = .ok { files := [], dirs := dirChain [] ds } := by
    have h1 := mkdirAllFrom_fresh ds [] Fs.empty rfl (fun _ h => nomatch h) hds
    simp only [mkParent, hr, RPath.parent, he, Bool.false_eq_true, if_false, createDirAll, relComps,
      List.dropLast_concat, h1, liftFs]
    rfl
  have hwalk : walkDirs { files := [], dirs := dirChain [] ds } [] ds = .ok ds :=
    walkDirs_chain { files := [], dirs := dirChain [] ds } ds [] (fun d hd => hd) hds
  have hnotdir : Fs.isDir { files := [], dirs := dirChain [] ds } (ds ++ [name]) = false :=
    isDir_false_of_length fun x hx => length_lt_of_mem_dirChain name hx
  simp only [specFileBuild, hmk, bindO_ok, openCreate, resolveFile, hr, relComps, Bool.false_eq_true,
    if_false, List.getLast?_concat, List.dropLast_concat, hwalk, hname, hnotdir, liftFs, Fs.addFile,
    Fs.isFile, List.any_nil, List.nil_append]

end Log4rs.EnvExpand
