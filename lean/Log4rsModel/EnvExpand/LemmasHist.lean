import Log4rsModel.EnvExpand.LemmasSpec
/-
C19, HISTORICAL: the code before the fix of finding F7 (`expand_unfixed`: replace-all on the
accumulating output). Its byte-offset model is reduced to a fold over the occurrences of `$ENV{`
on characters (`expandChars`; every `split_at` / slice it takes succeeds), and that fold is compared
with the single pass.

State of the loop = the segments of the single-pass decomposition together with the set `D` of
names already replaced (`render D`): the replace-all for name `n` turns `render D` into
`render (n :: D)` provided no occurrence of `$ENV{n}` is *constructed* across a junction of
literal text and a substituted value — which `junctionFree` excludes.
-/
namespace Log4rs.EnvExpand
open Log4rs Log4rs.Str

variable {alnum : Char → Bool} {env : Env}

/-! ### the loop body on characters -/

/-- one iteration of the `for` loop (historical code `expand_unfixed`), `tail` = the text after this `$ENV{` -/
def stepChars (alnum : Char → Bool) (env : Env) (out tail : Text) : Text :=
  match scanRef alnum tail with
  | none => out
  | some name =>
    match lookup env name with
    | none => out
    | some value => replaceAll (refLit name) value out

/-- `expand_unfixed` without byte offsets: fold over the occurrences of `$ENV{` in order of appearance -/
def expandChars (alnum : Char → Bool) (env : Env) (path : Text) : Text :=
  (occs path).foldl (fun out o => stepChars alnum env out o.2) path

theorem stepChars_eq (out tail : Text) :
    stepChars alnum env out tail =
      match substAt alnum env (envPrefix ++ tail) with
      | none => out
      | some (n, v) => replaceAll (refLit n) v out := by
  rw [stepChars, substAt_of_occ]
  cases scanRef alnum tail with
  | none => rfl
  | some name => dsimp only [Option.bind_some]; cases lookup env name <;> rfl

/-- at an occurrence `path = p ++ "$ENV{" ++ tail` every slice of the loop body succeeds -/
theorem stepUnfixed_eq (p tail out : Text) :
    stepUnfixed alnum env (p ++ (envPrefix ++ tail)) out (utf8Len p) = .ok (stepChars alnum env out tail) := by
  unfold stepUnfixed stepChars
  simp only [splitAtByte_occ]
  cases hs : scanRef alnum tail with
  | none => rfl
  | some name =>
    dsimp only
    cases lookup env name with
    | none => rfl
    | some value => simp only [sliceBytes_ref p hs]

theorem foldl_congr_mem {α β : Type} (f g : β → α → β) (l : List α) (b : β)
    (h : ∀ b, ∀ a ∈ l, f b a = g b a) : l.foldl f b = l.foldl g b := by
  induction l generalizing b with
  | nil => rfl
  | cons a l ih =>
    rw [List.foldl_cons, List.foldl_cons, h b a List.mem_cons_self]
    exact ih _ fun b a ha => h b a (List.mem_cons_of_mem _ ha)

/-- the byte-offset model never takes the panic branches and equals the character-level fold -/
theorem expand_unfixed_eq_chars (path : Text) :
    expand_unfixed alnum env path = .ok (expandChars alnum env path) := by
  have hok : (occs path).foldl (fun (acc : Outcome Unit Text) o => match acc with
        | .ok out => .ok (stepChars alnum env out o.2)
        | other => other) (.ok path) =
      .ok ((occs path).foldl (fun out o => stepChars alnum env out o.2) path) :=
    List.foldl_hom Outcome.ok fun _ _ => rfl
  unfold expand_unfixed expandChars
  rw [matchIndices_occs, List.foldl_map, ← hok]
  apply foldl_congr_mem
  intro acc o ho
  cases acc with
  | ok out =>
    have := stepUnfixed_eq (alnum := alnum) (env := env) o.1 o.2 out
    rwa [← occs_sound ho] at this
  | err e => rfl
  | panic w => rfl

theorem foldl_const {α β : Type} (l : List α) (b : β) : l.foldl (fun out _ => out) b = b := by
  induction l with
  | nil => rfl
  | cons a l ih => exact ih

/-- a path without any well-formed reference to a set variable is returned unchanged -/
theorem expandChars_untouched (alnum : Char → Bool) (env : Env) (path : Text)
    (h : ∀ a t n, path = a ++ (envPrefix ++ t) → refAt alnum t = some n → lookup env n = none) :
    expandChars alnum env path = path := by
  unfold expandChars
  rw [foldl_congr_mem _ (fun out _ => out) _ _ ?_, foldl_const]
  intro out o ho
  unfold stepChars
  cases hs : scanRef alnum o.2 with
  | none => rfl
  | some n => simp only [h o.1 o.2 n (occs_sound ho) (scanRef_eq_refAt _ ▸ hs)]

/-! ### the state of the loop -/

/-- the accumulating output when exactly the names in `D` have been replaced -/
def render (D : List Text) : List Seg → Text
  | [] => []
  | .chr c :: r => c :: render D r
  | .sub n v :: r => (if n ∈ D then v else refLit n) ++ render D r

theorem render_nil (segs : List Seg) : render [] segs = origRender segs := by
  induction segs with
  | nil => rfl
  | cons s r ih => cases s <;> simp [render, origRender, ih]

theorem render_all (D : List Text) (segs : List Seg) (h : ∀ n v, Seg.sub n v ∈ segs → n ∈ D) :
    render D segs = finalRender segs := by
  induction segs with
  | nil => rfl
  | cons s r ih =>
    have ihr := ih fun n v hm => h n v (List.mem_cons_of_mem _ hm)
    cases s with
    | chr c => rw [render, finalRender, ihr]
    | sub n v => rw [render, finalRender, ihr, if_pos (h n v List.mem_cons_self)]

/-- text free of `$` that is a prefix of some loop state is a prefix of the final expansion:
it cannot reach a reference that is still unreplaced -/
theorem prefix_render_final (D : List Text) :
    ∀ (segs : List Seg) (p : Text), '$' ∉ p → isPrefix p (render D segs) = true →
      isPrefix p (finalRender segs) = true := by
  intro segs
  induction segs with
  | nil => intro p _ h; exact h
  | cons s r ih =>
    intro p hp h
    cases s with
    | chr c =>
      cases p with
      | nil => rfl
      | cons e p =>
        simp only [render, finalRender, isPrefix, Bool.and_eq_true, decide_eq_true_eq] at h ⊢
        exact ⟨h.1, ih p (fun hm => hp (List.mem_cons_of_mem _ hm)) h.2⟩
    | sub n v =>
      simp only [render, finalRender] at h ⊢
      by_cases hn : n ∈ D
      · rw [if_pos hn] at h
        rcases isPrefix_append_cases h with hin | ⟨q, _, rfl, hq⟩
        · obtain ⟨t, ht⟩ := (isPrefix_iff _ _).1 hin
          rw [ht, List.append_assoc]; exact isPrefix_append _ _
        · obtain ⟨t, ht⟩ := (isPrefix_iff _ _).1 (ih q (fun hm => hp (List.mem_append_right _ hm)) hq)
          rw [ht, ← List.append_assoc]; exact isPrefix_append _ _
      · -- an unreplaced reference starts with `$`
        rw [if_neg hn] at h
        cases p with
        | nil => rfl
        | cons e p =>
          have : e = '$' := by
            simp only [refLit_eq, List.cons_append, isPrefix, Bool.and_eq_true, decide_eq_true_eq] at h
            exact h.1
          exact absurd (this ▸ List.mem_cons_self) hp

theorem junctionFreeSegs_chr (c : Char) (r : List Seg) :
    junctionFreeSegs alnum env (.chr c :: r) = true ↔
      (c = '$' → substAt alnum env (c :: finalRender r) = none) ∧ junctionFreeSegs alnum env r = true := by
  simp only [junctionFreeSegs, Bool.and_eq_true, Bool.or_eq_true, bne_iff_ne, ne_eq,
    Option.isNone_iff_eq_none, Decidable.imp_iff_not_or]

theorem junctionFreeSegs_of_no_dollar (segs : List Seg)
    (h : ∀ s ∈ segs, s ≠ Seg.chr '$') : junctionFreeSegs alnum env segs = true := by
  induction segs with
  | nil => rfl
  | cons s r ih =>
    have ihr := ih fun s hs => h s (List.mem_cons_of_mem _ hs)
    cases s with
    | chr c =>
      exact (junctionFreeSegs_chr c r).2
        ⟨fun e => absurd (e ▸ rfl) (h (.chr c) List.mem_cons_self), ihr⟩
    | sub n v => exact ihr

/-! ### one replace-all marks one name as replaced

`$` and `}` are not name characters (`hd`, `hc`); values contain no `$` (`hv`). -/

theorem append_sep_inj {d : Char} {a b x y : Text} (h : a ++ d :: x = b ++ d :: y) (ha : d ∉ a) (hb : d ∉ b) :
    a = b := by
  induction a generalizing b with
  | nil =>
    cases b with
    | nil => rfl
    | cons f b => exact absurd ((List.cons.inj h).1 ▸ List.mem_cons_self) hb
  | cons e a ih =>
    cases b with
    | nil => exact absurd ((List.cons.inj h).1 ▸ List.mem_cons_self) ha
    | cons f b =>
      rw [(List.cons.inj h).1, ih (List.cons.inj h).2 (fun hm => ha (List.mem_cons_of_mem _ hm))
        fun hm => hb (List.mem_cons_of_mem _ hm)]

theorem refLit_tail_no_dollar (hd : alnum '$' = false) {n : Text} (h : WfName alnum n) :
    '$' ∉ envBody ++ (n ++ [envSuffix]) := by
  simp [envBody, envSuffix, h.no_dollar hd]

/-- two reference literals: one a prefix of text starting with the other ⇒ same name -/
theorem refLit_prefix_refLit (hc : alnum '}' = false) {n m x : Text} (hn : WfName alnum n)
    (hm : WfName alnum m) (h : isPrefix (refLit n) (refLit m ++ x) = true) : n = m := by
  obtain ⟨t, ht⟩ := (isPrefix_iff _ _).1 h
  simp only [refLit, List.append_assoc, List.append_cancel_left_eq, List.singleton_append] at ht
  exact (append_sep_inj ht (hm.no_suffix hc) (hn.no_suffix hc)).symm

/-- at a literal character no occurrence of a set variable's literal starts, in any loop state -/
theorem no_match_at_chr (hd : alnum '$' = false) (hc : alnum '}' = false) {c : Char} {r : List Seg}
    {D : List Text} {n v : Text} (h1 : c = '$' → substAt alnum env (c :: finalRender r) = none)
    (hn : WfName alnum n) (hl : lookup env n = some v) :
    isPrefix (refLit n) (c :: render D r) = false := by
  cases hcase : isPrefix (refLit n) (c :: render D r) with
  | false => rfl
  | true =>
    rw [refLit_eq, isPrefix, Bool.and_eq_true, decide_eq_true_eq] at hcase
    obtain ⟨rfl, hbody⟩ := hcase
    obtain ⟨t, ht⟩ := (isPrefix_iff _ _).1 (prefix_render_final D r _ (refLit_tail_no_dollar hd hn) hbody)
    have h1' := h1 rfl
    rw [ht, ← List.cons_append, ← refLit_eq, substAt_of_refLit (isPart_suffix hc) _ hn hl] at h1'
    cases h1'

/-- the literal of another variable is copied: no match at its `$` (the names differ), none inside
it (no further `$`) -/
theorem replaceAllGo_other_ref (hd : alnum '$' = false) (hc : alnum '}' = false) {n m : Text}
    (hn : WfName alnum n) (hm : WfName alnum m) (hmn : m ≠ n) (v x : Text) :
    replaceAllGo (refLit n) v 0 (refLit m ++ x) = refLit m ++ replaceAllGo (refLit n) v 0 x := by
  apply replaceAllGo_block
  intro a b hab hb
  cases a with
  | nil =>
    obtain rfl : refLit m = b := hab
    cases hp : isPrefix (refLit n) (refLit m ++ x) with
    | false => rfl
    | true => exact absurd (refLit_prefix_refLit hc hn hm hp).symm hmn
  | cons e a =>
    cases b with
    | nil => exact absurd rfl hb
    | cons f b =>
      rw [refLit_eq, List.cons_append, List.cons.injEq] at hab
      have hf : f ∈ envBody ++ (m ++ [envSuffix]) := by
        rw [hab.2]; exact List.mem_append_right _ List.mem_cons_self
      exact isPrefix_false_of_head_ne _ _ fun e => refLit_tail_no_dollar hd hm (e ▸ hf)

theorem replace_render (hd : alnum '$' = false) (hc : alnum '}' = false)
    (hv : ∀ n v, lookup env n = some v → '$' ∉ v) {n v : Text}
    (hn : WfName alnum n) (hl : lookup env n = some v) (D : List Text) :
    ∀ segs, junctionFreeSegs alnum env segs = true → Complete alnum env segs →
      replaceAllGo (refLit n) v 0 (render D segs) = render (n :: D) segs := by
  intro segs
  induction segs with
  | nil => intro _ _; rfl
  | cons s r ih =>
    intro hj hcomp
    cases s with
    | chr c =>
      obtain ⟨h1, hj'⟩ := (junctionFreeSegs_chr c r).1 hj
      rw [render, replaceAllGo_nomatch _ _ _ _ (no_match_at_chr hd hc h1 hn hl), ih hj' hcomp.2, render]
    | sub m w =>
      obtain ⟨hm, hlm, hr⟩ := hcomp
      have ihr := ih hj hr
      rw [render, render]
      by_cases hmD : m ∈ D
      · -- already replaced: its value has no `$`, so nothing starts inside it
        rw [if_pos hmD, if_pos (List.mem_cons_of_mem _ hmD), refLit_eq,
          replaceAllGo_block_free '$' _ v w _ (hv m w hlm), ← refLit_eq, ihr]
      · rw [if_neg hmD]
        by_cases hmn : m = n
        · subst hmn
          obtain rfl : w = v := Option.some.inj (hlm.symm.trans hl)
          rw [if_pos List.mem_cons_self, replaceAllGo_match _ _ _ (refLit_ne_nil m), ihr]
        · rw [if_neg (List.not_mem_cons_of_ne_of_not_mem hmn hmD),
            replaceAllGo_other_ref hd hc hn hm hmn, ihr]

/-- the whole loop: after visiting the occurrences `ts`, every visited set name is replaced -/
theorem fold_render (hd : alnum '$' = false) (hc : alnum '}' = false)
    (hv : ∀ n v, lookup env n = some v → '$' ∉ v) (segs : List Seg)
    (hj : junctionFreeSegs alnum env segs = true) (hcomp : Complete alnum env segs) :
    ∀ (ts : List (Text × Text)) (D : List Text),
      ∃ D', ts.foldl (fun out o => stepChars alnum env out o.2) (render D segs) = render D' segs ∧
        (∀ o ∈ ts, ∀ n v, substAt alnum env (envPrefix ++ o.2) = some (n, v) → n ∈ D') ∧
        ∀ x ∈ D, x ∈ D' := by
  intro ts
  induction ts with
  | nil => intro D; exact ⟨D, rfl, (fun _ ho => nomatch ho), fun x hx => hx⟩
  | cons o ts ih =>
    intro D
    rw [List.foldl_cons, stepChars_eq]
    cases hs : substAt alnum env (envPrefix ++ o.2) with
    | none =>
      obtain ⟨D', h1, h2, h3⟩ := ih D
      refine ⟨D', h1, ?_, h3⟩
      intro o' ho' n v hn
      rcases List.mem_cons.1 ho' with rfl | ho'
      · rw [hs] at hn; cases hn
      · exact h2 o' ho' n v hn
    | some q =>
      obtain ⟨m, w⟩ := q
      obtain ⟨hm, hl⟩ := substAt_wf hs
      have hstep : replaceAll (refLit m) w (render D segs) = render (m :: D) segs := by
        rw [replaceAll_eq _ _ _ (refLit_ne_nil _)]
        exact replace_render hd hc hv hm hl D segs hj hcomp
      dsimp only
      rw [hstep]
      obtain ⟨D', h1, h2, h3⟩ := ih (m :: D)
      refine ⟨D', h1, ?_, fun x hx => h3 x (List.mem_cons_of_mem _ hx)⟩
      intro o' ho' n v hn
      rcases List.mem_cons.1 ho' with rfl | ho'
      · rw [hs] at hn; cases hn
        exact h3 _ List.mem_cons_self
      · exact h2 o' ho' n v hn

/-- the historical code equals the single pass on junction-free paths -/
theorem expandChars_eq_spec (hd : alnum '$' = false) (hc : alnum '}' = false)
    (hv : ∀ n v, lookup env n = some v → '$' ∉ v) (path : Text)
    (hj : junctionFree alnum env path = true) :
    expandChars alnum env path = specExpand alnum env path := by
  obtain ⟨D', h1, h2, _⟩ :=
    fold_render hd hc hv (parse alnum env path) hj (complete_parse path) (occs path) []
  rw [render_nil, origRender_parse] at h1
  rw [expandChars, h1, specExpand_eq_final]
  apply render_all
  intro n v hm
  obtain ⟨a, t, rfl, hs⟩ := sub_mem_parse path hm
  exact h2 (a, t) (occs_complete a t) n v hs

end Log4rs.EnvExpand
