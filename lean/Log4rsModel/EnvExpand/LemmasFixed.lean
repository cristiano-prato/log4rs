import Log4rsModel.EnvExpand.LemmasSpec
/-
C19: the code (`expand`: single pass, byte offsets and partial slices as in the Rust) equals the
specification on every path, for every `alnum`, every environment; every slice it takes succeeds
(the `copied` cursor stays on character boundaries).
-/
namespace Log4rs.EnvExpand
open Log4rs Log4rs.Str

variable {alnum : Char → Bool} {env : Env}

/-- the loop from a given state over a list of match offsets -/
def scanFrom (alnum : Char → Bool) (env : Env) (path : Text) (st : ScanState) (ms : List Nat) :
    Outcome Unit ScanState :=
  ms.foldl (fun (acc : Outcome Unit ScanState) m => match acc with
    | .ok st => step alnum env path st m
    | other => other) (.ok st)

theorem scan_eq_scanFrom (alnum : Char → Bool) (env : Env) (path : Text) :
    scan alnum env path = scanFrom alnum env path { out := [], copied := 0 } (matchIndices envPrefix path) :=
  rfl

theorem scanFrom_cons {path : Text} {st st' : ScanState} {m : Nat}
    (ms : List Nat) (h : step alnum env path st m = .ok st') :
    scanFrom alnum env path st (m :: ms) = scanFrom alnum env path st' ms := by
  simp only [scanFrom, List.foldl_cons, h]

/-- the loop from state `st` over the remaining match offsets, then the final push -/
def run (alnum : Char → Bool) (env : Env) (path : Text) (st : ScanState) (ms : List Nat) :
    Outcome Unit Text :=
  match scanFrom alnum env path st ms with
  | .ok st =>
    match sliceFrom st.copied path with
    | some t => .ok (st.out ++ t)
    | none => .panic "slice: not a char boundary"
  | .err e => .err e
  | .panic w => .panic w

theorem run_cons {path : Text} {st st' : ScanState} {m : Nat}
    (ms : List Nat) (h : step alnum env path st m = .ok st') :
    run alnum env path st (m :: ms) = run alnum env path st' ms := by
  rw [run, scanFrom_cons ms h]; rfl

/-! ### the loop body -/

/-- an occurrence inside an already replaced reference is skipped -/
theorem step_skip {path : Text} {st : ScanState} {m : Nat}
    (h : m < st.copied) : step alnum env path st m = .ok st := by
  rw [step, if_pos h]

/-- at an occurrence not before `copied`, every slice of the loop body succeeds -/
theorem step_at {path : Text} (cp pend tail out : Text)
    (hp : path = (cp ++ pend) ++ (envPrefix ++ tail)) :
    step alnum env path { out := out, copied := utf8Len cp } (utf8Len (cp ++ pend)) =
      .ok (match substAt alnum env (envPrefix ++ tail) with
        | none => { out := out, copied := utf8Len cp }
        | some (name, value) =>
          { out := out ++ pend ++ value, copied := utf8Len (cp ++ pend) + utf8Len (refLit name) }) := by
  subst hp
  have hguard : ¬ utf8Len (cp ++ pend) < utf8Len cp :=
    Nat.not_lt.2 (utf8Len_append cp pend ▸ Nat.le_add_right _ _)
  rw [step, if_neg hguard, substAt_of_occ]
  simp only [splitAtByte_occ]
  cases scanRef alnum tail with
  | none => rfl
  | some name =>
    dsimp only [Option.bind_some]
    cases lookup env name with
    | none => rfl
    | some value =>
      have hslice : sliceBytes (utf8Len cp) (utf8Len (cp ++ pend)) ((cp ++ pend) ++ (envPrefix ++ tail)) =
          some pend := by
        rw [utf8Len_append, List.append_assoc]; exact sliceBytes_mid cp pend _
      simp only [hslice, matchEnd_eq]
      rfl

/-! ### the loop is the pass -/

/-- occurrences inside an already replaced stretch `w` are passed over -/
theorem run_skip {path : Text} (out : Text) (w p t : Text) :
    run alnum env path { out := out, copied := utf8Len (p ++ w) } (occsShift p (w ++ t)) =
      run alnum env path { out := out, copied := utf8Len (p ++ w) } (occsShift (p ++ w) t) := by
  induction w generalizing p with
  | nil => rw [List.append_nil]; rfl
  | cons c w ih =>
    have hlt : utf8Len p < utf8Len (p ++ c :: w) := by
      rw [utf8Len_append, utf8Len]
      exact Nat.lt_add_of_pos_right (Nat.add_pos_left (Char.utf8Size_pos c) _)
    have hpw : p ++ c :: w = (p ++ [c]) ++ w := by rw [List.append_assoc]; rfl
    rw [List.cons_append, occsShift_cons]
    split
    · rw [List.singleton_append, run_cons _ (step_skip hlt), hpw, ih]
    · rw [List.nil_append, hpw, ih]

theorem run_spec (path : Text) :
    ∀ (s cp pend out : Text), path = (cp ++ pend) ++ s →
      run alnum env path { out := out, copied := utf8Len cp } (occsShift (cp ++ pend) s) =
        .ok (out ++ pend ++ specExpand alnum env s) := by
  intro s
  induction s using pass_induction alnum env with
  | nil =>
    intro cp pend out hp
    rw [List.append_nil] at hp
    show (match sliceFrom (utf8Len cp) path with
      | some t => Outcome.ok (out ++ t)
      | none => .panic "slice: not a char boundary") = _
    rw [hp, sliceFrom_append]
    exact congrArg Outcome.ok (List.append_nil _).symm
  | sub n v r hs ih =>
    -- the reference is replaced; the occurrences inside it lie before the new `copied`
    intro cp pend out hp
    have hs' : substAt alnum env (envPrefix ++ (n ++ envSuffix :: r)) = some (n, v) := refLit_append n r ▸ hs
    have hstep : step alnum env path { out := out, copied := utf8Len cp } (utf8Len (cp ++ pend)) =
        .ok { out := out ++ pend ++ v, copied := utf8Len (cp ++ pend ++ refLit n) } := by
      rw [step_at cp pend _ out (refLit_append n r ▸ hp), hs', utf8Len_append (cp ++ pend)]
    have e2 : cp ++ pend ++ refLit n = (cp ++ pend ++ envPrefix) ++ (n ++ [envSuffix]) := by
      rw [refLit, List.append_assoc envPrefix, ← List.append_assoc (cp ++ pend)]
    have hr := ih (cp ++ pend ++ refLit n) [] (out ++ pend ++ v)
      (by rw [hp, List.append_nil, List.append_assoc (cp ++ pend)])
    rw [List.append_nil, List.append_nil] at hr
    rw [specExpand_sub hs, refLit_append, occsShift_occ, run_cons _ hstep, List.append_cons n, e2, run_skip,
      ← e2, hr]
    exact congrArg _ (List.append_assoc _ _ _)
  | chr c rest hs ih =>
    intro cp pend out hp
    have hnext : run alnum env path { out := out, copied := utf8Len cp } (occsShift (cp ++ pend ++ [c]) rest) =
        .ok (out ++ pend ++ c :: specExpand alnum env rest) := by
      rw [List.append_assoc cp, ih cp (pend ++ [c]) out
        (hp.trans (by simp only [List.append_assoc, List.singleton_append]))]
      simp only [List.append_assoc, List.singleton_append]
    rw [occsShift_cons, specExpand_chr hs]
    split
    · -- an occurrence that is not a reference to a set variable leaves the state as it is
      rename_i hocc
      obtain ⟨t, ht⟩ := (isPrefix_iff _ _).1 hocc
      have hstep := step_at (alnum := alnum) (env := env) cp pend t out (ht ▸ hp)
      rw [← ht, hs] at hstep
      rw [List.singleton_append, run_cons _ hstep, hnext]
    · exact hnext

/-- the code is the single pass -/
theorem expand_eq_spec (alnum : Char → Bool) (env : Env) (path : Text) :
    expand alnum env path = .ok (specExpand alnum env path) := by
  show run alnum env path { out := [], copied := 0 } (matchIndices envPrefix path) = _
  rw [matchIndices_occs]
  exact run_spec path path [] [] [] rfl

/-! ### the `copied` cursor -/

/-- one iteration at an occurrence keeps `copied` on a character boundary, and takes no panic branch -/
theorem step_inv (p tail : Text) (st : ScanState)
    (hst : IsCharBoundary (p ++ (envPrefix ++ tail)) st.copied) :
    ∃ st', step alnum env (p ++ (envPrefix ++ tail)) st (utf8Len p) = .ok st' ∧
      IsCharBoundary (p ++ (envPrefix ++ tail)) st'.copied := by
  by_cases hlt : utf8Len p < st.copied
  · exact ⟨st, step_skip hlt, hst⟩
  · obtain ⟨out, copied⟩ := st
    obtain ⟨cp, x, hpx, rfl⟩ := hst
    obtain ⟨pend, rfl⟩ := prefix_of_utf8Len_le hpx.symm (Nat.not_lt.1 hlt)
    refine ⟨_, step_at cp pend tail out rfl, ?_⟩
    cases hs : substAt alnum env (envPrefix ++ tail) with
    | none => exact ⟨cp, x, hpx, rfl⟩
    | some q =>
      obtain ⟨r, hr, _⟩ := substAt_some hs
      exact ⟨(cp ++ pend) ++ refLit q.1, r, by rw [hr]; simp only [List.append_assoc], utf8Len_append _ _⟩

theorem scanFrom_ok (path : Text) :
    ∀ (ms : List Nat) (st : ScanState),
      (∀ m ∈ ms, ∃ p tail, path = p ++ (envPrefix ++ tail) ∧ m = utf8Len p) →
      IsCharBoundary path st.copied →
      ∃ st', scanFrom alnum env path st ms = .ok st' ∧ IsCharBoundary path st'.copied := by
  intro ms
  induction ms with
  | nil => intro st _ hst; exact ⟨st, rfl, hst⟩
  | cons m ms ih =>
    intro st hms hst
    obtain ⟨p, tail, rfl, rfl⟩ := hms m List.mem_cons_self
    obtain ⟨st1, h1, h2⟩ := step_inv p tail st hst
    rw [scanFrom_cons ms h1]
    exact ih st1 (fun m hm => hms m (List.mem_cons_of_mem _ hm)) h2

end Log4rs.EnvExpand
