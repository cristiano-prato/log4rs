import Log4rsModel.EnvExpand.LemmasScan
/-
C19: the single pass of the specification. It has two moves — over a reference it substitutes
(`refLit n ++ r ↦ r`) and over a character it keeps (`c :: rest ↦ rest`) — and everything about
`specExpand` and `parse` is proved by induction along these moves (`pass_induction`): the
decomposition and its uniqueness, the positional (per-occurrence) laws

  * a `$` is always a cut point:      spec (a ++ '$' :: y) = spec a ++ spec ('$' :: y)
  * text free of `$` is copied:       spec (t ++ r)        = t ++ spec r
  * at an occurrence of `$ENV{`:      replaced by the value if the reference is well formed and set,
                                      else the five characters are kept and scanning resumes after them

and the dependence on the referenced variables only.
-/
namespace Log4rs.EnvExpand
open Log4rs Log4rs.Str

variable {alnum : Char → Bool} {env : Env}

/-! ### the two moves -/

theorem specGo_eq_final (s : Text) :
    ∀ k, specGo alnum env k s = finalRender (parseGo alnum env k s) := by
  induction s with
  | nil => intro k; cases k <;> rfl
  | cons c rest ih =>
    intro k
    cases k with
    | succ k => exact ih k
    | zero =>
      rw [specGo, parseGo]
      cases substAt alnum env (c :: rest) with
      | none => exact congrArg (c :: ·) (ih 0)
      | some p => exact congrArg (p.2 ++ ·) (ih _)

theorem specExpand_eq_final (path : Text) :
    specExpand alnum env path = finalRender (parse alnum env path) :=
  specGo_eq_final path 0

theorem parseGo_skip (s : Text) :
    ∀ k, parseGo alnum env k s = parseGo alnum env 0 (s.drop k) := by
  induction s with
  | nil => intro k; cases k <;> rfl
  | cons c rest ih =>
    intro k
    cases k with
    | zero => rfl
    | succ k => exact ih k

theorem parse_chr {c : Char} {rest : Text} (h : substAt alnum env (c :: rest) = none) :
    parse alnum env (c :: rest) = .chr c :: parse alnum env rest := by
  rw [parse, parseGo, h]; rfl

theorem parse_sub {n v r : Text} (h : substAt alnum env (refLit n ++ r) = some (n, v)) :
    parse alnum env (refLit n ++ r) = .sub n v :: parse alnum env r := by
  have hcons : refLit n ++ r = '$' :: ((refLit n).tail ++ r) := rfl
  rw [hcons] at h ⊢
  rw [parse, parseGo, h]
  show Seg.sub n v :: parseGo alnum env ((refLit n).length - 1) ((refLit n).tail ++ r) = _
  rw [parseGo_skip, ← List.length_tail, List.drop_left]; rfl

theorem specExpand_chr {c : Char} {rest : Text} (h : substAt alnum env (c :: rest) = none) :
    specExpand alnum env (c :: rest) = c :: specExpand alnum env rest := by
  rw [specExpand_eq_final, parse_chr h, specExpand_eq_final]; rfl

theorem specExpand_sub {n v r : Text} (h : substAt alnum env (refLit n ++ r) = some (n, v)) :
    specExpand alnum env (refLit n ++ r) = v ++ specExpand alnum env r := by
  rw [specExpand_eq_final, parse_sub h, specExpand_eq_final]; rfl

theorem pass_induction (alnum : Char → Bool) (env : Env) {P : Text → Prop} (nil : P [])
    (sub : ∀ n v r, substAt alnum env (refLit n ++ r) = some (n, v) → P r → P (refLit n ++ r))
    (chr : ∀ c rest, substAt alnum env (c :: rest) = none → P rest → P (c :: rest)) (s : Text) : P s := by
  suffices ∀ k s, s.length ≤ k → P s from this _ s (Nat.le_refl _)
  intro k
  induction k with
  | zero =>
    intro s hs
    obtain rfl := List.eq_nil_of_length_eq_zero (Nat.le_zero.1 hs)
    exact nil
  | succ k ih =>
    intro s hs
    cases s with
    | nil => exact nil
    | cons c rest =>
      cases hsub : substAt alnum env (c :: rest) with
      | none => exact chr c rest hsub (ih rest (Nat.le_of_succ_le_succ hs))
      | some q =>
        obtain ⟨r, hr, _⟩ := substAt_some hsub
        rw [hr] at hsub hs ⊢
        have h1 : ((refLit q.1).tail ++ r).length ≤ k := Nat.le_of_succ_le_succ hs
        rw [List.length_append] at h1
        exact sub q.1 q.2 r hsub (ih r (Nat.le_trans (Nat.le_add_left _ _) h1))

/-! ### the decomposition -/

theorem origRender_parse (path : Text) :
    origRender (parse alnum env path) = path := by
  induction path using pass_induction alnum env with
  | nil => rfl
  | sub n v r h ih => rw [parse_sub h, origRender, ih]
  | chr c rest h ih => rw [parse_chr h, origRender, ih]

/-- the decomposition is the one the statement describes: every substituted segment is a
well-formed reference to a set variable with that variable's value, and no literal character
starts such a reference (nothing that should have been replaced is left over) -/
def Complete (alnum : Char → Bool) (env : Env) : List Seg → Prop
  | [] => True
  | .chr c :: r => substAt alnum env (c :: origRender r) = none ∧ Complete alnum env r
  | .sub n v :: r => WfName alnum n ∧ lookup env n = some v ∧ Complete alnum env r

theorem complete_parse (path : Text) :
    Complete alnum env (parse alnum env path) := by
  induction path using pass_induction alnum env with
  | nil => trivial
  | sub n v r h ih => rw [parse_sub h]; exact ⟨(substAt_wf h).1, (substAt_wf h).2, ih⟩
  | chr c rest h ih => rw [parse_chr h]; exact ⟨by rw [origRender_parse]; exact h, ih⟩

theorem parse_unique (hc : alnum '}' = false) :
    ∀ segs : List Seg, Complete alnum env segs → parse alnum env (origRender segs) = segs
  | [], _ => rfl
  | .chr c :: r, ⟨h1, h2⟩ => by rw [origRender, parse_chr h1, parse_unique hc r h2]
  | .sub n v :: r, ⟨hw, hl, h2⟩ => by
    rw [origRender, parse_sub (substAt_of_refLit (isPart_suffix hc) _ hw hl), parse_unique hc r h2]

/-- every substituted segment stems from an occurrence of `$ENV{` at which the pass substitutes -/
theorem sub_mem_parse {n v : Text} (path : Text) :
    Seg.sub n v ∈ parse alnum env path →
      ∃ a t, path = a ++ (envPrefix ++ t) ∧ substAt alnum env (envPrefix ++ t) = some (n, v) := by
  induction path using pass_induction alnum env with
  | nil => intro h; cases h
  | sub m w r h ih =>
    rw [parse_sub h, List.mem_cons]
    rintro (hm | hm)
    · cases hm
      exact ⟨[], n ++ envSuffix :: r, refLit_append n r, by rw [← refLit_append]; exact h⟩
    · obtain ⟨a, t, rfl, ht⟩ := ih hm
      exact ⟨refLit m ++ a, t, (List.append_assoc _ _ _).symm, ht⟩
  | chr c rest h ih =>
    rw [parse_chr h, List.mem_cons]
    rintro (hm | hm)
    · cases hm
    · obtain ⟨a, t, rfl, ht⟩ := ih hm
      exact ⟨c :: a, t, rfl, ht⟩

/-! ### `$` is a cut point -/

theorem scanRest_dollar (hd : alnum '$' = false) (x y : Text) :
    scanRest alnum (x ++ '$' :: y) = scanRest alnum x := by
  induction x with
  | nil => simp [scanRest, isPart_dollar hd, envSuffix]
  | cons c x ih => simp only [List.cons_append, scanRest, ih]

theorem scanRef_dollar (hd : alnum '$' = false) (x y : Text) :
    scanRef alnum (x ++ '$' :: y) = scanRef alnum x := by
  cases x with
  | nil => simp [scanRef, isStart, hd]
  | cons c x => simp only [List.cons_append, scanRef, scanRest_dollar hd]

theorem not_occ_before_dollar {a y : Text} (ha : a ≠ []) (h : isPrefix envPrefix a = false) :
    isPrefix envPrefix (a ++ '$' :: y) = false := by
  cases hp : isPrefix envPrefix (a ++ '$' :: y) with
  | false => rfl
  | true =>
    rcases isPrefix_append_cases hp with h' | ⟨q, hq0, hq, hq'⟩
    · rw [h] at h'; cases h'
    · -- `$ENV{ = a ++ q` with `q` starting with `$` and `a` not empty: a second `$` in `$ENV{`
      cases a with
      | nil => exact absurd rfl ha
      | cons e a =>
        cases q with
        | nil => exact absurd rfl hq0
        | cons f q =>
          obtain ⟨rfl, _⟩ : f = '$' ∧ _ := by simpa [isPrefix] using hq'
          have h2 : envBody = a ++ '$' :: q := (List.cons.inj hq).2
          have : '$' ∈ envBody := by rw [h2]; simp
          exact absurd this (by decide)

theorem substAt_dollar (hd : alnum '$' = false) {a : Text} (y : Text)
    (ha : a ≠ []) : substAt alnum env (a ++ '$' :: y) = substAt alnum env a := by
  cases hp : isPrefix envPrefix a with
  | true =>
    obtain ⟨t, rfl⟩ := (isPrefix_iff _ _).1 hp
    rw [List.append_assoc, substAt_of_occ, substAt_of_occ, scanRef_dollar hd]
  | false =>
    rw [substAt_of_not_occ _ hp, substAt_of_not_occ _ (not_occ_before_dollar ha hp)]

/-- the pass never looks across a `$`: it is a cut point of the expansion -/
theorem specExpand_cut_dollar (hd : alnum '$' = false) (a y : Text) :
    specExpand alnum env (a ++ '$' :: y) = specExpand alnum env a ++ specExpand alnum env ('$' :: y) := by
  induction a using pass_induction alnum env with
  | nil => rfl
  | sub n v r h ih =>
    have h' := (substAt_dollar hd y (List.append_ne_nil_of_left_ne_nil (refLit_ne_nil n) r)).trans h
    rw [List.append_assoc] at h' ⊢
    rw [specExpand_sub h', specExpand_sub h, ih, List.append_assoc]
  | chr c rest h ih =>
    have h' := (substAt_dollar hd y (List.cons_ne_nil c rest)).trans h
    rw [List.cons_append] at h' ⊢
    rw [specExpand_chr h', specExpand_chr h, ih]; rfl

theorem specExpand_cut_occ (hd : alnum '$' = false) (a t : Text) :
    specExpand alnum env (a ++ (envPrefix ++ t)) =
      specExpand alnum env a ++ specExpand alnum env (envPrefix ++ t) :=
  specExpand_cut_dollar hd a (envBody ++ t)

theorem specExpand_no_dollar_prefix (t r : Text) (ht : '$' ∉ t) :
    specExpand alnum env (t ++ r) = t ++ specExpand alnum env r := by
  induction t with
  | nil => rfl
  | cons c t ih =>
    have hocc : isPrefix envPrefix (c :: (t ++ r)) = false :=
      isPrefix_false_of_head_ne _ _ fun e => ht (e ▸ List.mem_cons_self)
    rw [List.cons_append, specExpand_chr (substAt_of_not_occ _ hocc),
      ih fun h => ht (List.mem_cons_of_mem _ h)]
    rfl

/-- an occurrence of `$ENV{` that is not a well-formed reference to a set variable: the five
characters are kept and the pass resumes right after them -/
theorem specExpand_occ_kept (t : Text)
    (h : substAt alnum env (envPrefix ++ t) = none) :
    specExpand alnum env (envPrefix ++ t) = envPrefix ++ specExpand alnum env t := by
  have h' : substAt alnum env ('$' :: (envBody ++ t)) = none := h
  show specExpand alnum env ('$' :: (envBody ++ t)) = _
  rw [specExpand_chr h', specExpand_no_dollar_prefix envBody t (by decide)]
  rfl

/-! ### only the referenced variables matter -/

theorem specExpand_congr (env₁ env₂ : Env) (path : Text)
    (h : ∀ a t n, path = a ++ (envPrefix ++ t) → refAt alnum t = some n → lookup env₁ n = lookup env₂ n) :
    specExpand alnum env₁ path = specExpand alnum env₂ path := by
  have hsub : ∀ a s, path = a ++ s → substAt alnum env₁ s = substAt alnum env₂ s := by
    intro a s hp
    cases hocc : isPrefix envPrefix s with
    | false => rw [substAt_of_not_occ _ hocc, substAt_of_not_occ _ hocc]
    | true =>
      obtain ⟨t, rfl⟩ := (isPrefix_iff _ _).1 hocc
      rw [substAt_of_occ, substAt_of_occ]
      cases hs : scanRef alnum t with
      | none => rfl
      | some n => rw [Option.bind_some, Option.bind_some, h a t n hp (scanRef_eq_refAt t ▸ hs)]
  suffices ∀ s a, path = a ++ s → specExpand alnum env₁ s = specExpand alnum env₂ s from this path [] rfl
  intro s
  induction s using pass_induction alnum env₁ with
  | nil => intro _ _; rfl
  | sub n v r h₁ ih =>
    intro a hp
    rw [specExpand_sub h₁, specExpand_sub ((hsub a _ hp).symm.trans h₁),
      ih (a ++ refLit n) (by rw [hp, List.append_assoc])]
  | chr c rest h₁ ih =>
    intro a hp
    rw [specExpand_chr h₁, specExpand_chr ((hsub a _ hp).symm.trans h₁),
      ih (a ++ [c]) (by rw [hp, List.append_assoc]; rfl)]

theorem specExpand_empty_env (path : Text) : specExpand alnum [] path = path := by
  induction path using pass_induction alnum [] with
  | nil => rfl
  | sub n v r hs _ => exact nomatch (substAt_wf hs).2
  | chr c rest hs ih => rw [specExpand_chr hs, ih]

/-- a path without any well-formed reference to a set variable is left as it is: to such a path
the environment looks empty -/
theorem specExpand_untouched (path : Text)
    (h : ∀ a t n, path = a ++ (envPrefix ++ t) → refAt alnum t = some n → lookup env n = none) :
    specExpand alnum env path = path :=
  (specExpand_congr env [] path h).trans (specExpand_empty_env path)

end Log4rs.EnvExpand
