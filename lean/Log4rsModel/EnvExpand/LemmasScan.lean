import Log4rsModel.EnvExpand.LemmasStr
/-
C19: the name scanner (shared by the current and the historical code) against the specification's
`takeWhile` formulation, `substAt` per form of its input, `lookup`, and the slices the code takes
at an occurrence of `$ENV{`.
-/
namespace Log4rs.EnvExpand
open Log4rs Log4rs.Str

variable {alnum : Char → Bool} {env : Env}

/-- a well-formed variable name: a start character followed by part characters -/
def WfName (alnum : Char → Bool) (n : Text) : Prop :=
  ∃ c r, n = c :: r ∧ isStart alnum c = true ∧ ∀ x ∈ r, isPart alnum x = true

theorem isPart_of_isStart {c : Char} (h : isStart alnum c = true) :
    isPart alnum c = true := by
  rw [isPart, Bool.or_eq_true]; exact Or.inl h

theorem isPart_dollar (hd : alnum '$' = false) : isPart alnum '$' = false := by
  simp [isPart, hd]

theorem isPart_suffix (hc : alnum '}' = false) : isPart alnum envSuffix = false := by
  simp [isPart, envSuffix, hc]

theorem WfName.all_part {n : Text} (h : WfName alnum n) :
    ∀ x ∈ n, isPart alnum x = true := by
  obtain ⟨c, r, rfl, hc, hr⟩ := h
  intro x hx
  rcases List.mem_cons.1 hx with rfl | hx
  · exact isPart_of_isStart hc
  · exact hr x hx

theorem WfName.no_dollar (hd : alnum '$' = false) {n : Text} (h : WfName alnum n) :
    '$' ∉ n :=
  fun hm => Bool.false_ne_true ((isPart_dollar hd).symm.trans (h.all_part _ hm))

theorem WfName.no_suffix (hc : alnum '}' = false) {n : Text} (h : WfName alnum n) :
    envSuffix ∉ n :=
  fun hm => Bool.false_ne_true ((isPart_suffix hc).symm.trans (h.all_part _ hm))

theorem WfName.ne_nil {alnum : Char → Bool} {n : Text} (h : WfName alnum n) : n ≠ [] := by
  obtain ⟨c, r, rfl, _, _⟩ := h; simp

/-! ### the scanner -/

/-- the model's scanning loop and the specification's `takeWhile` formulation agree on every text -/
theorem scanRest_eq (s : Text) :
    scanRest alnum s =
      match s.dropWhile (isPart alnum) with
      | t :: _ => if t = envSuffix then some (s.takeWhile (isPart alnum)) else none
      | [] => none := by
  induction s with
  | nil => rfl
  | cons c cs ih =>
    rw [scanRest]
    cases hc : isPart alnum c with
    | true =>
      rw [if_pos rfl, List.dropWhile_cons_of_pos hc, List.takeWhile_cons_of_pos hc, ih]
      cases cs.dropWhile (isPart alnum) with
      | nil => rfl
      | cons t _ => by_cases ht : t = envSuffix <;> simp only [ht, if_true, if_false]
    | false =>
      rw [if_neg Bool.false_ne_true, List.dropWhile_cons_of_neg (by rw [hc]; exact Bool.false_ne_true),
        List.takeWhile_cons_of_neg (by rw [hc]; exact Bool.false_ne_true)]

theorem scanRest_some {s n : Text} (h : scanRest alnum s = some n) :
    (∃ r, s = n ++ envSuffix :: r) ∧ ∀ x ∈ n, isPart alnum x = true := by
  rw [scanRest_eq] at h
  split at h
  · rename_i t r hdrop
    split at h
    · rename_i ht
      cases h
      exact ⟨⟨r, by rw [← ht, ← hdrop, List.takeWhile_append_dropWhile]⟩,
        fun x hx => List.all_eq_true.1 List.all_takeWhile x hx⟩
    · cases h
  · cases h

theorem scanRef_some {t n : Text} (h : scanRef alnum t = some n) :
    WfName alnum n ∧ ∃ r, t = n ++ envSuffix :: r := by
  cases t with
  | nil => cases h
  | cons c cs =>
    rw [scanRef] at h
    split at h
    · rename_i hc
      cases hr : scanRest alnum cs with
      | none => rw [hr] at h; cases h
      | some m =>
        rw [hr] at h
        cases h
        obtain ⟨⟨r, rfl⟩, hr2⟩ := scanRest_some hr
        exact ⟨⟨c, m, rfl, hc, hr2⟩, r, rfl⟩
    · cases h

theorem scanRest_of_parts (n r : Text)
    (hn : ∀ x ∈ n, isPart alnum x = true) (hs : isPart alnum envSuffix = false) :
    scanRest alnum (n ++ envSuffix :: r) = some n := by
  induction n with
  | nil => simp [scanRest, hs]
  | cons c n ih =>
    obtain ⟨hc, hn'⟩ := List.forall_mem_cons.1 hn
    rw [List.cons_append, scanRest, if_pos hc, ih hn']

theorem scanRef_of_wf {n : Text} (r : Text) (hn : WfName alnum n)
    (hs : isPart alnum envSuffix = false) : scanRef alnum (n ++ envSuffix :: r) = some n := by
  obtain ⟨c, m, rfl, hc, hm⟩ := hn
  rw [List.cons_append, scanRef, if_pos hc, scanRest_of_parts m r hm hs]

theorem scanRef_eq_refAt (t : Text) : scanRef alnum t = refAt alnum t := by
  cases t with
  | nil => rfl
  | cons c cs =>
    rw [scanRef, refAt]
    cases hs : isStart alnum c with
    | true =>
      have hp := isPart_of_isStart hs
      simp only [if_true, scanRest_eq, List.takeWhile_cons_of_pos hp, List.dropWhile_cons_of_pos hp]
      cases cs.dropWhile (isPart alnum) with
      | nil => rfl
      | cons t _ => by_cases ht : t = envSuffix <;> simp [ht, hs]
    | false =>
      rw [if_neg Bool.false_ne_true]
      cases hp : isPart alnum c with
      | true =>
        simp only [List.takeWhile_cons_of_pos hp, List.dropWhile_cons_of_pos hp]
        cases cs.dropWhile (isPart alnum) <;> simp [hs]
      | false =>
        have hp' : ¬ isPart alnum c = true := by rw [hp]; exact Bool.false_ne_true
        simp only [List.takeWhile_cons_of_neg hp', List.dropWhile_cons_of_neg hp']

/-! ### `lookup` -/

theorem lookup_mem {n v : Text} (h : lookup env n = some v) : (n, v) ∈ env := by
  induction env with
  | nil => cases h
  | cons e env ih =>
    obtain ⟨k, w⟩ := e
    rw [lookup] at h
    split at h
    · rename_i hk
      cases h; cases hk
      exact List.mem_cons_self
    · exact List.mem_cons_of_mem _ (ih h)

theorem lookup_append (x y : Env) (n : Text) :
    lookup (x ++ y) n = (lookup x n).orElse fun _ => lookup y n := by
  induction x with
  | nil => rfl
  | cons e x ih =>
    obtain ⟨k, w⟩ := e
    rw [List.cons_append, lookup, lookup, ih]
    split <;> rfl

/-! ### `substAt` -/

theorem refLit_eq (n : Text) : refLit n = '$' :: (envBody ++ (n ++ [envSuffix])) := rfl

theorem refLit_append (n r : Text) : refLit n ++ r = envPrefix ++ (n ++ envSuffix :: r) := by
  simp [refLit]

theorem refLit_ne_nil (n : Text) : refLit n ≠ [] := List.cons_ne_nil _ _

theorem utf8Len_refLit (n : Text) : utf8Len (refLit n) = 5 + utf8Len n + 1 := by
  rw [refLit, utf8Len_append, utf8Len_append, utf8Len_envPrefix]; rfl

theorem substAt_of_occ (t : Text) :
    substAt alnum env (envPrefix ++ t) =
      (scanRef alnum t).bind fun n => (lookup env n).map fun v => (n, v) := by
  have hd : (envPrefix ++ t).drop envPrefix.length = t := List.drop_left
  rw [substAt, if_pos (isPrefix_append _ _), hd, scanRef_eq_refAt]
  cases refAt alnum t with
  | none => rfl
  | some name => dsimp only [Option.bind_some]; cases lookup env name <;> rfl

theorem substAt_of_not_occ (s : Text)
    (h : isPrefix envPrefix s = false) : substAt alnum env s = none := by
  rw [substAt, h]; rfl

/-- where the pass substitutes, the text starts with the reference as written -/
theorem substAt_some {s n v : Text}
    (h : substAt alnum env s = some (n, v)) :
    ∃ r, s = refLit n ++ r ∧ scanRef alnum (n ++ envSuffix :: r) = some n ∧ lookup env n = some v := by
  cases hp : isPrefix envPrefix s with
  | false => rw [substAt_of_not_occ _ hp] at h; cases h
  | true =>
    obtain ⟨t, rfl⟩ := (isPrefix_iff _ _).1 hp
    rw [substAt_of_occ] at h
    obtain ⟨m, hs, h⟩ := Option.bind_eq_some_iff.1 h
    obtain ⟨w, hl, h⟩ := Option.map_eq_some_iff.1 h
    cases h
    obtain ⟨_, r, rfl⟩ := scanRef_some hs
    exact ⟨r, (refLit_append n r).symm, hs, hl⟩

theorem substAt_wf {s n v : Text}
    (h : substAt alnum env s = some (n, v)) : WfName alnum n ∧ lookup env n = some v := by
  obtain ⟨r, _, hs, hl⟩ := substAt_some h
  exact ⟨(scanRef_some hs).1, hl⟩

/-- the converse, when `}` is not a name character -/
theorem substAt_of_refLit (hs : isPart alnum envSuffix = false)
    {n v : Text} (r : Text) (hn : WfName alnum n) (hl : lookup env n = some v) :
    substAt alnum env (refLit n ++ r) = some (n, v) := by
  rw [refLit_append, substAt_of_occ, scanRef_of_wf r hn hs, Option.bind_some, hl]; rfl

/-! ### byte offsets at an occurrence `path = p ++ "$ENV{" ++ tail` -/

theorem splitAtByte_occ (p tail : Text) :
    splitAtByte (utf8Len p + ENV_PREFIX_LEN) (p ++ (envPrefix ++ tail)) = some (p ++ envPrefix, tail) := by
  have := splitAtByte_append (p ++ envPrefix) tail
  rwa [utf8Len_append, utf8Len_envPrefix, List.append_assoc] at this

/-- `match_end` is the end of the reference as written -/
theorem matchEnd_eq (p name : Text) :
    utf8Len p + ENV_PREFIX_LEN + utf8Len name + ENV_SUFFIX_LEN = utf8Len p + utf8Len (refLit name) := by
  rw [utf8Len_refLit, Nat.add_assoc, Nat.add_assoc, Nat.add_assoc]; rfl

theorem sliceBytes_ref {tail name : Text} (p : Text)
    (hs : scanRef alnum tail = some name) :
    sliceBytes (utf8Len p) (utf8Len p + ENV_PREFIX_LEN + utf8Len name + ENV_SUFFIX_LEN)
      (p ++ (envPrefix ++ tail)) = some (refLit name) := by
  obtain ⟨_, r, rfl⟩ := scanRef_some hs
  rw [matchEnd_eq, ← refLit_append]
  exact sliceBytes_mid p (refLit name) r

end Log4rs.EnvExpand
