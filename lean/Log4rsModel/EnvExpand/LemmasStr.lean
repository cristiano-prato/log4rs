import Log4rsModel.EnvExpand.Spec
/-
Text-level lemmas for C19: prefixes, `replaceAll`, UTF-8 byte offsets / `split_at` / slicing,
and `match_indices("$ENV{")` as the list of all occurrences.
-/
namespace Log4rs.EnvExpand
open Log4rs Log4rs.Str

/-! ### `isPrefix` -/

theorem isPrefix_iff (p s : Text) : isPrefix p s = true ↔ ∃ t, s = p ++ t := by
  induction p generalizing s with
  | nil => simp [isPrefix]
  | cons a p ih =>
    cases s with
    | nil => simp [isPrefix]
    | cons b s =>
      simp only [isPrefix, Bool.and_eq_true, decide_eq_true_eq, ih, List.cons_append, List.cons.injEq]
      constructor
      · rintro ⟨rfl, t, rfl⟩; exact ⟨t, rfl, rfl⟩
      · rintro ⟨t, rfl, rfl⟩; exact ⟨rfl, t, rfl⟩

theorem isPrefix_append (p t : Text) : isPrefix p (p ++ t) = true := (isPrefix_iff _ _).2 ⟨t, rfl⟩

theorem isPrefix_false_of_head_ne {a b : Char} (p s : Text) (h : a ≠ b) :
    isPrefix (a :: p) (b :: s) = false := by
  simp [isPrefix, h]

theorem isPrefix_append_cases {p x y : Text} (h : isPrefix p (x ++ y) = true) :
    isPrefix p x = true ∨ ∃ q, q ≠ [] ∧ p = x ++ q ∧ isPrefix q y = true := by
  obtain ⟨t, ht⟩ := (isPrefix_iff _ _).1 h
  rcases List.append_eq_append_iff.1 ht with ⟨c, rfl, rfl⟩ | ⟨a, rfl, rfl⟩
  · cases c with
    | nil => exact Or.inl (by simpa using isPrefix_append x [])
    | cons e c => exact Or.inr ⟨e :: c, List.cons_ne_nil _ _, rfl, isPrefix_append _ _⟩
  · exact Or.inl (isPrefix_append _ _)

/-! ### `replaceAll` -/

theorem replaceAllGo_skip (pat val : Text) (k : Nat) (s : Text) :
    replaceAllGo pat val k s = replaceAllGo pat val 0 (s.drop k) := by
  induction s generalizing k with
  | nil => cases k <;> rfl
  | cons c rest ih =>
    cases k with
    | zero => rfl
    | succ k => exact ih k

theorem replaceAllGo_match (pat val t : Text) (hp : pat ≠ []) :
    replaceAllGo pat val 0 (pat ++ t) = val ++ replaceAllGo pat val 0 t := by
  cases pat with
  | nil => exact absurd rfl hp
  | cons a p =>
    have h : isPrefix (a :: p) (a :: (p ++ t)) = true := isPrefix_append (a :: p) t
    rw [List.cons_append, replaceAllGo, if_pos h, replaceAllGo_skip, List.length_cons,
      Nat.add_sub_cancel, List.drop_left]

theorem replaceAllGo_nomatch (pat val : Text) (c : Char) (rest : Text)
    (h : isPrefix pat (c :: rest) = false) :
    replaceAllGo pat val 0 (c :: rest) = c :: replaceAllGo pat val 0 rest := by
  rw [replaceAllGo, h]; rfl

/-- a block in which no occurrence starts is copied -/
theorem replaceAllGo_block (pat val w x : Text)
    (h : ∀ a b, w = a ++ b → b ≠ [] → isPrefix pat (b ++ x) = false) :
    replaceAllGo pat val 0 (w ++ x) = w ++ replaceAllGo pat val 0 x := by
  induction w with
  | nil => rfl
  | cons c w ih =>
    have h0 : isPrefix pat (c :: (w ++ x)) = false := h [] (c :: w) rfl (List.cons_ne_nil _ _)
    rw [List.cons_append, replaceAllGo_nomatch _ _ _ _ h0,
      ih fun a b hab hb => h (c :: a) b (by rw [hab]; rfl) hb]
    rfl

theorem replaceAll_eq (pat val s : Text) (hp : pat ≠ []) :
    replaceAll pat val s = replaceAllGo pat val 0 s := by
  cases pat with
  | nil => exact absurd rfl hp
  | cons a p => rfl

/-- a pattern starting with `d` never matches inside a block free of `d` -/
theorem replaceAllGo_block_free (d : Char) (p val w x : Text) (hw : d ∉ w) :
    replaceAllGo (d :: p) val 0 (w ++ x) = w ++ replaceAllGo (d :: p) val 0 x := by
  apply replaceAllGo_block
  intro a b hab hb
  cases b with
  | nil => exact absurd rfl hb
  | cons c b =>
    have hc : c ∈ w := by rw [hab]; simp
    exact isPrefix_false_of_head_ne _ _ fun e => hw (e ▸ hc)

theorem replaceAllGo_free (d : Char) (p val w : Text) (hw : d ∉ w) :
    replaceAllGo (d :: p) val 0 w = w := by
  have := replaceAllGo_block_free d p val w [] hw
  rwa [List.append_nil, replaceAllGo, List.append_nil] at this

/-! ### UTF-8 byte offsets -/

theorem utf8Len_append (a b : Text) : utf8Len (a ++ b) = utf8Len a + utf8Len b := by
  induction a with
  | nil => simp [utf8Len]
  | cons c a ih => simp [utf8Len, ih, Nat.add_assoc]

theorem utf8Len_envPrefix : utf8Len envPrefix = 5 := by decide

theorem utf8Len_eq_zero {a : Text} (h : utf8Len a = 0) : a = [] := by
  cases a with
  | nil => rfl
  | cons c a => exact absurd h (Nat.ne_of_gt (Nat.add_pos_left (Char.utf8Size_pos c) _))

theorem splitAtByte_zero (s : Text) : splitAtByte 0 s = some ([], s) := by
  cases s <;> rfl

theorem splitAtByte_cons (c : Char) (k : Nat) (b : Text) :
    splitAtByte (c.utf8Size + k) (c :: b) = (splitAtByte k b).map (fun q => (c :: q.1, q.2)) := by
  obtain ⟨m, hm⟩ := Nat.exists_eq_succ_of_ne_zero (Nat.ne_of_gt (Char.utf8Size_pos c))
  have h1 : c.utf8Size ≤ m + k + 1 := hm ▸ Nat.succ_le_succ (Nat.le_add_right m k)
  have h2 : m + k + 1 - c.utf8Size = k := by rw [hm, Nat.add_right_comm, Nat.add_sub_cancel_left]
  have h3 : c.utf8Size + k = m + k + 1 := by rw [hm, Nat.add_right_comm]
  rw [h3, splitAtByte, if_pos h1, h2]
  cases splitAtByte k b <;> rfl

theorem splitAtByte_append (a b : Text) : splitAtByte (utf8Len a) (a ++ b) = some (a, b) := by
  induction a with
  | nil => exact splitAtByte_zero b
  | cons c a ih => rw [utf8Len, List.cons_append, splitAtByte_cons, ih]; rfl

theorem splitAtByte_sound {n : Nat} {s a b : Text} (h : splitAtByte n s = some (a, b)) :
    s = a ++ b ∧ utf8Len a = n := by
  fun_induction splitAtByte n s generalizing a b with
  | case1 s => cases h; exact ⟨rfl, rfl⟩
  | case2 => cases h
  | case3 n c rest hle x y hxy ih =>
    cases h
    obtain ⟨rfl, h2⟩ := ih hxy
    exact ⟨rfl, by rw [utf8Len, h2]; exact Nat.add_sub_of_le hle⟩
  | case4 => cases h
  | case5 => cases h

/-- byte offset `n` is within `s` and on a character boundary -/
def IsCharBoundary (s : Text) (n : Nat) : Prop := ∃ a b, s = a ++ b ∧ utf8Len a = n

theorem splitAtByte_isSome_iff (n : Nat) (s : Text) :
    (splitAtByte n s).isSome = true ↔ IsCharBoundary s n := by
  constructor
  · intro h
    cases hs : splitAtByte n s with
    | none => simp [hs] at h
    | some p => exact ⟨p.1, p.2, splitAtByte_sound hs⟩
  · rintro ⟨a, b, rfl, rfl⟩
    rw [splitAtByte_append]; rfl

theorem IsCharBoundary.le {s : Text} {n : Nat} (h : IsCharBoundary s n) : n ≤ utf8Len s := by
  obtain ⟨a, b, rfl, rfl⟩ := h
  rw [utf8Len_append]; exact Nat.le_add_right _ _

theorem prefix_of_utf8Len_le {a b x y : Text} (h : a ++ x = b ++ y) (hle : utf8Len a ≤ utf8Len b) :
    ∃ pend, b = a ++ pend := by
  rcases List.append_eq_append_iff.1 h with ⟨a', hb, _⟩ | ⟨c', ha, _⟩
  · exact ⟨a', hb⟩
  · rw [ha, utf8Len_append] at hle
    obtain rfl : c' = [] := utf8Len_eq_zero (Nat.le_zero.1 (Nat.le_of_add_le_add_left (a := utf8Len b) hle))
    exact ⟨[], by simpa using ha.symm⟩

theorem sliceBytes_mid (a m b : Text) :
    sliceBytes (utf8Len a) (utf8Len a + utf8Len m) (a ++ (m ++ b)) = some m := by
  simp [sliceBytes, splitAtByte_append]

theorem sliceFrom_append (a b : Text) : sliceFrom (utf8Len a) (a ++ b) = some b := by
  simp [sliceFrom, splitAtByte_append]

/-! ### occurrences of `$ENV{` -/

def envBody : Text := ['E', 'N', 'V', '{']

/-- every occurrence of `$ENV{` in `s`: (text before it, text after it) -/
def occs : Text → List (Text × Text)
  | [] => []
  | c :: rest =>
    (if isPrefix envPrefix (c :: rest) then [([], rest.drop 4)] else []) ++
      (occs rest).map (fun o => (c :: o.1, o.2))

theorem occs_sound {s : Text} {o : Text × Text} (h : o ∈ occs s) : s = o.1 ++ (envPrefix ++ o.2) := by
  induction s generalizing o with
  | nil => cases h
  | cons c rest ih =>
    rw [occs, List.mem_append, List.mem_map] at h
    rcases h with h | ⟨o', ho', rfl⟩
    · split at h
      · rename_i hp
        obtain rfl := List.mem_singleton.1 h
        obtain ⟨t, ht⟩ := (isPrefix_iff _ _).1 hp
        obtain ⟨rfl, rfl⟩ := List.cons.inj ht
        rfl
      · cases h
    · exact congrArg (c :: ·) (ih ho')

theorem occs_complete (a t : Text) : (a, t) ∈ occs (a ++ (envPrefix ++ t)) := by
  induction a with
  | nil =>
    have h : isPrefix envPrefix ('$' :: (envBody ++ t)) = true := isPrefix_append envPrefix t
    show _ ∈ occs ('$' :: (envBody ++ t))
    rw [occs, if_pos h]
    exact List.mem_append_left _ (List.mem_singleton.2 rfl)
  | cons c a ih =>
    rw [List.cons_append, occs]
    exact List.mem_append_right _ (List.mem_map.2 ⟨(a, t), ih, rfl⟩)

/-- offsets of the occurrences in `s`, when `s` is preceded by `p` -/
def occsShift (p s : Text) : List Nat := (occs s).map (fun o => utf8Len (p ++ o.1))

theorem occsShift_cons (p : Text) (c : Char) (rest : Text) :
    occsShift p (c :: rest) =
      (if isPrefix envPrefix (c :: rest) then [utf8Len p] else []) ++ occsShift (p ++ [c]) rest := by
  simp only [occsShift, occs, List.map_append, List.map_map]
  congr 1
  · split <;> simp
  · apply List.map_congr_left
    intro o _
    simp

theorem utf8Len_snoc (p : Text) (c : Char) : utf8Len (p ++ [c]) = utf8Len p + c.utf8Size := by
  rw [utf8Len_append]; rfl

/-- no occurrence starts in a block free of `$` -/
theorem occsShift_no_dollar (w p t : Text) (hw : '$' ∉ w) :
    occsShift p (w ++ t) = occsShift (p ++ w) t := by
  induction w generalizing p with
  | nil => rw [List.append_nil]; rfl
  | cons c w ih =>
    have hc : isPrefix envPrefix (c :: (w ++ t)) = false :=
      isPrefix_false_of_head_ne _ _ fun e => hw (e ▸ List.mem_cons_self)
    rw [List.cons_append, occsShift_cons, hc, ih _ fun h => hw (List.mem_cons_of_mem _ h),
      List.append_assoc]
    rfl

theorem occsShift_occ (p t : Text) :
    occsShift p (envPrefix ++ t) = utf8Len p :: occsShift (p ++ envPrefix) t := by
  have h : isPrefix envPrefix ('$' :: (envBody ++ t)) = true := isPrefix_append envPrefix t
  show occsShift p ('$' :: (envBody ++ t)) = _
  rw [occsShift_cons, if_pos h, occsShift_no_dollar envBody _ t (by decide),
    List.append_assoc]
  rfl

theorem matchIndicesGo_skip (pat : Text) (w t : Text) (off : Nat) :
    matchIndicesGo pat w.length off (w ++ t) = matchIndicesGo pat 0 (off + utf8Len w) t := by
  induction w generalizing off with
  | nil => rfl
  | cons c w ih => rw [List.cons_append, List.length_cons, matchIndicesGo, ih, utf8Len, Nat.add_assoc]

theorem matchIndicesGo_occ (t : Text) (off : Nat) :
    matchIndicesGo envPrefix 0 off (envPrefix ++ t) = off :: matchIndicesGo envPrefix 0 (off + 5) t := by
  have h : isPrefix envPrefix ('$' :: (envBody ++ t)) = true := isPrefix_append envPrefix t
  show matchIndicesGo envPrefix 0 off ('$' :: (envBody ++ t)) = _
  rw [matchIndicesGo, if_pos h]
  exact congrArg (off :: ·) (matchIndicesGo_skip envPrefix envBody t _)

/-- `match_indices` lists every occurrence: `$ENV{` does not overlap itself, the four characters
`ENV{` passed over after a match start none -/
theorem matchIndicesGo_occs (n : Nat) :
    ∀ (s p : Text), s.length ≤ n →
      matchIndicesGo envPrefix 0 (utf8Len p) s = occsShift p s := by
  induction n with
  | zero =>
    intro s p hs
    obtain rfl : s = [] := List.eq_nil_of_length_eq_zero (Nat.le_zero.1 hs)
    rfl
  | succ n ih =>
    intro s p hs
    cases s with
    | nil => rfl
    | cons c rest =>
      have hrest : rest.length ≤ n := Nat.le_of_succ_le_succ hs
      by_cases hp : isPrefix envPrefix (c :: rest) = true
      · obtain ⟨t, ht⟩ := (isPrefix_iff _ _).1 hp
        have ht' : t.length ≤ n := by
          rw [List.cons.inj ht |>.2] at hrest
          exact Nat.le_trans (Nat.le_add_left _ _) (List.length_append ▸ hrest)
        rw [ht, matchIndicesGo_occ, occsShift_occ, ← ih t _ ht', utf8Len_append, utf8Len_envPrefix]
      · rw [occsShift_cons, if_neg hp, matchIndicesGo, if_neg hp, ← utf8Len_snoc, ih rest _ hrest]
        rfl

theorem matchIndices_occs (s : Text) :
    matchIndices envPrefix s = (occs s).map (fun o => utf8Len o.1) :=
  matchIndicesGo_occs s.length s [] (Nat.le_refl _)

theorem matchIndices_mem {path : Text} {m : Nat} (h : m ∈ matchIndices envPrefix path) :
    ∃ p tail, path = p ++ (envPrefix ++ tail) ∧ m = utf8Len p := by
  rw [matchIndices_occs, List.mem_map] at h
  obtain ⟨o, ho, rfl⟩ := h
  exact ⟨o.1, o.2, occs_sound ho, rfl⟩

end Log4rs.EnvExpand
