/-
UTF-8 as the pattern writers see it: bytes are `Nat`s below 256, a *lead* byte is one that starts
a character (`is_char_boundary(b) = (b as i8) >= -0x40`, i.e. `b < 128 || b >= 192`), every other
byte is a continuation byte. `leads` is `char_starts` of `encode/pattern/mod.rs`.
Model file: core only.
-/
namespace Log4rs

abbrev Bytes := List Nat

/-- the 1–4 byte UTF-8 encoding of one scalar value (`char::encode_utf8`) -/
def utf8Char (c : Char) : Bytes :=
  let n := c.toNat
  if n < 0x80 then [n]
  else if n < 0x800 then [0xC0 + n / 64, 0x80 + n % 64]
  else if n < 0x10000 then [0xE0 + n / 4096, 0x80 + (n / 64) % 64, 0x80 + n % 64]
  else [0xF0 + n / 262144, 0x80 + (n / 4096) % 64, 0x80 + (n / 64) % 64, 0x80 + n % 64]

/-- `str::as_bytes` -/
def utf8 (s : List Char) : Bytes := s.flatMap utf8Char

/-- `is_char_boundary` of `encode/pattern/mod.rs` -/
def isLead (b : Nat) : Bool := b < 128 || b ≥ 192

/-- `char_starts` of `encode/pattern/mod.rs` -/
def leads (b : Bytes) : Nat := (b.filter isLead).length

/-- strict UTF-8 decoder (used by the driver for the `String::from_utf8` clause): the code point of
the next character and the number of bytes it occupies -/
def decodeOne : Bytes → Option (Nat × Nat)
  | [] => none
  | b0 :: rest =>
    let cont (b : Nat) : Bool := 128 ≤ b && b < 192
    if b0 < 128 then some (b0, 1)
    else if 192 ≤ b0 && b0 < 224 then
      match rest with
      | b1 :: _ => if cont b1 then some ((b0 - 192) * 64 + (b1 - 128), 2) else none
      | _ => none
    else if 224 ≤ b0 && b0 < 240 then
      match rest with
      | b1 :: b2 :: _ =>
        if cont b1 && cont b2 then some ((b0 - 224) * 4096 + (b1 - 128) * 64 + (b2 - 128), 3) else none
      | _ => none
    else if 240 ≤ b0 && b0 < 248 then
      match rest with
      | b1 :: b2 :: b3 :: _ =>
        if cont b1 && cont b2 && cont b3 then
          some ((b0 - 240) * 262144 + (b1 - 128) * 4096 + (b2 - 128) * 64 + (b3 - 128), 4)
        else none
      | _ => none
    else none

/-- `String::from_utf8`: `some cs` iff the bytes are exactly `utf8 cs` (shortest form, no
surrogates); fuel = number of bytes -/
def decodeUtf8Fuel : Nat → Bytes → Option (List Char)
  | _, [] => some []
  | 0, _ :: _ => none
  | fuel + 1, b =>
    match decodeOne b with
    | none => none
    | some (n, k) =>
      if h : n.isValidChar then
        let c := Char.ofNatAux n h
        if utf8Char c = b.take k then
          match decodeUtf8Fuel fuel (b.drop k) with
          | some cs => some (c :: cs)
          | none => none
        else none
      else none

def decodeUtf8 (b : Bytes) : Option (List Char) := decodeUtf8Fuel b.length b

theorem leads_nil : leads [] = 0 := rfl

theorem leads_cons_lead {x : Nat} (hx : isLead x = true) (xs : Bytes) :
    leads (x :: xs) = leads xs + 1 := by
  rw [leads, List.filter_cons_of_pos hx]; rfl

theorem leads_cons_cont {x : Nat} (hx : isLead x = false) (xs : Bytes) : leads (x :: xs) = leads xs := by
  rw [leads, List.filter_cons_of_neg (ne_true_of_eq_false hx)]; rfl

theorem leads_append (a b : Bytes) : leads (a ++ b) = leads a + leads b := by
  simp [leads, List.filter_append]

theorem leads_take_add_drop (b : Bytes) (n : Nat) : leads (b.take n) + leads (b.drop n) = leads b := by
  rw [← leads_append, List.take_append_drop]

theorem leads_le_length (b : Bytes) : leads b ≤ b.length := List.length_filter_le _ _

theorem leads_cont (t : Bytes) (h : ∀ b ∈ t, isLead b = false) : leads t = 0 := by
  induction t with
  | nil => rfl
  | cons x xs ih =>
    rw [leads_cons_cont (h x List.mem_cons_self), ih (fun b hb => h b (List.mem_cons_of_mem _ hb))]

theorem isLead_of_lt {b : Nat} (h : b < 128) : isLead b = true := by simp [isLead, h]

theorem isLead_of_ge {b : Nat} (h : 192 ≤ b) : isLead b = true := by simp [isLead, h]

theorem isLead_cont (x : Nat) : isLead (128 + x % 64) = false := by
  have h : 128 + x % 64 < 192 := Nat.add_lt_add_left (Nat.mod_lt x (by decide)) 128
  simp [isLead, Nat.not_le.2 h]

theorem char_toNat_lt (c : Char) : c.toNat < 0x110000 := by
  have := c.valid
  unfold UInt32.isValidChar Nat.isValidChar at this
  show c.val.toNat < _
  omega

theorem utf8Char_cases (c : Char) :
    (c.toNat < 0x80 ∧ utf8Char c = [c.toNat]) ∨
    (0x80 ≤ c.toNat ∧ c.toNat < 0x800 ∧
      utf8Char c = [0xC0 + c.toNat / 64, 0x80 + c.toNat % 64]) ∨
    (0x800 ≤ c.toNat ∧ c.toNat < 0x10000 ∧
      utf8Char c = [0xE0 + c.toNat / 4096, 0x80 + (c.toNat / 64) % 64, 0x80 + c.toNat % 64]) ∨
    (0x10000 ≤ c.toNat ∧ c.toNat < 0x110000 ∧
      utf8Char c = [0xF0 + c.toNat / 262144, 0x80 + (c.toNat / 4096) % 64,
        0x80 + (c.toNat / 64) % 64, 0x80 + c.toNat % 64]) := by
  unfold utf8Char
  by_cases h1 : c.toNat < 0x80
  · exact .inl ⟨h1, if_pos h1⟩
  · by_cases h2 : c.toNat < 0x800
    · exact .inr (.inl ⟨Nat.le_of_not_lt h1, h2, (if_neg h1).trans (if_pos h2)⟩)
    · by_cases h3 : c.toNat < 0x10000
      · exact .inr (.inr (.inl ⟨Nat.le_of_not_lt h2, h3,
          (if_neg h1).trans ((if_neg h2).trans (if_pos h3))⟩))
      · exact .inr (.inr (.inr ⟨Nat.le_of_not_lt h3, char_toNat_lt c,
          (if_neg h1).trans ((if_neg h2).trans (if_neg h3))⟩))

/-- a byte of the encoding is the scalar value itself (one-byte form) or at least 0x80 -/
theorem utf8Char_byte (c : Char) : ∀ b ∈ utf8Char c, b = c.toNat ∨ 0x80 ≤ b := by
  have big : ∀ k x : Nat, 0x80 ≤ k → 0x80 ≤ k + x := fun k x h => Nat.le_trans h (Nat.le_add_right k x)
  intro b
  rcases utf8Char_cases c with ⟨_, e⟩ | ⟨_, _, e⟩ | ⟨_, _, e⟩ | ⟨_, _, e⟩
  all_goals
    rw [e]
    simp only [List.mem_cons, List.not_mem_nil, or_false]
  · exact Or.inl
  · rintro (rfl | rfl) <;> exact Or.inr (big _ _ (by decide))
  · rintro (rfl | rfl | rfl) <;> exact Or.inr (big _ _ (by decide))
  · rintro (rfl | rfl | rfl | rfl) <;> exact Or.inr (big _ _ (by decide))

theorem utf8Char_shape (c : Char) :
    ∃ h t, utf8Char c = h :: t ∧ isLead h = true ∧ (∀ b ∈ t, isLead b = false) ∧ t.length ≤ 3 := by
  have cont (l : List Nat) : ∀ b ∈ l.map (128 + · % 64), isLead b = false := fun b hb => by
    obtain ⟨x, _, rfl⟩ := List.mem_map.1 hb
    exact isLead_cont x
  have lead {lo : Nat} (a : Nat) (h : 192 ≤ lo) : isLead (lo + a) = true :=
    isLead_of_ge (Nat.le_add_right_of_le h)
  rcases utf8Char_cases c with ⟨h, e⟩ | ⟨_, _, e⟩ | ⟨_, _, e⟩ | ⟨_, _, e⟩
  · exact ⟨_, _, e, isLead_of_lt h, cont [], Nat.zero_le 3⟩
  · exact ⟨_, _, e, lead _ (by decide), cont [c.toNat], (by decide : 1 ≤ 3)⟩
  · exact ⟨_, _, e, lead _ (by decide), cont [c.toNat / 64, c.toNat], (by decide : 2 ≤ 3)⟩
  · exact ⟨_, _, e, lead _ (by decide), cont [c.toNat / 4096, c.toNat / 64, c.toNat], Nat.le_refl 3⟩

theorem utf8Char_head_lead (c : Char) : ∃ h t, utf8Char c = h :: t ∧ isLead h = true := by
  obtain ⟨h, t, e, hl, _, _⟩ := utf8Char_shape c
  exact ⟨h, t, e, hl⟩

theorem utf8Char_tail_cont (c : Char) : ∀ b ∈ (utf8Char c).tail, isLead b = false := by
  obtain ⟨h, t, e, _, hc, _⟩ := utf8Char_shape c
  rw [e]; exact hc

theorem utf8Char_length (c : Char) : 1 ≤ (utf8Char c).length ∧ (utf8Char c).length ≤ 4 := by
  obtain ⟨h, t, e, _, _, hl⟩ := utf8Char_shape c
  rw [e]
  exact ⟨Nat.succ_le_succ (Nat.zero_le _), Nat.succ_le_succ hl⟩

theorem leads_utf8Char (c : Char) : leads (utf8Char c) = 1 := by
  obtain ⟨h, t, e, hl, hc, _⟩ := utf8Char_shape c
  rw [e, leads_cons_lead hl, leads_cont t hc]

theorem utf8_nil : utf8 [] = [] := rfl

theorem utf8_cons (c : Char) (cs : List Char) : utf8 (c :: cs) = utf8Char c ++ utf8 cs := by
  simp [utf8]

theorem utf8_append (a b : List Char) : utf8 (a ++ b) = utf8 a ++ utf8 b := by
  simp [utf8]

theorem utf8_singleton (c : Char) : utf8 [c] = utf8Char c := by simp [utf8]

/-- `char_starts(s.as_bytes()) = s.chars().count()` -/
theorem leads_utf8 (cs : List Char) : leads (utf8 cs) = cs.length := by
  induction cs with
  | nil => rfl
  | cons c cs ih => rw [utf8_cons, leads_append, leads_utf8Char, ih, List.length_cons, Nat.add_comm]

theorem utf8_eq_nil (cs : List Char) : utf8 cs = [] ↔ cs = [] := by
  refine ⟨fun h => List.eq_nil_of_length_eq_zero ?_, fun h => h ▸ rfl⟩
  rw [← leads_utf8, h]; rfl

/-- the decoder only accepts what the encoder produces: `String::from_utf8(b) = Ok(s)` implies
`b = s.as_bytes()` -/
theorem decodeUtf8Fuel_sound : ∀ fuel b cs, decodeUtf8Fuel fuel b = some cs → b = utf8 cs := by
  intro fuel
  induction fuel with
  | zero =>
    intro b cs h
    cases b with
    | nil => cases h; rfl
    | cons x xs => cases h
  | succ fuel ih =>
    intro b cs h
    cases b with
    | nil => cases h; rfl
    | cons x xs =>
      simp only [decodeUtf8Fuel] at h
      match decodeOne (x :: xs), h with
      | some (n, k), h =>
        dsimp only at h
        by_cases hv : n.isValidChar
        · rw [dif_pos hv] at h
          by_cases henc : utf8Char (Char.ofNatAux n hv) = (x :: xs).take k
          · rw [if_pos henc] at h
            match hrec : decodeUtf8Fuel fuel ((x :: xs).drop k), h with
            | some cs', h =>
              cases h
              rw [utf8_cons, henc, ← ih _ _ hrec, List.take_append_drop]
          · rw [if_neg henc] at h; cases h
        · rw [dif_neg hv] at h; cases h

theorem decodeUtf8_sound (b : Bytes) (cs : List Char) (h : decodeUtf8 b = some cs) : b = utf8 cs :=
  decodeUtf8Fuel_sound _ _ _ h

/- The decoder accepts every encoding. First `decodeOne` on a well-formed sequence, written with its
payload digits: `a` in the lead byte, `x, y, z < 64` in the continuation bytes. Each proof walks
through the decoder's range tests. -/

theorem decodeOne_one (b : Nat) (rest : Bytes) (h : b < 128) : decodeOne (b :: rest) = some (b, 1) := by
  unfold decodeOne; exact if_pos h

/-- `lo + a` with `a < w` passes the decoder's test for the range `[lo, lo + w)` … -/
theorem inRange (lo : Nat) {a w : Nat} (ha : a < w) :
    (decide (lo ≤ lo + a) && decide (lo + a < lo + w)) = true := by
  simp only [Nat.le_add_right, Nat.add_lt_add_left ha, decide_true, Bool.and_self]

/-- … and fails the tests for everything below `lo` -/
theorem not_lt_lead {hi lo : Nat} (a : Nat) (h : hi ≤ lo) : ¬ lo + a < hi :=
  Nat.not_lt.2 (Nat.le_add_right_of_le h)

theorem not_inRange {k hi lo : Nat} (a : Nat) (h : hi ≤ lo) :
    ¬ (decide (k ≤ lo + a) && decide (lo + a < hi)) = true := by
  simp only [not_lt_lead a h, decide_false, Bool.and_false, Bool.false_eq_true, not_false_eq_true]

theorem decodeOne_two (a x : Nat) (rest : Bytes) (ha : a < 32) (hx : x < 64) :
    decodeOne ((192 + a) :: (128 + x) :: rest) = some (a * 64 + x, 2) := by
  unfold decodeOne
  refine (if_neg (not_lt_lead a (by decide))).trans
    ((if_pos (inRange 192 ha)).trans ((if_pos (inRange 128 hx)).trans ?_))
  simp only [Nat.add_sub_cancel_left]

theorem decodeOne_three (a x y : Nat) (rest : Bytes) (ha : a < 16) (hx : x < 64) (hy : y < 64) :
    decodeOne ((224 + a) :: (128 + x) :: (128 + y) :: rest) = some (a * 4096 + x * 64 + y, 3) := by
  unfold decodeOne
  refine (if_neg (not_lt_lead a (by decide))).trans ((if_neg (not_inRange a (by decide))).trans
    ((if_pos (inRange 224 ha)).trans ((if_pos ?_).trans ?_)))
  · simp only [inRange 128 hx, inRange 128 hy, Bool.and_self]
  · simp only [Nat.add_sub_cancel_left]

theorem decodeOne_four (a x y z : Nat) (rest : Bytes) (ha : a < 8) (hx : x < 64) (hy : y < 64)
    (hz : z < 64) :
    decodeOne ((240 + a) :: (128 + x) :: (128 + y) :: (128 + z) :: rest) =
      some (a * 262144 + x * 4096 + y * 64 + z, 4) := by
  unfold decodeOne
  refine (if_neg (not_lt_lead a (by decide))).trans ((if_neg (not_inRange a (by decide))).trans
    ((if_neg (not_inRange a (by decide))).trans
      ((if_pos (inRange 240 ha)).trans ((if_pos ?_).trans ?_))))
  · simp only [inRange 128 hx, inRange 128 hy, inRange 128 hz, Bool.and_self]
  · simp only [Nat.add_sub_cancel_left]

/-- positional notation in base 64: the two leading digit groups of `n` above position `k` -/
theorem digits64_step (n k : Nat) : n / (64 * k) * (64 * k) + n / k % 64 * k = n / k * k := by
  rw [Nat.mul_comm 64 k, ← Nat.div_div_eq_div_mul, Nat.mul_comm k 64, ← Nat.mul_assoc, ← Nat.add_mul,
    Nat.div_add_mod']

theorem digits64_three (n : Nat) : n / 4096 * 4096 + n / 64 % 64 * 64 + n % 64 = n := by
  have h : n / 4096 * 4096 + n / 64 % 64 * 64 = n / 64 * 64 := digits64_step n 64
  rw [h, Nat.div_add_mod']

theorem digits64_four (n : Nat) :
    n / 262144 * 262144 + n / 4096 % 64 * 4096 + n / 64 % 64 * 64 + n % 64 = n := by
  have h : n / 262144 * 262144 + n / 4096 % 64 * 4096 = n / 4096 * 4096 := digits64_step n 4096
  rw [h, digits64_three]

theorem decodeOne_utf8Char (c : Char) (rest : Bytes) :
    decodeOne (utf8Char c ++ rest) = some (c.toNat, (utf8Char c).length) := by
  have m (k : Nat) : k % 64 < 64 := Nat.mod_lt k (by decide)
  rcases utf8Char_cases c with ⟨h, e⟩ | ⟨_, h, e⟩ | ⟨_, h, e⟩ | ⟨_, h, e⟩ <;> rw [e]
  · exact decodeOne_one _ _ h
  · exact (decodeOne_two _ _ rest (Nat.div_lt_of_lt_mul h) (m _)).trans
      (by rw [Nat.div_add_mod']; rfl)
  · exact (decodeOne_three _ _ _ rest (Nat.div_lt_of_lt_mul h) (m _) (m _)).trans
      (by rw [digits64_three]; rfl)
  · exact (decodeOne_four _ _ _ _ rest (Nat.div_lt_of_lt_mul (Nat.lt_trans h (by decide))) (m _) (m _) (m _)).trans
      (by rw [digits64_four]; rfl)

theorem ofNatAux_toNat (c : Char) (h : c.toNat.isValidChar) : Char.ofNatAux c.toNat h = c :=
  Char.ext rfl

theorem decodeUtf8Fuel_complete : ∀ (cs : List Char) (fuel : Nat), (utf8 cs).length ≤ fuel →
    decodeUtf8Fuel fuel (utf8 cs) = some cs := by
  intro cs
  induction cs with
  | nil => intro fuel _; cases fuel <;> simp [utf8, decodeUtf8Fuel]
  | cons c cs ih =>
    intro fuel hf
    have hl := utf8Char_length c
    rw [utf8_cons] at hf ⊢
    simp only [List.length_append] at hf
    cases fuel with
    | zero => omega
    | succ fuel =>
      obtain ⟨h0, t0, e0, _⟩ := utf8Char_head_lead c
      have hne : utf8Char c ++ utf8 cs = h0 :: (t0 ++ utf8 cs) := by rw [e0]; rfl
      have hvalid : c.toNat.isValidChar := c.valid
      rw [hne, decodeUtf8Fuel, ← hne, decodeOne_utf8Char]
      case x_2 => simp
      simp only [hvalid, dite_true, ofNatAux_toNat, List.take_left', List.drop_left', if_true]
      rw [ih fuel (by omega)]

theorem decodeUtf8_complete (cs : List Char) : decodeUtf8 (utf8 cs) = some cs :=
  decodeUtf8Fuel_complete cs _ (Nat.le_refl _)

theorem toNat_ofNat_lead {n d w : Nat} (base : Nat) (h : n < d * w) (hb : w + base ≤ 256) :
    (UInt8.ofNat (n / d % w + base)).toNat = base + n / d := by
  have ha : n / d < w := Nat.div_lt_of_lt_mul h
  rw [Nat.mod_eq_of_lt ha, UInt8.toNat_ofNat_of_lt' (Nat.lt_of_lt_of_le (Nat.add_lt_add_right ha base) hb),
    Nat.add_comm]

theorem toNat_ofNat_cont (x : Nat) : (UInt8.ofNat (x % 0x40 + 0x80)).toNat = 0x80 + x % 64 := by
  rw [UInt8.toNat_ofNat_of_lt' (Nat.lt_trans (Nat.add_lt_add_right (Nat.mod_lt x (by decide)) 0x80) (by decide)),
    Nat.add_comm]

/-- `utf8Char` = `String.utf8EncodeChar` (the encoder behind `String.toUTF8`), byte for byte -/
theorem utf8Char_core (c : Char) : (String.utf8EncodeChar c).map UInt8.toNat = utf8Char c := by
  have nle {k lo : Nat} (hk : k < lo) (h : lo ≤ c.toNat) : ¬ c.toNat ≤ k :=
    Nat.not_le.2 (Nat.lt_of_lt_of_le hk h)
  have hn : c.val.toNat = c.toNat := rfl
  unfold String.utf8EncodeChar
  simp only [hn]
  rcases utf8Char_cases c with ⟨h, e⟩ | ⟨h1, h, e⟩ | ⟨h1, h, e⟩ | ⟨h1, h, e⟩ <;> rw [e]
  · rw [if_pos (Nat.le_of_lt_succ h)]
    simp only [List.map_cons, List.map_nil, UInt8.toNat_ofNat_of_lt' (Nat.lt_trans h (by decide))]
  · rw [if_neg (nle (by decide) h1), if_pos (Nat.le_of_lt_succ h)]
    simp only [List.map_cons, List.map_nil, toNat_ofNat_cont, toNat_ofNat_lead (d := 64) (w := 32) 0xc0 h (by decide)]
  · rw [if_neg (nle (by decide) h1), if_neg (nle (by decide) h1), if_pos (Nat.le_of_lt_succ h)]
    simp only [List.map_cons, List.map_nil, toNat_ofNat_cont, toNat_ofNat_lead (d := 4096) (w := 16) 0xe0 h (by decide)]
  · rw [if_neg (nle (by decide) h1), if_neg (nle (by decide) h1), if_neg (nle (by decide) h1)]
    simp only [List.map_cons, List.map_nil, toNat_ofNat_cont,
      toNat_ofNat_lead (d := 262144) (w := 8) 0xf0 (Nat.lt_trans h (by decide)) (by decide)]

/-- … hence `utf8 cs` is exactly the bytes of the Lean string with these characters -/
theorem utf8_core (cs : List Char) :
    (String.ofList cs).toUTF8.data.toList.map UInt8.toNat = utf8 cs := by
  have h : (String.ofList cs).toUTF8 = cs.utf8Encode := by simp
  rw [h, List.utf8Encode]
  clear h
  simp only [List.data_toByteArray]
  induction cs with
  | nil => rfl
  | cons c cs ih => simp only [List.flatMap_cons, List.map_append, utf8Char_core, ih, utf8_cons]

end Log4rs
