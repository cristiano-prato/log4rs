import Log4rsModel.TimeTrigger.Lemmas
/-
HISTORICAL RECORD — not about the current code.

Theorems about `getNextTime` / `schedule` / `step` / `run`, the model of `time.rs` BEFORE the `fix:`
commit 80d997f, kept as the record of the three defects that commit repaired (F9: `unwrap` of an
ambiguous/missing local time; F12: absolute days added to local midnight; absurd multipliers).
In a zone of constant UTC offset and inside the representable range the old code met the statement
(`Hist_C16_boundary_fixed_units` = fixed-LENGTH units, `Hist_C16_trigger_in_fixed_offset_zone` =
fixed-OFFSET zone …); unconditionally it did not (`Hist_C16_no_panic_statement_false`,
`Hist_C16_after_now_statement_false`). None of these is counted as an obligation of C16.
-/
namespace Log4rs.TimeTrigger

theorem remS_eq {lo f n : Int} (hf : 0 ≤ f) (hn : 1 ≤ n) : remS lo f n = .ok (f % n) := by
  rw [remS, if_neg (by omega : ¬ n = 0), if_neg (by omega : ¬ (f = lo ∧ n = -1)), Int.tmod_eq_emod_of_nonneg hf]

theorem remU_eq {f n : Int} (hn : 1 ≤ n) : remU f n = .ok (f % n) := by
  rw [remU, if_neg (by omega : ¬ n = 0)]

theorem wrapU32_eq {x : Int} (h0 : 0 ≤ x) (h1 : x ≤ U32_MAX) : wrapU32 x = x :=
  Int.emod_eq_of_lt h0 (Int.lt_of_le_of_lt h1 (by decide))

theorem wrapI32_eq {x : Int} (h0 : 0 ≤ x) (h1 : x ≤ I32_MAX) : wrapI32 x = x := by
  have h2 : x < 2147483648 := Int.lt_of_le_of_lt h1 (by decide)
  have h3 : x % 4294967296 = x := Int.emod_eq_of_lt h0 (by omega)
  simp only [wrapI32, h3]
  exact if_neg (by omega)

theorem wrapI64_eq {x : Int} (h0 : 0 ≤ x) (h1 : x ≤ I64_MAX) : wrapI64 x = x := by
  have h2 : x < 9223372036854775808 := Int.lt_of_le_of_lt h1 (by decide)
  have h3 : x % 18446744073709551616 = x := Int.emod_eq_of_lt h0 (by omega)
  simp only [wrapI64, h3]
  exact if_neg (by omega)

theorem chkI32_ok {x : Int} (h : I32_MIN ≤ x ∧ x ≤ I32_MAX) : chkI32 x = .ok x := if_pos h
theorem chkU32_ok {x : Int} (h : 0 ≤ x ∧ x ≤ U32_MAX) : chkU32 x = .ok x := if_pos h
theorem chkI64_ok {x : Int} (h : I64_MIN ≤ x ∧ x ≤ I64_MAX) : chkI64 x = .ok x := if_pos h

/-- `if modulate { n - field % n } else { n }` in a machine type of range `[lo, hi]`: the remainder
succeeds and `n - field % n` lies in `[1, n]` -/
theorem modInc_eq {rem : Int → Int → Out Int} {chk : Int → Out Int} {lo hi f n : Int} (m : Bool) (hn : 1 ≤ n)
    (hrem : rem f n = .ok (f % n)) (hchk : ∀ {x}, lo ≤ x ∧ x ≤ hi → chk x = .ok x) (hlo : lo ≤ 1) (hhi : n ≤ hi) :
    (if m then bind (rem f n) (fun r => chk (n - r)) else (.ok n : Out Int)) = .ok (incVal f n m) := by
  cases m
  · rfl
  · have := emod_range f (k := n) (by omega)
    simp only [if_true, hrem, bind_ok, incVal, hchk (x := n - f % n) ⟨by omega, by omega⟩]

theorem incI64_eq {f n : Int} (m : Bool) (hf : 0 ≤ f) (hn : 1 ≤ n) (hnb : n ≤ I64_MAX) :
    incI64 f n m = .ok (incVal f n m) :=
  modInc_eq m hn (remS_eq hf hn) chkI64_ok (by decide) hnb

theorem dur_ok {mult k : Int} (h : -DUR_MAX ≤ k * mult ∧ k * mult ≤ DUR_MAX) :
    dur mult k = .ok (k * mult) := by
  simp only [DUR_MAX] at h
  have : I64_MIN ≤ k * mult ∧ k * mult ≤ I64_MAX ∧ -DUR_MAX ≤ k * mult ∧ k * mult ≤ DUR_MAX := by
    simp only [I64_MIN, I64_MAX, DUR_MAX]; omega
  simp [dur, this]

theorem dtAdd_ok {t s : Int} (h : DT_MIN ≤ t + s ∧ t + s ≤ DT_MAX) : dtAdd t s = .ok (t + s) := if_pos h

/-- the steps `increment → Duration → DateTime + Duration` that all of the second … week branches
begin with; the sum lies between one and `n` units after `time` -/
theorem addUnits_steps {time f n mult : Int} (m : Bool) (hf : 0 ≤ f) (hn : 1 ≤ n) (hmult : 1 ≤ mult)
    (hdur : n * mult ≤ DUR_MAX) (hlo : DT_MIN ≤ time) (hhi : time + n * mult ≤ DT_MAX) :
    incI64 f n m = .ok (incVal f n m) ∧ dur mult (incVal f n m) = .ok (incVal f n m * mult)
      ∧ dtAdd time (incVal f n m * mult) = .ok (time + incVal f n m * mult)
      ∧ mult ≤ incVal f n m * mult ∧ incVal f n m * mult ≤ n * mult := by
  obtain ⟨h1, h2, h3⟩ := incVal_mul_bounds (f := f) m hn hmult
  have hD : 0 ≤ DUR_MAX ∧ DUR_MAX ≤ I64_MAX := by decide
  exact ⟨incI64_eq m hf hn (by omega), dur_ok (by omega), dtAdd_ok (by omega), h1, h2⟩

/-- the four branches that add `inc` units to the truncated time are one computation -/
theorem getNextTime_unit (c : Civil) {u : IUnit} (n : Int) (m : Bool) (mk : CivilTime → LocalResult)
    (hu : isCalendarUnit u = false) (hw : u ≠ .week) :
    getNextTime c u n m mk = bind (unwrapLR (mk (truncated c u))) fun time =>
      bind (incI64 (fieldOf c u) n m) fun inc => bind (dur (unitSecs u) inc) fun d => dtAdd time d := by
  cases u <;> simp [isCalendarUnit] at hu hw <;> rfl

/-- local seconds of the civil time the code truncates `current` to -/
def truncLocal (L : Int) : IUnit → Int
  | .second => L
  | .minute => L - L % 60
  | .hour => L - L % 3600
  | _ => L - L % 86400

theorem truncLocal_le (L : Int) (u : IUnit) : truncLocal L u ≤ L := by
  cases u <;> simp only [truncLocal] <;> omega

theorem startOfUnit_eq_truncLocal (c : Civil) (L : Int) {u : IUnit} (hu : isCalendarUnit u = false) :
    startOfUnit c L u = truncLocal L u - (if u = .week then c.weekday * 86400 else 0) := by
  cases u <;> simp [isCalendarUnit] at hu <;> simp [startOfUnit, truncLocal]

theorem startOfUnit_le_truncLocal (c : Civil) (L : Int) {u : IUnit} (hwd : 0 ≤ c.weekday)
    (hu : isCalendarUnit u = false) : startOfUnit c L u ≤ truncLocal L u := by
  rw [startOfUnit_eq_truncLocal c L hu]
  split <;> omega

/-- Units of fixed length, the truncated civil time resolving to the single instant `time`, result
representable: the code adds to `time` the distance from the truncated local time to the
specification's boundary (that distance is the same for every `L`). -/
theorem getNextTime_fixed_units {c : Civil} {mk : CivilTime → LocalResult} {time : Int} (u : IUnit)
    (hu : isCalendarUnit u = false) (n : Int) (m : Bool) (hn : 1 ≤ n)
    (hmk : mk (truncated c u) = .single time) (hf : 0 ≤ fieldOf c u) (hwd : 0 ≤ c.weekday ∧ c.weekday ≤ 6)
    (hdur : n * unitSecs u ≤ DUR_MAX) (hlo : DT_MIN + 518400 ≤ time) (hhi : time + n * unitSecs u ≤ DT_MAX)
    (L : Int) : getNextTime c u n m mk = .ok (time + (expectedLocal c L u n m - truncLocal L u)) := by
  rw [expectedLocal_eq, startOfUnit_eq_truncLocal c L hu]
  have hpos : 1 ≤ unitSecs u := by cases u <;> simp [isCalendarUnit] at hu <;> decide
  obtain ⟨h1, h2, h3, h4, h5⟩ := addUnits_steps m hf hn hpos hdur (by omega : DT_MIN ≤ time) hhi
  by_cases hw : u = .week
  · subst hw
    have hD : 6 * 86400 ≤ DUR_MAX := by decide
    simp only [fieldOf, unitSecs] at h1 h2 h3 h4 h5 hhi ⊢
    simp only [getNextTime, hmk, unwrapLR, bind_ok, h1, h2, h3, if_true]
    rw [dur_ok (by omega), bind_ok, dtAdd_ok (by omega)]
    congr 1; omega
  · rw [getNextTime_unit c n m mk hu hw, hmk]
    simp only [unwrapLR, bind_ok, h1, h2, h3, if_neg hw]
    congr 1; omega

/-- What chrono tells the code about the instant whose local seconds are `L`, in a zone whose UTC
offset is the constant `off`: the time-of-day fields and the weekday are those of `L` (1970-01-01
was a Thursday), ordinal and ISO week number are non-negative, and the truncated civil time
resolves to the single instant `truncLocal L u - off`. -/
structure FixedOffsetView (c : Civil) (L off : Int) (mk : CivilTime → LocalResult) : Prop where
  second : c.second = L % 60
  minute : c.minute = L / 60 % 60
  hour : c.hour = L / 3600 % 24
  weekday : c.weekday = (L / 86400 + 3) % 7
  ordinal0 : 0 ≤ c.ordinal0
  week0 : 0 ≤ c.week0
  mk_trunc : ∀ u, isCalendarUnit u = false → mk (truncated c u) = .single (truncLocal L u - off)

theorem FixedOffsetView.weekday_range {c : Civil} {L off : Int} {mk : CivilTime → LocalResult}
    (h : FixedOffsetView c L off mk) : 0 ≤ c.weekday ∧ c.weekday ≤ 6 := by
  have := h.weekday ▸ emod_range (L / 86400 + 3) (k := 7) (by decide)
  omega

theorem field_nonneg {c : Civil} {L off : Int} {mk : CivilTime → LocalResult}
    (h : FixedOffsetView c L off mk) (u : IUnit) (hu : isCalendarUnit u = false) : 0 ≤ fieldOf c u := by
  cases u <;> simp [isCalendarUnit] at hu <;> simp only [fieldOf]
  · rw [h.second]; exact Int.emod_nonneg _ (by decide)
  · rw [h.minute]; exact Int.emod_nonneg _ (by decide)
  · rw [h.hour]; exact Int.emod_nonneg _ (by decide)
  · exact h.ordinal0
  · exact h.week0

/-- Units of fixed length, zone of constant offset, representable result: the schedule is exactly
the specification's boundary — start of the current unit + n units, or with modulation the start
of the enclosing period + (field / n + 1)·n units (week: Monday alignment through the weekday). -/
theorem Hist_C16_boundary_fixed_units {c : Civil} {L off : Int} {mk : CivilTime → LocalResult}
    (h : FixedOffsetView c L off mk) (u : IUnit) (hu : isCalendarUnit u = false) (n : Int) (m : Bool)
    (hn : 1 ≤ n) (hdur : n * unitSecs u ≤ DUR_MAX)
    (hlo : DT_MIN + 518400 ≤ truncLocal L u - off) (hhi : truncLocal L u - off + n * unitSecs u ≤ DT_MAX) :
    getNextTime c u n m mk = .ok (expectedLocal c L u n m - off) := by
  rw [getNextTime_fixed_units u hu n m hn (h.mk_trunc u hu) (field_nonneg h u hu) h.weekday_range hdur hlo hhi L]
  congr 1; omega

/-- … and that boundary lies strictly after the current instant (`L - off` is `now` in UTC seconds;
the returned instant has zero nanoseconds, so this is "strictly after" for every sub-second part) -/
theorem Hist_C16_next_after_now_fixed_units {c : Civil} {L off : Int} {mk : CivilTime → LocalResult}
    (h : FixedOffsetView c L off mk) (u : IUnit) (hu : isCalendarUnit u = false) (n : Int) (m : Bool)
    (hn : 1 ≤ n) (hdur : n * unitSecs u ≤ DUR_MAX)
    (hlo : DT_MIN + 518400 ≤ truncLocal L u - off) (hhi : truncLocal L u - off + n * unitSecs u ≤ DT_MAX) :
    ∃ t, getNextTime c u n m mk = .ok t ∧ L - off < t := by
  have := expectedLocal_gt c L u h.weekday_range hu n m hn
  exact ⟨_, Hist_C16_boundary_fixed_units h u hu n m hn hdur hlo hhi, by omega⟩

/-- without modulation: exactly n units after the start of the current unit -/
theorem Hist_C16_boundary_plain {c : Civil} {L off : Int} {mk : CivilTime → LocalResult}
    (h : FixedOffsetView c L off mk) (u : IUnit) (hu : isCalendarUnit u = false) (n : Int)
    (hn : 1 ≤ n) (hdur : n * unitSecs u ≤ DUR_MAX)
    (hlo : DT_MIN + 518400 ≤ truncLocal L u - off) (hhi : truncLocal L u - off + n * unitSecs u ≤ DT_MAX) :
    getNextTime c u n false mk = .ok (startOfUnit c L u + n * unitSecs u - off) :=
  Hist_C16_boundary_fixed_units h u hu n false hn hdur hlo hhi

/-- with modulation: the next multiple of n counted from the start of the enclosing period -/
theorem Hist_C16_boundary_modulated {c : Civil} {L off : Int} {mk : CivilTime → LocalResult}
    (h : FixedOffsetView c L off mk) (u : IUnit) (hu : isCalendarUnit u = false) (n : Int)
    (hn : 1 ≤ n) (hdur : n * unitSecs u ≤ DUR_MAX)
    (hlo : DT_MIN + 518400 ≤ truncLocal L u - off) (hhi : truncLocal L u - off + n * unitSecs u ≤ DT_MAX) :
    getNextTime c u n true mk
      = .ok (startOfPeriod c L u + (fieldOf c u / n + 1) * n * unitSecs u - off) :=
  Hist_C16_boundary_fixed_units h u hu n true hn hdur hlo hhi

/-- the multiplier fits the machine types and chrono's duration range for this unit -/
def Representable (c : Civil) (u : IUnit) (n : Int) : Prop :=
  match u with
  | .month => 12 * c.year + c.month0 + n ≤ U32_MAX
  | .year => c.year + n ≤ I32_MAX
  | u => n * unitSecs u ≤ DUR_MAX

/-- `num_months + inc` through its three `u32` checks, and the civil date asked for -/
theorem monthBranch_eq (mk : CivilTime → LocalResult) {y m0 i : Int} (hy : 0 ≤ y) (hm : 0 ≤ m0) (hi : 0 ≤ i)
    (hb : y * 12 + m0 + i ≤ U32_MAX) :
    (bind (chkU32 (y * 12)) fun m12 => bind (chkU32 (m12 + m0)) fun nm => bind (chkU32 (nm + i)) fun nn =>
      unwrapLR (mk ⟨wrapI32 (nn / 12), nn % 12 + 1, 1, 0, 0, 0⟩))
      = unwrapLR (mk (civilOfMonthIndex (y * 12 + m0 + i))) := by
  have hU : U32_MAX ≤ 12 * I32_MAX := by decide
  rw [chkU32_ok ⟨by omega, by omega⟩, bind_ok, chkU32_ok ⟨by omega, by omega⟩, bind_ok, chkU32_ok ⟨by omega, hb⟩,
    bind_ok, wrapI32_eq (by omega) (by omega)]
  rfl

/-- Month and year units: the code asks chrono for the first of the month whose index
(12·year + month0) is the specification's. -/
theorem getNextTime_calendar (c : Civil) (u : IUnit) (hu : isCalendarUnit u = true) (n : Int) (m : Bool)
    (mk : CivilTime → LocalResult) (hy : 0 ≤ c.year) (hm0 : 0 ≤ c.month0) (hn : 1 ≤ n)
    (hrep : Representable c u n) :
    getNextTime c u n m mk = unwrapLR (mk (civilOfMonthIndex (expectedMonthIndex c u n m))) := by
  cases u <;> simp [isCalendarUnit] at hu <;> simp only [Representable] at hrep
  case month =>
    obtain ⟨hi1, hi2⟩ := incVal_bounds (f := c.month0) m hn
    have hnU : n ≤ U32_MAX := by omega
    simp only [getNextTime, wrapU32_eq (by omega : 0 ≤ n) hnU, wrapU32_eq hy (by omega),
      modInc_eq m hn (remU_eq hn) chkU32_ok (by decide) hnU, bind_ok]
    rw [monthBranch_eq mk hy hm0 (by omega) (by omega), expectedMonthIndex_month]
  case year =>
    obtain ⟨hi1, hi2⟩ := incVal_bounds (f := c.year) m hn
    have hI : I32_MIN ≤ 0 := by decide
    simp only [getNextTime, wrapI32_eq (by omega : 0 ≤ n) (by omega), bind_ok,
      modInc_eq m hn (remS_eq (lo := I32_MIN) hy hn) chkI32_ok (by decide) (by omega),
      chkI32_ok (x := c.year + incVal c.year n m) ⟨by omega, by omega⟩,
      expectedMonthIndex_year, civilOfMonthIndex, Int.add_comm (incVal c.year n m) c.year,
      Int.mul_ediv_cancel _ (by decide : (12 : Int) ≠ 0), Int.mul_emod_left, Int.zero_add]

/-- chrono's calendar in a zone of constant offset, as far as month and year units need it: the
first of month number `M` (months since year 0) starts at local second `monthStart M`, later
months start later, and `with_ymd_and_hms(y, mo, 1, 0, 0, 0)` is that single instant. -/
structure FixedOffsetCalendar (off : Int) (monthStart : Int → Int) (mk : CivilTime → LocalResult) : Prop where
  mono : ∀ a b, a < b → monthStart a < monthStart b
  mk_month : ∀ M, mk (civilOfMonthIndex M) = .single (monthStart M - off)

/-- Month and year units: the schedule is the start of the specification's month and lies strictly
after the current instant (`L` = local seconds of now, inside its month). -/
theorem Hist_C16_next_after_now_calendar {off : Int} {monthStart : Int → Int} {mk : CivilTime → LocalResult}
    (h : FixedOffsetCalendar off monthStart mk) (c : Civil) (L : Int) (u : IUnit)
    (hu : isCalendarUnit u = true) (n : Int) (m : Bool)
    (hy : 0 ≤ c.year) (hm0 : 0 ≤ c.month0 ∧ c.month0 ≤ 11) (hn : 1 ≤ n)
    (hb : if u = .year then c.year + n ≤ I32_MAX else 12 * c.year + c.month0 + n ≤ U32_MAX)
    (hin : L < monthStart (12 * c.year + c.month0 + 1)) :
    getNextTime c u n m mk = .ok (monthStart (expectedMonthIndex c u n m) - off)
      ∧ L - off < monthStart (expectedMonthIndex c u n m) - off := by
  have hrep : Representable c u n := by cases u <;> simp [isCalendarUnit] at hu <;> exact hb
  have := monthStart_succ_le h.mono (expectedMonthIndex_gt c u hu n m hn hm0)
  exact ⟨by rw [getNextTime_calendar c u hu n m mk hy hm0.1 hn hrep, h.mk_month]; rfl, by omega⟩

/-- civil fields in the ranges chrono produces (years of the common era) -/
structure CivilSane (c : Civil) : Prop where
  year : 0 ≤ c.year
  month0 : 0 ≤ c.month0 ∧ c.month0 ≤ 11
  ordinal0 : 0 ≤ c.ordinal0
  week0 : 0 ≤ c.week0
  weekday : 0 ≤ c.weekday ∧ c.weekday ≤ 6
  hour : 0 ≤ c.hour
  minute : 0 ≤ c.minute
  second : 0 ≤ c.second

theorem CivilSane.field_nonneg {c : Civil} (hc : CivilSane c) (u : IUnit) : 0 ≤ fieldOf c u := by
  cases u
  · exact hc.second
  · exact hc.minute
  · exact hc.hour
  · exact hc.ordinal0
  · exact hc.week0
  · exact hc.month0.1
  · exact hc.year

/-- If chrono never answers ambiguous/none (no DST transition at the truncated time, date in
range) and the interval is representable, `get_next_time` does not panic — any zone, all seven
units, both modes. -/
theorem Hist_C16_no_panic_partial (c : Civil) (u : IUnit) (n : Int) (m : Bool) (mk : CivilTime → LocalResult)
    (hc : CivilSane c) (hn : 1 ≤ n) (hrep : Representable c u n)
    (hmk : ∀ q, ∃ t, mk q = .single t ∧ DT_MIN + 518400 ≤ t ∧ t + n * unitSecs u ≤ DT_MAX) :
    ∃ t, getNextTime c u n m mk = .ok t := by
  cases hu : isCalendarUnit u
  · obtain ⟨t, ht, hlo, hhi⟩ := hmk (truncated c u)
    have hdur : n * unitSecs u ≤ DUR_MAX := by cases u <;> simp [isCalendarUnit] at hu <;> exact hrep
    exact ⟨_, getNextTime_fixed_units u hu n m hn ht (hc.field_nonneg u) hc.weekday hdur hlo hhi 0⟩
  · obtain ⟨t, ht, _⟩ := hmk (civilOfMonthIndex (expectedMonthIndex c u n m))
    exact ⟨t, by rw [getNextTime_calendar c u hu n m mk hc.year hc.month0.1 hn hrep, ht]; rfl⟩

/-- `TimeTrigger::new` with a random delay `d ∈ [0, max)`: the schedule is `next + d`, so it is
not earlier than the undelayed boundary (and with `max = 0` it is the boundary itself). -/
theorem Hist_C16_delay_bounds (next maxDelay d : Int) (hd : 0 ≤ d ∧ d < maxDelay) (hmax : maxDelay ≤ DUR_MAX)
    (hr : DT_MIN ≤ next ∧ next + maxDelay ≤ DT_MAX) :
    schedule (.ok next) maxDelay d = .ok (next + d) ∧ next ≤ next + d ∧ next + d < next + maxDelay := by
  have hD : 0 ≤ DUR_MAX ∧ DUR_MAX ≤ I64_MAX := by decide
  have hpos : maxDelay > 0 := by omega
  refine ⟨?_, by omega, by omega⟩
  simp only [schedule, bind_ok, hpos, if_true, wrapI64_eq hd.1 (by omega)]
  rw [dur_ok (by omega), bind_ok, dtAdd_ok (by omega), Int.mul_one]

theorem Hist_C16_no_delay (next : Out Int) (d : Int) : schedule next 0 d = next := by
  cases next <;> rfl

/-- the specification of a run: at every arrival the trigger answers "fire" exactly when the arrival
is at or after the instant scheduled before it; a firing replaces the schedule by an instant
strictly after that arrival, a non-firing leaves it alone; no consultation panics. -/
def GoodRun : Int → List Int → List (Out Bool × TState) → Prop
  | _, [], [] => True
  | s, a :: as, (o, st) :: os =>
      (a < s ∧ o = .ok false ∧ st = .live s ∧ GoodRun s as os)
      ∨ (s ≤ a ∧ o = .ok true ∧ ∃ t, st = .live t ∧ a < t ∧ GoodRun t as os)
  | _, _, _ => False

theorem run_fire {s a : Int} (h : s ≤ a) (t : Int) (rest : List (Int × Out Int)) :
    run (.live s) ((a, .ok t) :: rest) = (.ok true, .live t) :: run (.live t) rest := by
  simp [run, step, h]

theorem run_wait {s a : Int} (h : a < s) (r : Out Int) (rest : List (Int × Out Int)) :
    run (.live s) ((a, r) :: rest) = (.ok false, .live s) :: run (.live s) rest := by
  simp [run, step, Int.not_le.mpr h]

/-- Induction over the arrival list: whatever the arrival times (any order, any repetition), if
every reschedule succeeds strictly into the future of its arrival, the run is a `GoodRun`. -/
theorem Hist_C16_fires_once (steps : List (Int × Out Int))
    (hfut : ∀ p ∈ steps, ∃ t, p.2 = .ok t ∧ p.1 < t) (s : Int) :
    GoodRun s (steps.map (·.1)) (run (.live s) steps) := by
  induction steps generalizing s with
  | nil => simp [run, GoodRun]
  | cons p rest ih =>
    obtain ⟨a, r⟩ := p
    obtain ⟨⟨t, rfl, hat⟩, hrest⟩ := List.forall_mem_cons.mp hfut
    rw [List.map_cons]
    by_cases hge : s ≤ a
    · rw [run_fire hge]
      exact Or.inr ⟨hge, rfl, t, rfl, hat, ih hrest t⟩
    · rw [run_wait (by omega)]
      exact Or.inl ⟨by omega, rfl, rfl, ih hrest s⟩

theorem run_before (pre rest : List (Int × Out Int)) (s : Int) (hpre : ∀ p ∈ pre, p.1 < s) :
    run (.live s) (pre ++ rest) = pre.map (fun _ => (.ok false, .live s)) ++ run (.live s) rest := by
  induction pre with
  | nil => rfl
  | cons p pre ih =>
    obtain ⟨hp, hrest⟩ := List.forall_mem_cons.mp hpre
    rw [List.cons_append, run_wait hp, ih hrest]
    rfl

/-- "The first record at or after the scheduled instant": arrivals before the schedule do not fire
and leave it unchanged; the first one at or after it fires and moves the schedule strictly past
itself; the rest of the history continues from the new schedule. -/
theorem Hist_C16_fires_on_first_arrival_at_or_after (pre post : List (Int × Out Int)) (a t s : Int)
    (hpre : ∀ p ∈ pre, p.1 < s) (ha : s ≤ a) :
    run (.live s) (pre ++ (a, .ok t) :: post)
      = pre.map (fun _ => (.ok false, .live s)) ++ (.ok true, .live t) :: run (.live t) post := by
  rw [run_before pre _ s hpre, run_fire ha]

/-- "Once per boundary": after a firing, no arrival before the new schedule fires again. -/
theorem Hist_C16_no_refire_before_next (steps : List (Int × Out Int)) (t : Int) (h : ∀ p ∈ steps, p.1 < t) :
    run (.live t) steps = steps.map (fun _ => (.ok false, .live t)) := by
  simpa [run] using run_before steps [] t h

/-- The whole trigger in a zone of constant offset: whatever the arrival times, with every
consultation answered from chrono's fixed-offset view of that arrival and any random delays in
`[0, max)`, the run is a `GoodRun`: fires exactly at arrivals at or after the schedule, reschedules
strictly later, never panics. -/
theorem Hist_C16_trigger_in_fixed_offset_zone (u : IUnit) (hu : isCalendarUnit u = false) (n : Int) (m : Bool)
    (hn : 1 ≤ n) (hdur : n * unitSecs u ≤ DUR_MAX) (off maxDelay : Int) (mk : CivilTime → LocalResult)
    (hmax : 0 ≤ maxDelay ∧ maxDelay ≤ DUR_MAX) (steps : List (Int × Out Int))
    (hsteps : ∀ p ∈ steps, ∃ (c : Civil) (d : Int), FixedOffsetView c (p.1 + off) off mk
      ∧ DT_MIN + 518400 ≤ truncLocal (p.1 + off) u - off
      ∧ truncLocal (p.1 + off) u - off + n * unitSecs u + maxDelay ≤ DT_MAX
      ∧ (0 < maxDelay → 0 ≤ d ∧ d < maxDelay)
      ∧ p.2 = schedule (getNextTime c u n m mk) maxDelay d) (s : Int) :
    GoodRun s (steps.map (·.1)) (run (.live s) steps) := by
  apply Hist_C16_fires_once
  intro p hp
  obtain ⟨c, d, hv, hlo, hhi, hd, hp2⟩ := hsteps p hp
  have hgt := expectedLocal_gt c (p.1 + off) u hv.weekday_range hu n m hn
  have hub := expectedLocal_le c (p.1 + off) u hu n m hn
  have hst := startOfUnit_le_truncLocal c (p.1 + off) hv.weekday_range.1 hu
  have htr := truncLocal_le (p.1 + off) u
  rw [hp2, Hist_C16_boundary_fixed_units hv u hu n m hn hdur hlo (by omega)]
  by_cases hz : 0 < maxDelay
  · exact ⟨_, (Hist_C16_delay_bounds _ maxDelay d (hd hz) hmax.2
      ⟨by simp only [DT_MIN] at hlo ⊢; omega, by omega⟩).1, by have := hd hz; omega⟩
  · obtain rfl : maxDelay = 0 := by omega
    exact ⟨_, Hist_C16_no_delay _ d, by omega⟩

/-- "None of this panics for any time zone, daylight-saving transition or configured interval." -/
def Hist_C16_no_panic_statement : Prop :=
  ∀ (c : Civil) (u : IUnit) (n : Int) (m : Bool) (mk : CivilTime → LocalResult), CivilSane c → 1 ≤ n →
    ∃ t, getNextTime c u n m mk = .ok t

/-- chrono's decomposition of 2026-10-25 02:30:00 local in Europe/Berlin (either occurrence) -/
def berlinOverlap : Civil := ⟨2026, 9, 25, 297, 42, 6, 2, 30, 0⟩
/-- `Local.with_ymd_and_hms(2026, 10, 25, 2, 0, 0)` under TZ=Europe/Berlin, as observed -/
def berlinOverlapMk : CivilTime → LocalResult := fun q =>
  if q = ⟨2026, 10, 25, 2, 0, 0⟩ then .ambiguous 1792886400 1792890000 else .none

/-- F9 on its witness: 1-hour interval, any record between 02:00 and 03:00 (twice) on the day the
clocks go back: `unwrap` of an ambiguous local time panics. -/
theorem Hist_C16_panics_in_dst_overlap :
    getNextTime berlinOverlap .hour 1 false berlinOverlapMk = .panic "mk-ambiguous" := by decide +kernel

/-- an absurd interval: `Duration::seconds(i64::MAX)` is outside chrono's range -/
theorem Hist_C16_panics_on_absurd_interval (c : Civil) (t : Int) :
    getNextTime c .second I64_MAX false (fun _ => .single t) = .panic "duration" := by
  simp [getNextTime, unwrapLR, incI64, dur, I64_MAX, I64_MIN, DUR_MAX]

theorem Hist_C16_no_panic_statement_false : ¬ Hist_C16_no_panic_statement := by
  intro h
  obtain ⟨t, ht⟩ := h berlinOverlap .hour 1 false berlinOverlapMk
    ⟨by decide, by decide, by decide, by decide, by decide, by decide, by decide, by decide⟩ (by decide)
  rw [Hist_C16_panics_in_dst_overlap] at ht
  cases ht

/-- "The next scheduled rotation lies strictly after the current instant", for the day unit in an
arbitrary zone: all that is known of the zone is that today's local midnight resolves to a single
instant `time` not after `now`, and that a local day lasts at most 25 hours. -/
def Hist_C16_after_now_statement : Prop :=
  ∀ (c : Civil) (n : Int) (m : Bool) (mk : CivilTime → LocalResult) (time now : Int), CivilSane c → 1 ≤ n →
    mk (truncated c .day) = .single time → time ≤ now → now < time + 90000 →
    ∀ t, getNextTime c .day n m mk = .ok t → now < t

/-- chrono's decomposition of 2026-10-25 23:30:00 CET in Europe/Berlin (a 25-hour day) -/
def berlinLongDay : Civil := ⟨2026, 9, 25, 297, 42, 6, 23, 30, 0⟩
/-- midnight of that day is 2026-10-24T22:00:00Z (CEST) -/
def berlinLongDayMk : CivilTime → LocalResult := fun q =>
  if q = ⟨2026, 10, 25, 0, 0, 0⟩ then .single 1792879200 else .none

/-- F12 on its witness: now = 2026-10-25T22:30:00Z, the schedule is 22:00:00Z — half an hour ago. -/
theorem Hist_C16_day_schedule_not_after_now :
    getNextTime berlinLongDay .day 1 false berlinLongDayMk = .ok 1792965600 ∧ ¬ (1792967400 < (1792965600 : Int)) := by
  decide +kernel

theorem Hist_C16_after_now_statement_false : ¬ Hist_C16_after_now_statement := by
  intro h
  have := h berlinLongDay 1 false berlinLongDayMk 1792879200 1792967400
    ⟨by decide, by decide, by decide, by decide, by decide, by decide, by decide, by decide⟩
    (by decide) (by decide) (by decide) (by decide) 1792965600 Hist_C16_day_schedule_not_after_now.1
  omega

/-- the consequence for the trigger: with a schedule that is not after now, every record fires
(records at 23:30:10, 23:30:20 CET both roll the file; compare `Hist_C16_no_refire_before_next`) -/
theorem Hist_C16_fires_on_every_record_on_long_day :
    (run (.live 1792965600) [(1792967410, .ok 1792965600), (1792967420, .ok 1792965600)]).map (·.1)
      = [.ok true, .ok true] := by decide +kernel

/-- 2024-02-29 23:59:58 UTC+5:45 (Asia/Kathmandu): L = 1709251198, a leap day, modulated 7-second
interval crossing the minute, day and month end -/
def kathmanduLeap : Civil := ⟨2024, 1, 29, 59, 8, 3, 23, 59, 58⟩

example : FixedOffsetView kathmanduLeap 1709251198 20700
    (fun q => .single ((truncLocal 1709251198
      (if q.s ≠ 0 then .second else if q.mi ≠ 0 then .minute else if q.h ≠ 0 then .hour else .day)) - 20700)) :=
  ⟨by decide, by decide, by decide, by decide, by decide, by decide, by
    intro u hu; cases u <;> simp [isCalendarUnit] at hu <;> decide⟩

/-- test (sample): modulated 7 s at 23:59:58 → 00:00:03 next day (56 + 7 = 63 s from the minute start) -/
example : expectedLocal kathmanduLeap 1709251198 .second 7 true = 1709251203 := by decide +kernel

/-- test (sample): a run with two boundaries: fires at the first arrival ≥ 10, not at 12, 14, fires at 20 -/
example : (run (.live 10) [(3, .ok 15), (11, .ok 15), (12, .ok 15), (14, .ok 15), (20, .ok 25)]).map (·.1)
    = [.ok false, .ok true, .ok false, .ok false, .ok true] := by decide +kernel

example : Representable kathmanduLeap .month 61 := by simp [Representable, kathmanduLeap, U32_MAX]

end Log4rs.TimeTrigger
