import Log4rsModel.TimeTrigger.Spec
/-
The specification's boundary is "start of the current unit + increment", the
increment being `incVal`: `n`, or with modulation the distance from the unit's index to the next
multiple of `n` (`expectedLocal_eq`, `expectedMonthIndex_month`, `expectedMonthIndex_year`). The
code, before and after the fix, computes the same sum in its own checked arithmetic; the equations
below say when those checks succeed.
-/
namespace Log4rs.TimeTrigger

@[simp] theorem bind_ok {α β : Type} (a : α) (f : α → Out β) : bind (.ok a) f = f a := rfl
@[simp] theorem bind_panic {α β : Type} (w : String) (f : α → Out β) :
    bind (Outcome.panic w : Out α) f = .panic w := rfl

theorem emod_range (x : Int) {k : Int} (hk : 0 < k) : 0 ≤ x % k ∧ x % k < k :=
  ⟨Int.emod_nonneg x (by omega), Int.emod_lt_of_pos x hk⟩

def incVal (f n : Int) (m : Bool) : Int := if m then n - f % n else n

theorem incVal_bounds {f n : Int} (m : Bool) (hn : 1 ≤ n) : 1 ≤ incVal f n m ∧ incVal f n m ≤ n := by
  have := emod_range f (k := n) (by omega)
  cases m <;> simp [incVal] <;> omega

theorem incVal_mul_bounds {f n unit : Int} (m : Bool) (hn : 1 ≤ n) (hunit : 1 ≤ unit) :
    unit ≤ incVal f n m * unit ∧ incVal f n m * unit ≤ n * unit ∧ n ≤ n * unit := by
  obtain ⟨h1, h2⟩ := incVal_bounds (f := f) m hn
  have a := Int.mul_le_mul_of_nonneg_right h1 (by omega : 0 ≤ unit)
  have b := Int.mul_le_mul_of_nonneg_right h2 (by omega : 0 ≤ unit)
  have c := Int.mul_le_mul_of_nonneg_left hunit (by omega : 0 ≤ n)
  omega

theorem incVal_mod (f n : Int) : f + incVal f n true = (f / n + 1) * n := by
  have h := Int.mul_ediv_add_emod f n
  simp only [incVal, if_true]
  rw [Int.add_mul, Int.one_mul, Int.mul_comm (f / n) n]
  omega

theorem unitSecs_nonneg (u : IUnit) : 0 ≤ unitSecs u := by cases u <;> decide

theorem expectedLocal_eq (c : Civil) (L : Int) (u : IUnit) (n : Int) (m : Bool) :
    expectedLocal c L u n m = startOfUnit c L u + incVal (fieldOf c u) n m * unitSecs u := by
  cases m
  · simp [expectedLocal, incVal]
  · simp only [expectedLocal, startOfPeriod, if_true]
    rw [← incVal_mod, Int.add_mul]
    omega

theorem startOfUnit_le (c : Civil) (L : Int) (u : IUnit) (hwd : 0 ≤ c.weekday ∧ c.weekday ≤ 6)
    (hu : isCalendarUnit u = false) :
    startOfUnit c L u ≤ L ∧ L < startOfUnit c L u + unitSecs u := by
  cases u <;> simp [isCalendarUnit] at hu <;> simp only [startOfUnit, unitSecs] <;> omega

theorem expectedLocal_le (c : Civil) (L : Int) (u : IUnit) (hu : isCalendarUnit u = false) (n : Int) (m : Bool)
    (hn : 1 ≤ n) : expectedLocal c L u n m ≤ startOfUnit c L u + n * unitSecs u := by
  have := Int.mul_le_mul_of_nonneg_right (incVal_bounds (f := fieldOf c u) m hn).2 (unitSecs_nonneg u)
  rw [expectedLocal_eq]
  omega

theorem expectedLocal_gt (c : Civil) (L : Int) (u : IUnit) (hwd : 0 ≤ c.weekday ∧ c.weekday ≤ 6)
    (hu : isCalendarUnit u = false) (n : Int) (m : Bool) (hn : 1 ≤ n) : L < expectedLocal c L u n m := by
  have := Int.mul_le_mul_of_nonneg_right (incVal_bounds (f := fieldOf c u) m hn).1 (unitSecs_nonneg u)
  have := startOfUnit_le c L u hwd hu
  rw [expectedLocal_eq]
  omega

theorem expectedMonthIndex_month (c : Civil) (n : Int) (m : Bool) :
    expectedMonthIndex c .month n m = c.year * 12 + c.month0 + incVal c.month0 n m := by
  cases m
  · simp only [expectedMonthIndex, incVal, Bool.false_eq_true, if_false]; omega
  · simp only [expectedMonthIndex, if_true]; rw [← incVal_mod]; omega

theorem expectedMonthIndex_year (c : Civil) (n : Int) (m : Bool) :
    expectedMonthIndex c .year n m = (incVal c.year n m + c.year) * 12 := by
  cases m
  · simp only [expectedMonthIndex, incVal, Bool.false_eq_true, if_false]; omega
  · simp only [expectedMonthIndex, if_true]; rw [← incVal_mod]; omega

theorem expectedMonthIndex_gt (c : Civil) (u : IUnit) (hu : isCalendarUnit u = true) (n : Int) (m : Bool)
    (hn : 1 ≤ n) (hm0 : 0 ≤ c.month0 ∧ c.month0 ≤ 11) : 12 * c.year + c.month0 < expectedMonthIndex c u n m := by
  cases u <;> simp [isCalendarUnit] at hu
  · have := incVal_bounds (f := c.month0) m hn
    rw [expectedMonthIndex_month]; omega
  · have := incVal_bounds (f := c.year) m hn
    rw [expectedMonthIndex_year]; omega

theorem monthStart_succ_le {monthStart : Int → Int} (mono : ∀ a b, a < b → monthStart a < monthStart b)
    {a b : Int} (h : a < b) : monthStart (a + 1) ≤ monthStart b := by
  by_cases he : a + 1 = b
  · rw [he]; exact Int.le_refl _
  · exact Int.le_of_lt (mono _ _ (by omega))

theorem inI64_eq_true {x : Int} (h : I64_MIN ≤ x ∧ x ≤ I64_MAX) : inI64 x = true := decide_eq_true h

theorem incFixed_pos {n f v : Int} {m : Bool} (h : incFixed n f m = some v) : 1 ≤ v := by
  have hn : 1 ≤ max n 1 := by omega
  have hlt := Int.tmod_lt_of_pos f (b := max n 1) (by omega)
  cases m
  · simp [incFixed] at h; omega
  · simp only [incFixed, if_true] at h
    split at h
    · cases h; omega
    · cases h

theorem incFixed_eq {n f : Int} (m : Bool) (hn : 1 ≤ n) (hf : 0 ≤ f) (hnb : n ≤ I64_MAX) :
    incFixed n f m = some (incVal f n m) := by
  have hmax : max n 1 = n := by omega
  have := emod_range f (k := n) (by omega)
  simp only [I64_MAX] at hnb
  cases m
  · simp [incFixed, incVal, hmax]
  · have := inI64_eq_true (x := n - f % n) (by simp only [I64_MIN, I64_MAX]; omega)
    simp [incFixed, incVal, hmax, Int.tmod_eq_emod_of_nonneg hf, this]

theorem spanFixed_cases {count unit : Int} (h : count * unit ≠ I64_MIN) :
    spanFixed count unit = .ok none ∨ spanFixed count unit = .ok (some (count * unit)) := by
  simp only [spanFixed, h, if_false]
  split
  · exact .inl rfl
  · split
    · exact .inl rfl
    · exact .inr rfl

theorem spanFixed_ok {count unit : Int} (h0 : 0 ≤ count * unit) (h1 : count * unit ≤ DUR_MAX) :
    spanFixed count unit = .ok (some (count * unit)) := by
  simp only [DUR_MAX] at h1
  have hi := inI64_eq_true (x := count * unit) (by simp only [I64_MIN, I64_MAX]; omega)
  have hne : count * unit ≠ I64_MIN := by simp only [I64_MIN]; omega
  have hr : ¬ (count * unit > DUR_MAX ∨ count * unit < -DUR_MAX) := by simp only [DUR_MAX]; omega
  simp [spanFixed, hi, hne, hr]

/-- The hour / minute / second branch with `elapsed` seconds of the current unit gone (so the unit
began at local second `e.L - elapsed`): the increment is representable, and the code moves `now` to
that start plus the increment, which lies in `(L, L + n units]`. -/
theorem subday_branch (e : Env) {f n unit elapsed : Int} (m : Bool) (hn : 1 ≤ n) (hf : 0 ≤ f) (hunit : 1 ≤ unit)
    (hel : 0 ≤ elapsed ∧ elapsed < unit) (hdur : n * unit ≤ DUR_MAX) (hlo : DT_MIN ≤ e.now)
    (hhi : e.now + n * unit ≤ DT_MAX) :
    (match incFixed n f m with
      | none => (Outcome.ok none : Out (Option Int))
      | some inc => unitStartPlus e inc unit elapsed)
        = .ok (some (e.now + (e.L - elapsed + incVal f n m * unit - e.L)))
      ∧ e.L < e.L - elapsed + incVal f n m * unit ∧ e.L - elapsed + incVal f n m * unit ≤ e.L + n * unit := by
  have hb := incVal_mul_bounds (f := f) m hn hunit
  have hD : DUR_MAX ≤ I64_MAX := by decide
  refine ⟨?_, by omega, by omega⟩
  simp only [incFixed_eq m hn hf (by omega), unitStartPlus, spanFixed_ok (count := incVal f n m) (unit := unit) (by omega) (by omega), bind_ok]
  rw [if_pos (by omega)]
  congr 2; omega

/-- The day / week branch: `days ≥ 1` whole days after local midnight, at most `span` seconds on,
everything in range: the code hands that local time to `resolve_after`. -/
theorem midnightPlus_eq (e : Env) {days span : Int} (h0 : 1 ≤ days) (hs : days * 86400 ≤ span)
    (hdur : span ≤ DUR_MAX) (hlo : DT_MIN + 518400 ≤ e.L - e.L % 86400) (hhi : e.L + span ≤ DT_MAX) :
    midnightPlus e days = .ok (resolveAfter e.mkL e.now 200 (e.L - e.L % 86400 + days * 86400)) := by
  have := emod_range e.L (k := 86400) (by decide)
  simp only [midnightPlus, spanFixed_ok (count := days) (unit := 86400) (by omega) (by omega), bind_ok]
  rw [if_pos (by omega)]

/-- The week branch: `w` weeks on, back to Monday by `wd` days — both products fit `i64`, and the
local time resolved is this week's Monday plus `w` weeks. -/
theorem week_branch (e : Env) {w wd n : Int} (hw : 1 ≤ w ∧ w ≤ n) (hwd : 0 ≤ wd ∧ wd ≤ 6)
    (hdur : n * 604800 ≤ DUR_MAX) (hlo : DT_MIN + 518400 ≤ e.L - e.L % 86400) (hhi : e.L + n * 604800 ≤ DT_MAX) :
    inI64 (w * 7) = true ∧ inI64 (w * 7 - wd) = true
      ∧ midnightPlus e (w * 7 - wd)
          = .ok (resolveAfter e.mkL e.now 200 (e.L - e.L % 86400 - wd * 86400 + w * 604800)) := by
  have h7 : (inI64 (w * 7) = true ∧ inI64 (w * 7 - wd) = true)
      ∧ 1 ≤ w * 7 - wd ∧ (w * 7 - wd) * 86400 ≤ n * 604800 := by
    simp only [DUR_MAX] at hdur
    exact ⟨⟨inI64_eq_true (by simp only [I64_MIN, I64_MAX]; omega),
      inI64_eq_true (by simp only [I64_MIN, I64_MAX]; omega)⟩, by omega, by omega⟩
  refine ⟨h7.1.1, h7.1.2, ?_⟩
  rw [midnightPlus_eq e h7.2.1 h7.2.2 hdur hlo hhi]
  congr 2; omega

theorem midnightPlus_no_panic (e : Env) (days : Int) : ∃ r, midnightPlus e days = .ok r := by
  unfold midnightPlus
  rcases spanFixed_cases (count := days) (unit := 86400) (by simp only [I64_MIN]; omega) with h | h <;>
    rw [h, bind_ok]
  · exact ⟨_, rfl⟩
  · simp only []; split <;> exact ⟨_, rfl⟩

theorem unitStartPlus_no_panic (e : Env) (count unit elapsed : Int) (h : count * unit ≠ I64_MIN) :
    ∃ r, unitStartPlus e count unit elapsed = .ok r := by
  unfold unitStartPlus
  rcases spanFixed_cases h with h | h <;> rw [h, bind_ok]
  · exact ⟨_, rfl⟩
  · simp only []; split <;> exact ⟨_, rfl⟩

/-- every branch of `checked_next_time` has this shape: only the `some` arm can matter -/
theorem no_panic_of_some {o : Option Int} {f : Int → Out (Option Int)} (h : ∀ inc, o = some inc → ∃ r, f inc = .ok r) :
    ∃ r, (match o with | none => (Outcome.ok none : Out (Option Int)) | some inc => f inc) = .ok r := by
  cases o with
  | none => exact ⟨_, rfl⟩
  | some inc => exact h inc rfl

/-- `i64::MIN` is not a multiple of 60, and the increment is positive: no product handed to `span`
can be the one value on which `abs` panics. -/
theorem checkedNextFixed_no_panic (c : Civil) (e : Env) (u : IUnit) (n : Int) (m : Bool) :
    ∃ r, checkedNextFixed c e u n m = .ok r := by
  cases u <;> simp only [checkedNextFixed] <;> apply no_panic_of_some <;> intro inc h
  · exact unitStartPlus_no_panic e inc 1 0 (by have := incFixed_pos h; simp only [I64_MIN]; omega)
  · exact unitStartPlus_no_panic e inc 60 _ (by simp only [I64_MIN]; omega)
  · exact unitStartPlus_no_panic e inc 3600 _ (by simp only [I64_MIN]; omega)
  · exact midnightPlus_no_panic e inc
  · split
    · exact midnightPlus_no_panic e _
    · exact ⟨_, rfl⟩
  · split <;> exact ⟨_, rfl⟩
  · split <;> exact ⟨_, rfl⟩

/-- `.filter(|t| t > current).unwrap_or(never)` -/
def orNever (now : Int) : Option Int → Int
  | some t => if t > now then t else FAR
  | none => FAR

theorem getNextTimeFixed_of_checked {c : Civil} {e : Env} {u : IUnit} {n : Int} {m : Bool} {r : Option Int}
    (h : checkedNextFixed c e u n m = .ok r) : getNextTimeFixed c e u n m = .ok (orNever e.now r) := by
  rw [getNextTimeFixed, h, bind_ok]
  cases r
  · rfl
  · simp only [orNever]; split <;> rfl

theorem orNever_gt {now : Int} (h : now < FAR) (r : Option Int) : now < orNever now r := by
  cases r
  · exact h
  · simp only [orNever]; split <;> assumption

theorem orNever_some {now t : Int} (h : now < t) : orNever now (some t) = t := if_pos h

/-- Hour, minute, second: with the time-of-day fields being those of `L`, the code moves `now` by
the distance from `L` to the specification's boundary, which lies within `n` units. No answer of
chrono about local times is involved. -/
theorem checkedNextFixed_subday (c : Civil) (e : Env) (u : IUnit) (hu : u = .second ∨ u = .minute ∨ u = .hour)
    (n : Int) (m : Bool) (hn : 1 ≤ n)
    (hsec : c.second = e.L % 60) (hmin : c.minute = e.L / 60 % 60) (hhour : c.hour = e.L / 3600 % 24)
    (hdur : n * unitSecs u ≤ DUR_MAX) (hlo : DT_MIN ≤ e.now) (hhi : e.now + n * unitSecs u ≤ DT_MAX) :
    checkedNextFixed c e u n m = .ok (some (e.now + (expectedLocal c e.L u n m - e.L)))
      ∧ e.L < expectedLocal c e.L u n m ∧ expectedLocal c e.L u n m ≤ e.L + n * unitSecs u := by
  have hs := hsec ▸ emod_range e.L (k := 60) (by decide)
  have hm := hmin ▸ emod_range (e.L / 60) (k := 60) (by decide)
  have hh := hhour ▸ emod_range (e.L / 3600) (k := 24) (by decide)
  have h36 : e.L % 3600 = c.minute * 60 + c.second := by omega
  clear hmin hhour
  rw [expectedLocal_eq]
  rcases hu with rfl | rfl | rfl <;> simp only [fieldOf, unitSecs, startOfUnit, checkedNextFixed] at hdur hhi ⊢
  · have h := subday_branch e (elapsed := 0) m hn hs.1 (by decide) (by decide) hdur hlo hhi
    rwa [Int.sub_zero] at h
  · rw [← hsec]
    exact subday_branch e m hn hm.1 (by decide) hs hdur hlo hhi
  · rw [h36]
    exact subday_branch e m hn hh.1 (by decide) (by omega) hdur hlo hhi

/-- The month / year branch: a month index whose year fits `i32` passes the `i64` check, and
`first_of_month` asks chrono for the first of that month. -/
theorem firstOfMonth_branch (e : Env) {M : Int} (h0 : 0 ≤ M) (h1 : M ≤ 12 * I32_MAX + 11) :
    inI64 M = true
      ∧ firstOfMonth e M = (e.naiveOf (civilOfMonthIndex M)).bind (resolveAfter e.mkL e.now 200) := by
  have hD : I64_MIN ≤ 0 ∧ 12 * I32_MAX + 11 ≤ I64_MAX ∧ I32_MIN ≤ 0 := by decide
  refine ⟨inI64_eq_true ⟨by omega, by omega⟩, ?_⟩
  simp only [firstOfMonth, (by omega : I32_MIN ≤ M / 12 ∧ M / 12 ≤ I32_MAX), and_self, if_true, civilOfMonthIndex]
  cases e.naiveOf _ <;> rfl

/-- `t` is an instant chrono offers for the local time `l` -/
def Occurrence (mkL : Int → LocalResult) (l t : Int) : Prop :=
  mkL l = .single t ∨ ∃ a b, mkL l = .ambiguous a b ∧ (t = a ∨ t = b)

theorem resolveAfter_occurrence {mkL : Int → LocalResult} {now l : Int} (fuel : Nat) (h : mkL l ≠ .none) :
    ∃ t, resolveAfter mkL now (fuel + 1) l = some t ∧ Occurrence mkL l t := by
  unfold resolveAfter
  cases hm : mkL l with
  | single t => exact ⟨t, rfl, Or.inl hm⟩
  | ambiguous a b =>
    refine ⟨if a > now then a else b, rfl, Or.inr ⟨a, b, hm, ?_⟩⟩
    split <;> simp
  | none => exact absurd hm h

theorem resolveAfter_resolve1 {mkL : Int → LocalResult} {now l : Int} (fuel : Nat) (h : mkL l ≠ .none) :
    resolveAfter mkL now (fuel + 1) l = resolve1 now (mkL l) := by
  unfold resolveAfter
  cases hm : mkL l with
  | single t => rfl
  | ambiguous a b => rfl
  | none => exact absurd hm h

theorem resolveAfter_skip {mkL : Int → LocalResult} {now l : Int} (fuel : Nat) (h : mkL l = .none)
    (hr : DT_MIN ≤ l + 900 ∧ l + 900 ≤ DT_MAX) :
    resolveAfter mkL now (fuel + 1) l = resolveAfter mkL now fuel (l + 900) := by
  rw [resolveAfter, h]; exact if_pos hr

/-- `resolve_after` on a local time in a DST gap: if the local times `l, l + 15 min, …` do not
exist for `k` steps and the next one does (`k` below the 200 iterations of the loop, inside chrono's
range), the answer is chrono's for `l + k · 15 min` — the first step that exists. -/
theorem resolveAfter_gap {mkL : Int → LocalResult} {now : Int} (k : Nat) :
    ∀ (fuel : Nat) (l : Int), k < fuel →
      (∀ j : Nat, j < k → mkL (l + 900 * j) = .none) →
      (∀ j : Nat, j < k → DT_MIN ≤ l + 900 * (j + 1) ∧ l + 900 * (j + 1) ≤ DT_MAX) →
      mkL (l + 900 * k) ≠ .none →
      resolveAfter mkL now fuel l = resolve1 now (mkL (l + 900 * k)) := by
  induction k with
  | zero =>
    intro fuel l hk _ _ hex
    obtain ⟨f, rfl⟩ : ∃ f, fuel = f + 1 := ⟨fuel - 1, by omega⟩
    simpa using resolveAfter_resolve1 (now := now) f (by simpa using hex)
  | succ k ih =>
    intro fuel l hk hnone hrange hex
    obtain ⟨f, rfl⟩ : ∃ f, fuel = f + 1 := ⟨fuel - 1, by omega⟩
    have shift : ∀ j : Nat, l + 900 * ((j + 1 : Nat) : Int) = l + 900 + 900 * (j : Int) := fun j => by omega
    rw [resolveAfter_skip f (by simpa using hnone 0 (by omega)) (by simpa using hrange 0 (by omega)), shift]
    rw [shift] at hex
    exact ih f (l + 900) (by omega) (fun j hj => shift j ▸ hnone (j + 1) (by omega))
      (fun j hj => by have := hrange (j + 1) (by omega); omega) hex

theorem resolve1_some {now : Int} {r : LocalResult} (h : r ≠ .none) : ∃ t, resolve1 now r = some t := by
  cases r with
  | single t => exact ⟨t, rfl⟩
  | ambiguous a b => exact ⟨_, rfl⟩
  | none => exact absurd rfl h

theorem runFixed_fire {s a : Int} (h : s ≤ a) (t : Int) (rest : List (Int × Out Int)) :
    runFixed s ((a, .ok t) :: rest) = (.ok true, t) :: runFixed t rest := by
  simp [runFixed, stepFixed, h]

theorem runFixed_wait {s a : Int} (h : a < s) (r : Out Int) (rest : List (Int × Out Int)) :
    runFixed s ((a, r) :: rest) = (.ok false, s) :: runFixed s rest := by
  simp [runFixed, stepFixed, Int.not_le.mpr h]

theorem runFixed_before (pre rest : List (Int × Out Int)) (s : Int) (hpre : ∀ p ∈ pre, p.1 < s) :
    runFixed s (pre ++ rest) = pre.map (fun _ => (.ok false, s)) ++ runFixed s rest := by
  induction pre with
  | nil => rfl
  | cons p pre ih =>
    obtain ⟨hp, hrest⟩ := List.forall_mem_cons.mp hpre
    rw [List.cons_append, runFixed_wait hp, ih hrest]
    rfl

end Log4rs.TimeTrigger
