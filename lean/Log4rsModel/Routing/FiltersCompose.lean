import Log4rsModel.Routing.LemmasBuild
/-
Bridge between the logger tree (C01's area: Routing/Tree.lean, LemmasBuild.lean) and the fan-out
(C03: Routing/Filters.lean): every appender index stored in any node of the tree built from a valid
configuration is in range of the appender table — so `appenders[idx]` in `ConfiguredLogger::log`
cannot go out of bounds for the node `find` returns, whatever the target. The invariant itself is
part of `build_spec` (LemmasBuild.lean); this file only restates it in the form the fan-out
theorems use.
-/
namespace Log4rs.Routing.Tree
open Log4rs Log4rs.Str

theorem build_found_in_range (cfg : Config) (hv : Valid cfg) :
    ∃ tree, build cfg = some tree ∧
      ∀ p, ∀ i ∈ (find tree p).apps, i < cfg.appenders.length := by
  obtain ⟨tree, hb, _, _, _, hrange⟩ := build_spec cfg hv
  exact ⟨tree, hb, fun p i hi => hrange p i hi⟩

end Log4rs.Routing.Tree
