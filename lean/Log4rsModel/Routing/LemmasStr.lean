import Log4rsModel.Routing.Spec
/-
String layer of the routing proofs. Both model scanners — `splitFirst` (`str::find("::")` + slicing, used by
`add`) and `comps` (`str::split("::")`, used by `find` and by the specification) — are expressed through one
scanner `findSep` for the leftmost `"::"`; what `findSep` finds is characterised once. From that: a name is
determined by its components, and a name whose components extend another's is textually longer.
-/
namespace Log4rs.Routing.Tree
open Log4rs Log4rs.Str

def NoSep (c : Name) : Prop := ∀ a b : Name, c ≠ a ++ sep ++ b

/-- leftmost `"::"`: the text before it and the text after it -/
def findSep : Name → Option (Name × Name)
  | [] => none
  | c :: s =>
    if Str.isPrefix sep (c :: s) then some ([], (c :: s).drop sep.length)
    else (findSep s).map fun pr => (c :: pr.1, pr.2)

theorem isPrefix_sep_iff (s : Name) : Str.isPrefix sep s = true ↔ ∃ b, s = sep ++ b := by
  match s with
  | [] | [_] => simp [Str.isPrefix, sep]
  | c :: d :: s =>
    simp only [Str.isPrefix, sep, Bool.and_true, Bool.and_eq_true, decide_eq_true_eq, List.cons_append,
      List.nil_append, List.cons.injEq]
    exact ⟨fun h => ⟨s, h.1.symm, h.2.symm, rfl⟩, fun ⟨_, h1, h2, _⟩ => ⟨h1.symm, h2.symm⟩⟩

theorem NoSep.nil : NoSep [] := fun a b hab => by simp [sep] at hab

theorem NoSep.cons {c : Char} {x : Name} (hx : NoSep x) (hc : ∀ b, c :: x ≠ sep ++ b) : NoSep (c :: x) := by
  intro a b hab
  cases a with
  | nil => exact hc b (by simpa using hab)
  | cons a0 a' => exact hx a' b (by simpa using (List.cons.inj hab).2)

theorem findSep_none {s : Name} (h : findSep s = none) : NoSep s := by
  induction s with
  | nil => exact NoSep.nil
  | cons c s ih =>
    rw [findSep] at h
    split at h
    · cases h
    · rename_i hp
      exact (ih (by simpa using h)).cons fun b hb => hp ((isPrefix_sep_iff _).mpr ⟨b, hb⟩)

/-- a found `(p, r)` splits the text at an occurrence of `"::"`, and it is the leftmost one: `p` has none and
does not end in a colon -/
theorem findSep_some {s p r : Name} (h : findSep s = some (p, r)) :
    s = p ++ sep ++ r ∧ NoSep p ∧ p.getLast? ≠ some ':' := by
  induction s generalizing p with
  | nil => cases h
  | cons c s ih =>
    rw [findSep] at h
    split at h
    · rename_i hp
      obtain ⟨b, hb⟩ := (isPrefix_sep_iff _).mp hp
      obtain ⟨rfl, rfl⟩ := Prod.mk.inj (Option.some.inj h)
      exact ⟨by rw [hb, List.drop_left]; rfl, NoSep.nil, fun h => nomatch h⟩
    · rename_i hp
      obtain ⟨⟨p', r'⟩, h1, h2⟩ := Option.map_eq_some_iff.mp h
      obtain ⟨rfl, rfl⟩ := Prod.mk.inj h2
      obtain ⟨hs, hns, hl⟩ := ih h1
      -- an occurrence starting at `c` would have been found
      have hstart : ∀ x, c :: s ≠ sep ++ x := fun x hx => hp ((isPrefix_sep_iff _).mpr ⟨x, hx⟩)
      refine ⟨by rw [hs]; simp, hns.cons fun b hb => hstart (b ++ sep ++ r') ?_, ?_⟩
      · rw [hs, ← List.cons_append, ← List.cons_append, hb]; simp
      · cases p' with
        | nil =>
          rintro hc
          obtain rfl : c = ':' := by simpa using hc
          exact hstart (':' :: r') (by rw [hs]; simp [sep])
        | cons d p'' => simpa [List.getLast?_cons_cons] using hl

theorem findSep_leftmost (p r : Name) (hp : NoSep p) (hl : p.getLast? ≠ some ':') :
    findSep (p ++ sep ++ r) = some (p, r) := by
  induction p with
  | nil => simp [findSep, Str.isPrefix, sep]
  | cons c p ih =>
    have hnp : ¬ Str.isPrefix sep (c :: (p ++ sep ++ r)) = true := by
      intro h
      obtain ⟨b, hb⟩ := (isPrefix_sep_iff _).mp h
      cases p with
      | nil => exact hl (by simp [(List.cons.inj hb).1])
      | cons d p' =>
        simp only [sep, List.cons_append, List.cons.injEq] at hb
        exact hp [] p' (by simp [sep, hb.1, hb.2.1])
    have hl' : p.getLast? ≠ some ':' := by
      cases p with
      | nil => simp
      | cons d p' => simpa [List.getLast?_cons_cons] using hl
    have hp' : NoSep p := fun a b hab => hp (c :: a) b (by simp [hab])
    rw [List.cons_append, List.cons_append, findSep, if_neg hnp, ih hp' hl']
    rfl

theorem findSep_length {s p r : Name} (h : findSep s = some (p, r)) : r.length + 2 ≤ s.length := by
  rw [(findSep_some h).1]
  simp [sep]

theorem splitFirstAux_eq (s cur : List Char) :
    splitFirstAux s cur =
      match findSep s with
      | some (p, r) => (cur.reverse ++ p, r)
      | none => (cur.reverse ++ s, []) := by
  induction s generalizing cur with
  | nil => simp [splitFirstAux, findSep]
  | cons c s ih =>
    simp only [splitFirstAux, findSep]
    split
    · simp
    · rw [ih]; cases findSep s <;> simp

theorem splitFirst_eq (s : Name) :
    splitFirst s = match findSep s with
      | some pr => pr
      | none => (s, []) := by
  unfold splitFirst
  rw [splitFirstAux_eq]; cases findSep s <;> simp

theorem splitOnAux_cons (fuel : Nat) (c : Char) (s cur : List Char) :
    splitOnAux sep (fuel + 1) (c :: s) cur =
      if isPrefix sep (c :: s) then cur.reverse :: splitOnAux sep fuel ((c :: s).drop sep.length) []
      else splitOnAux sep fuel s (c :: cur) := rfl

theorem length_drop_sep_le (c : Char) (s : List Char) : ((c :: s).drop sep.length).length ≤ s.length := by
  rw [List.length_drop]
  exact Nat.sub_le_of_le_add (Nat.le_add_right _ 1)

theorem splitOnAux_fuel (f g : Nat) (s cur : List Char) (hf : s.length + 1 ≤ f) (hg : s.length + 1 ≤ g) :
    splitOnAux sep f s cur = splitOnAux sep g s cur := by
  induction f generalizing g s cur with
  | zero => exact absurd hf (Nat.not_succ_le_zero _)
  | succ f ih =>
    cases g with
    | zero => exact absurd hg (Nat.not_succ_le_zero _)
    | succ g =>
      cases s with
      | nil => rfl
      | cons c s =>
        have hf' : s.length + 1 ≤ f := Nat.le_of_succ_le_succ hf
        have hg' : s.length + 1 ≤ g := Nat.le_of_succ_le_succ hg
        have hd := Nat.succ_le_succ (length_drop_sep_le c s)
        rw [splitOnAux_cons, splitOnAux_cons]
        split
        · rw [ih g _ [] (Nat.le_trans hd hf') (Nat.le_trans hd hg')]
        · exact ih g s _ hf' hg'

theorem splitOnAux_eq (s cur : List Char) :
    splitOnAux sep (s.length + 1) s cur =
      match findSep s with
      | some (p, r) => (cur.reverse ++ p) :: comps r
      | none => [cur.reverse ++ s] := by
  induction s generalizing cur with
  | nil => simp [splitOnAux, findSep]
  | cons c s ih =>
    rw [List.length_cons, splitOnAux_cons, findSep]
    split
    · rw [splitOnAux_fuel _ (((c :: s).drop sep.length).length + 1) _ []
        (Nat.succ_le_succ (length_drop_sep_le c s)) (Nat.le_refl _)]
      simp only [List.append_nil]
      rfl
    · rw [ih]; cases findSep s <;> simp

theorem comps_eq (s : Name) :
    comps s = match findSep s with
      | some (p, r) => p :: comps r
      | none => [s] := by
  have h := splitOnAux_eq s []
  cases hfs : findSep s <;> simpa [comps, splitOn, hfs] using h

theorem comps_ne_nil (s : Name) : comps s ≠ [] := by
  rw [comps_eq]; split <;> simp

theorem comps_induction {P : Name → Prop} (hnone : ∀ s, findSep s = none → P s)
    (hsome : ∀ s p r, findSep s = some (p, r) → P r → P s) (s : Name) : P s := by
  induction hn : s.length using Nat.strongRecOn generalizing s with
  | _ n ih =>
    cases hfs : findSep s with
    | none => exact hnone s hfs
    | some pr =>
      have := findSep_length hfs
      exact hsome s pr.1 pr.2 hfs (ih pr.2.length (hn ▸ Nat.lt_of_succ_lt this) pr.2 rfl)

/-- `"::"`-join of components -/
def joinC : List Name → Name
  | [] => []
  | [c] => c
  | c :: d :: cs => c ++ sep ++ joinC (d :: cs)

theorem joinC_cons (c : Name) {cs : List Name} (h : cs ≠ []) : joinC (c :: cs) = c ++ sep ++ joinC cs := by
  cases cs with
  | nil => exact absurd rfl h
  | cons d ds => rfl

theorem joinC_comps (s : Name) : joinC (comps s) = s := by
  induction s using comps_induction with
  | hnone s h => rw [comps_eq, h]; rfl
  | hsome s p r h ih => rw [comps_eq, h]; simp only; rw [joinC_cons p (comps_ne_nil r), ih, (findSep_some h).1]

theorem comps_inj {s t : Name} (h : comps s = comps t) : s = t := by
  rw [← joinC_comps s, ← joinC_comps t, h]

theorem nodup_map_comps {β} {f : β → Name} {L : List β} (h : (L.map f).Nodup) :
    (L.map fun x => comps (f x)).Nodup := by
  rw [List.nodup_iff_pairwise_ne, List.pairwise_map] at h ⊢
  exact h.imp fun hne hc => hne (comps_inj hc)

/-! ### byte length: why sorting by it inserts ancestors first -/

theorem joinC_append {p r : List Name} (hp : p ≠ []) (hr : r ≠ []) :
    joinC (p ++ r) = joinC p ++ sep ++ joinC r := by
  induction p with
  | nil => exact absurd rfl hp
  | cons c p ih =>
    cases p with
    | nil => exact joinC_cons c hr
    | cons c' p' =>
      rw [List.cons_append, joinC_cons c (by simp), joinC_cons c (by simp), ih (by simp)]
      simp only [List.append_assoc]

theorem byteLen_append (a b : Name) : byteLen (a ++ b) = byteLen a + byteLen b := by
  induction a with
  | nil => simp [byteLen]
  | cons c a ih => simp only [List.cons_append, byteLen, ih, Nat.add_assoc]

/-- a name whose components properly extend those of `a` is `a ++ "::" ++ …`, hence longer in bytes -/
theorem byteLen_lt_of_comps_prefix {a b : Name} (h : comps a <+: comps b) (hne : comps a ≠ comps b) :
    byteLen a < byteLen b := by
  obtain ⟨r, hr⟩ := h
  have hr0 : r ≠ [] := by rintro rfl; exact hne (by simpa using hr)
  have hb : b = a ++ sep ++ joinC r := by
    rw [← joinC_comps b, ← hr, joinC_append (comps_ne_nil a) hr0, joinC_comps]
  have hsep : byteLen sep = 2 := rfl
  rw [hb, byteLen_append, byteLen_append, hsep]
  exact Nat.lt_of_lt_of_le (Nat.lt_add_of_pos_right (Nat.zero_lt_succ 1)) (Nat.le_add_right _ _)

/-- the name does not end in a separator: the text after a found `"::"` is never empty -/
def EndsOk (s : Name) : Prop := ∀ x, s ≠ x ++ sep

theorem checkNameAux_colon (s : Name) (k : Nat) : checkNameAux (s ++ [':']) k = false := by
  induction s generalizing k with
  | nil => simp [checkNameAux]
  | cons c s ih => simp [checkNameAux, ih]

theorem checkLoggerName_endsOk {s : Name} (h : checkLoggerName s = true) : EndsOk s := by
  rintro x rfl
  have hc : checkNameAux (x ++ sep) 0 = false := by
    simpa [sep] using checkNameAux_colon (x ++ [':']) 0
  simp [checkLoggerName, hc] at h

theorem EndsOk.rest {s p r : Name} (hs : EndsOk s) (h : findSep s = some (p, r)) : r ≠ [] ∧ EndsOk r := by
  have heq := (findSep_some h).1
  exact ⟨fun hr => hs p (by rw [heq, hr]; simp), fun x hx => hs (p ++ sep ++ x) (by rw [heq, hx]; simp)⟩

end Log4rs.Routing.Tree
