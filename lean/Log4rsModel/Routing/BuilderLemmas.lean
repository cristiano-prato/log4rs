import Log4rsModel.Routing.Builder
import Log4rsModel.Routing.ListInduction
/-
Lemmas for C13. The three loops of `build_lossy` are compared with the specification through `hist`,
the recursive form of `withEarlier`: the `seen` set of a loop holds the keys of the items already
handled. Facts about first occurrences are proved by adding one item at the end (`firstsBy_snoc`).
-/
namespace Log4rs.Routing

/-- does `replicate run ':' ++ cs` end in a colon -/
def endsColon (cs : List Char) (run : Nat) : Bool :=
  match cs.getLast? with
  | some c => c == ':'
  | none => decide (run > 0)

theorem endsColon_cons (c : Char) (cs : List Char) (run : Nat) :
    endsColon (c :: cs) run = endsColon cs (if c = ':' then run + 1 else 0) := by
  cases cs with
  | nil => by_cases hc : c = ':' <;> simp [endsColon, hc]
  | cons d ds => rw [endsColon, endsColon, List.getLast?_cons_cons]; rfl

/-- the run that is closed by a non-colon is acceptable iff the automaton's streak test passes -/
theorem closedRun_all (run : Nat) :
    (if run = 0 then [] else [run]).all (· == 2) = !(decide (run > 0) && run != 2) := by
  match run with
  | 0 => rfl
  | 1 => rfl
  | 2 => rfl
  | n + 3 => simp

theorem colonRunsAux_big (cs : List Char) (run : Nat) (h : run > 2) :
    (colonRunsAux cs run).all (· == 2) = false := by
  have hrun : ∀ run > 2, (if run = 0 then [] else [run]).all (· == 2) = false := by
    intro run h; rw [closedRun_all]; simp; omega
  induction cs generalizing run with
  | nil => exact hrun run h
  | cons c cs ih =>
    rw [colonRunsAux]
    split
    · exact ih _ (by omega)
    · rw [List.all_append, hrun run h]; rfl

theorem checkNameAux_eq (cs : List Char) (run : Nat) :
    checkNameAux cs run = ((colonRunsAux cs run).all (· == 2) && !endsColon cs run) := by
  induction cs generalizing run with
  | nil =>
    rw [checkNameAux, colonRunsAux]
    match run with
    | 0 => rfl
    | 1 => rfl
    | 2 => rfl
    | n + 3 => simp
  | cons c cs ih =>
    rw [checkNameAux, colonRunsAux]
    by_cases hc : c = ':'
    · rw [if_pos hc, if_pos hc, endsColon_cons, if_pos hc]
      by_cases hb : run + 1 > 2
      · rw [if_pos hb, colonRunsAux_big cs _ hb]; rfl
      · rw [if_neg hb]; exact ih _
    · rw [if_neg hc, if_neg hc, List.all_append, closedRun_all, endsColon_cons, if_neg hc,
        Bool.and_assoc, ← ih 0]
      cases (decide (run > 0) && run != 2) <;> rfl

theorem checkLoggerName_eq_specName (s : Name) : checkLoggerName s = specName s := by
  cases s with
  | nil => rfl
  | cons c cs =>
    rw [checkLoggerName, specName, colonRuns, checkNameAux_eq, endsColon]
    rfl

theorem colonRunsAux_free (w t : List Char) (h : ∀ c ∈ w, c ≠ ':') :
    colonRunsAux (w ++ t) 0 = colonRunsAux t 0 := by
  induction w with
  | nil => rfl
  | cons c w ih =>
    have hc : c ≠ ':' := h c (by simp)
    simp only [List.cons_append, colonRunsAux, hc, if_false, if_true, List.nil_append]
    exact ih (fun d hd => h d (by simp [hd]))

theorem colonRunsAux_replicate (m k : Nat) (t : List Char) :
    colonRunsAux (List.replicate m ':' ++ t) k = colonRunsAux t (k + m) := by
  induction m generalizing k with
  | zero => simp
  | succ m ih =>
    simp only [List.replicate_succ, List.cons_append, colonRunsAux, if_true]
    rw [ih (k + 1)]
    congr 1
    omega

theorem colonRuns_word_run (w : List Char) (h : ∀ c ∈ w, c ≠ ':') (m : Nat) (t : List Char) :
    colonRuns (w ++ List.replicate m ':' ++ t) = colonRunsAux t m := by
  rw [colonRuns, List.append_assoc, colonRunsAux_free _ _ h, colonRunsAux_replicate, Nat.zero_add]

theorem hist_zipIdx {α} (pre ys : List α) :
    (ys.zipIdx pre.length).map (fun p => ((pre ++ ys).take p.2, p.1)) = hist pre ys := by
  induction ys generalizing pre with
  | nil => rfl
  | cons y ys ih =>
    have := ih (pre ++ [y])
    simp only [List.length_append, List.length_cons, List.length_nil, List.append_assoc,
      List.cons_append, List.nil_append] at this
    simp [hist, ← this]

theorem withEarlier_eq_hist {α} (xs : List α) : withEarlier xs = hist [] xs := by
  simpa [withEarlier] using hist_zipIdx [] xs

theorem hist_snoc {α} (pre ys : List α) (x : α) :
    hist pre (ys ++ [x]) = hist pre ys ++ [(pre ++ ys, x)] := by
  induction ys generalizing pre with
  | nil => simp [hist]
  | cons y ys ih => simp [hist, ih (pre ++ [y])]

theorem withEarlier_snoc {α} (xs : List α) (x : α) :
    withEarlier (xs ++ [x]) = withEarlier xs ++ [(xs, x)] := by
  simp only [withEarlier_eq_hist, hist_snoc, List.nil_append]

theorem withEarlier_map_snd {α} (xs : List α) : (withEarlier xs).map (·.2) = xs := by
  simp [withEarlier, Function.comp_def]

theorem mem_withEarlier {α} (xs : List α) (p : List α × α) :
    p ∈ withEarlier xs ↔ ∃ i, xs[i]? = some p.2 ∧ p.1 = xs.take i := by
  simp only [withEarlier, List.mem_map, Prod.exists, List.mem_zipIdx_iff_getElem?]
  constructor
  · rintro ⟨x, i, hx, rfl⟩
    exact ⟨i, hx, rfl⟩
  · rintro ⟨i, hx, hp⟩
    exact ⟨p.2, i, hx, by rw [← hp]⟩

theorem repeats_iff {α} (key : α → Name) (p : List α × α) :
    repeats key p = true ↔ key p.2 ∈ p.1.map key := by
  simp [repeats]

theorem firstsBy_snoc {α} (key : α → Name) (xs : List α) (x : α) :
    firstsBy key (xs ++ [x]) =
      firstsBy key xs ++ (if key x ∈ xs.map key then [] else [x]) := by
  simp only [firstsBy, withEarlier_snoc, List.filter_append, List.map_append, List.filter_cons,
    List.filter_nil, ← repeats_iff key (xs, x)]
  cases repeats key (xs, x) <;> rfl

theorem mem_firstsBy_key {α} (key : α → Name) (xs : List α) (n : Name) :
    n ∈ (firstsBy key xs).map key ↔ n ∈ xs.map key := by
  induction xs using list_snoc_induction with
  | nil => rfl
  | snoc xs x ih =>
    rw [firstsBy_snoc, List.map_append, List.map_append, List.mem_append, List.mem_append, ih]
    split
    · rename_i h
      simp only [List.map_nil, List.not_mem_nil, or_false, List.map_cons, List.mem_singleton]
      exact ⟨Or.inl, fun hn => hn.elim id (fun e => e ▸ h)⟩
    · rfl

theorem firstsBy_nodup {α} (key : α → Name) (xs : List α) : ((firstsBy key xs).map key).Nodup := by
  induction xs using list_snoc_induction with
  | nil => exact List.nodup_nil
  | snoc xs x ih =>
    rw [firstsBy_snoc, List.map_append, List.nodup_append]
    split
    · exact ⟨ih, List.nodup_nil, fun _ _ _ hb => absurd hb List.not_mem_nil⟩
    · rename_i h
      refine ⟨ih, List.pairwise_singleton _ _, fun a ha b hb => ?_⟩
      rw [List.map_singleton, List.mem_singleton] at hb
      rw [mem_firstsBy_key] at ha
      exact fun e => h (hb ▸ e ▸ ha)

theorem withEarlier_no_repeats {α} (key : α → Name) (xs : List α) :
    (∀ p ∈ withEarlier xs, repeats key p = false) ↔ (xs.map key).Nodup := by
  induction xs using list_snoc_induction with
  | nil => simp [withEarlier]
  | snoc xs x ih =>
    rw [withEarlier_snoc, List.forall_mem_append, ih, List.map_append, List.nodup_append]
    simp only [List.mem_singleton, forall_eq, ← Bool.not_eq_true, repeats_iff, List.map_singleton]
    exact and_congr_right fun _ =>
      ⟨fun h => ⟨List.pairwise_singleton _ _, fun a ha e => h (e ▸ ha)⟩, fun h hx => h.2 _ hx rfl⟩

theorem firstsBy_of_nodup {α} (key : α → Name) (xs : List α) (h : (xs.map key).Nodup) :
    firstsBy key xs = xs := by
  have hall := (withEarlier_no_repeats key xs).mpr h
  rw [firstsBy, List.filter_eq_self.mpr fun p hp => by rw [hall p hp]; rfl, withEarlier_map_snd]

theorem nodup_iff_no_earlier {α} (key : α → Name) (xs : List α) :
    (xs.map key).Nodup ↔ ∀ i x, xs[i]? = some x → key x ∉ (xs.take i).map key := by
  simp only [← withEarlier_no_repeats, mem_withEarlier, ← Bool.not_eq_true, repeats_iff]
  exact ⟨fun h i x hx => h (_, x) ⟨i, hx, rfl⟩, fun h p ⟨i, hx, hp⟩ => hp ▸ h i p.2 hx⟩

theorem contains_congr {l₁ l₂ : List Name} (h : ∀ n, n ∈ l₁ ↔ n ∈ l₂) (r : Name) :
    l₁.contains r = l₂.contains r := by
  rw [Bool.eq_iff_iff]
  simp [h r]

theorem seen_step_dup {α} (key : α → Name) {seen : List Name} {pre : List α} (a : α)
    (h : ∀ n, n ∈ seen ↔ n ∈ pre.map key) (hr : repeats key (pre, a) = true) :
    ∀ n, n ∈ seen ↔ n ∈ (pre ++ [a]).map key := by
  intro n
  rw [h n, List.map_append, List.mem_append, List.map_singleton, List.mem_singleton]
  exact ⟨Or.inl, fun hn => hn.elim id fun e => e ▸ (repeats_iff key _).mp hr⟩

theorem seen_step_new {α} (key : α → Name) {seen : List Name} {pre : List α} (a : α)
    (h : ∀ n, n ∈ seen ↔ n ∈ pre.map key) :
    ∀ n, n ∈ key a :: seen ↔ n ∈ (pre ++ [a]).map key := by
  intro n
  rw [List.mem_cons, h n, List.map_append, List.mem_append, List.map_singleton, List.mem_singleton,
    or_comm]

theorem appLoop_hist (ys : List AppenderDecl) (seen : List Name) (pre : List AppenderDecl)
    (h : ∀ n, n ∈ seen ↔ n ∈ pre.map (·.name)) :
    (appLoop ys seen).1 = ((hist pre ys).filter fun p => !repeats (·.name) p).map (·.2) ∧
    (appLoop ys seen).2.2 = ((hist pre ys).filter fun p => repeats (·.name) p).map
        (fun p => (⟨.dupAppender, p.2.name⟩ : CfgError)) := by
  induction ys generalizing seen pre with
  | nil => exact ⟨rfl, rfl⟩
  | cons a rest ih =>
    have hc : seen.contains a.name = repeats (·.name) (pre, a) := contains_congr h a.name
    simp only [appLoop, hist, List.filter_cons, hc]
    cases hr : repeats (·.name) (pre, a)
    · obtain ⟨i1, i2⟩ := ih _ _ (seen_step_new (·.name) a h)
      simp [i1, i2]
    · obtain ⟨i1, i2⟩ := ih _ _ (seen_step_dup (·.name) a h hr)
      simp [i1, i2]

theorem appLoop_names (ys : List AppenderDecl) (seen : List Name) :
    ∀ n, n ∈ (appLoop ys seen).2.1 ↔ n ∈ seen ∨ n ∈ ys.map (·.name) := by
  induction ys generalizing seen with
  | nil => simp [appLoop]
  | cons a rest ih =>
    intro n
    simp only [appLoop, List.map_cons, List.mem_cons]
    split
    · rename_i hc
      rw [ih seen n]
      constructor
      · exact Or.imp_right Or.inr
      · rintro (hs | rfl | hr)
        · exact Or.inl hs
        · exact Or.inl (List.contains_iff_mem.mp hc)
        · exact Or.inr hr
    · rw [ih _ n, List.mem_cons, or_assoc]
      exact or_left_comm

theorem refLoop_eq (names : List Name) (refs : List Name) :
    refLoop names refs =
      (refs.filter (names.contains ·),
       (refs.filter fun r => !names.contains r).map fun r => (⟨.nonexistent, r⟩ : CfgError)) := by
  induction refs with
  | nil => rfl
  | cons r rest ih =>
    simp only [refLoop, ih, List.filter_cons]
    cases names.contains r <;> rfl

theorem logLoop_hist (inp : BuilderInput) (names : List Name)
    (hn : ∀ r, names.contains r = (declared inp).contains r)
    (ys : List LoggerCfg) (seen : List Name) (pre : List LoggerCfg)
    (h : ∀ n, n ∈ seen ↔ n ∈ pre.map (·.name)) :
    (logLoop names ys seen).1 =
      ((((hist pre ys).filter fun p => !repeats (·.name) p).map (·.2)).filter
          fun l => specName l.name).map
        (fun l => { l with appenders := stripDangling inp l.appenders }) ∧
    (logLoop names ys seen).2 = (hist pre ys).flatMap (loggerItemErrors inp) := by
  induction ys generalizing seen pre with
  | nil => exact ⟨rfl, rfl⟩
  | cons l rest ih =>
    have hc : seen.contains l.name = repeats (·.name) (pre, l) := contains_congr h l.name
    simp only [logLoop, hist, List.filter_cons, List.flatMap_cons, hc, checkLoggerName_eq_specName,
      loggerItemErrors, refLoop_eq, hn]
    cases hr : repeats (·.name) (pre, l)
    · obtain ⟨i1, i2⟩ := ih _ _ (seen_step_new (·.name) l h)
      cases hv : specName l.name <;> simp [hv, i1, i2, stripDangling, dangling]
    · obtain ⟨i1, i2⟩ := ih _ _ (seen_step_dup (·.name) l h hr)
      simp [i1, i2]

theorem names_contains (inp : BuilderInput) (r : Name) :
    (appLoop inp.appenders []).2.1.contains r = (declared inp).contains r :=
  contains_congr (fun n => by simpa [declared] using appLoop_names inp.appenders [] n) r

theorem buildLossy_eq_spec (inp : BuilderInput) :
    ((buildLossy inp).config, (buildLossy inp).kept) = specLossy inp ∧
    (buildLossy inp).errors = specErrors inp := by
  obtain ⟨a1, a2⟩ := appLoop_hist inp.appenders [] [] (fun _ => Iff.rfl)
  obtain ⟨l1, l2⟩ := logLoop_hist inp _ (names_contains inp) inp.loggers [] [] (fun _ => Iff.rfl)
  constructor
  · simp only [buildLossy, specLossy, firstsBy, withEarlier_eq_hist, a1, l1, refLoop_eq,
      names_contains, stripDangling]
  · simp only [buildLossy, specErrors, withEarlier_eq_hist, a2, l2, refLoop_eq, names_contains,
      dangling]

theorem build_eq_spec (inp : BuilderInput) :
    build inp = if specErrors inp = [] then .ok (specLossy inp).1 else .error (specErrors inp) := by
  obtain ⟨h1, h2⟩ := buildLossy_eq_spec inp
  rw [build, h2, ← h1]
  cases specErrors inp <;> rfl

theorem forall_withEarlier_snd {α} (P : α → Prop) (xs : List α) :
    (∀ p ∈ withEarlier xs, P p.2) ↔ ∀ y ∈ xs, P y := by
  have h := List.forall_mem_map (l := withEarlier xs) (f := (·.2)) (P := P)
  rw [withEarlier_map_snd] at h
  exact h.symm

theorem loggerItemErrors_nil (inp : BuilderInput) (p : List LoggerCfg × LoggerCfg) :
    loggerItemErrors inp p = [] ↔
      repeats (·.name) p = false ∧ specName p.2.name = true ∧ ∀ r ∈ p.2.appenders, r ∈ declared inp := by
  unfold loggerItemErrors
  cases repeats (·.name) p
  · cases specName p.2.name <;> simp [dangling, List.filter_eq_nil_iff]
  · simp

theorem specErrors_nil_iff (inp : BuilderInput) : specErrors inp = [] ↔ WellFormed inp := by
  simp only [specErrors, List.append_eq_nil_iff, List.map_eq_nil_iff, List.filter_eq_nil_iff,
    List.flatMap_eq_nil_iff, loggerItemErrors_nil, WellFormed, dangling, Bool.not_eq_true,
    Bool.not_eq_false', List.contains_iff_mem, forall_and, withEarlier_no_repeats]
  rw [forall_withEarlier_snd (fun l : LoggerCfg => specName l.name = true),
    forall_withEarlier_snd (fun l : LoggerCfg => ∀ r ∈ l.appenders, r ∈ declared inp)]
  exact ⟨fun ⟨⟨a, d⟩, b, c⟩ => ⟨a, b, c, d⟩, fun ⟨a, b, c, d⟩ => ⟨⟨a, d⟩, b, c⟩⟩

theorem mem_loggerItemErrors (inp : BuilderInput) (p : List LoggerCfg × LoggerCfg) (e : CfgError) :
    e ∈ loggerItemErrors inp p ↔
      (p.2.name ∈ p.1.map (·.name) ∧ e = ⟨.dupLogger, p.2.name⟩) ∨
      (p.2.name ∉ p.1.map (·.name) ∧ specName p.2.name = false ∧ e = ⟨.invalidName, p.2.name⟩) ∨
      (p.2.name ∉ p.1.map (·.name) ∧ specName p.2.name = true ∧
        ∃ r, r ∈ p.2.appenders ∧ r ∉ declared inp ∧ e = ⟨.nonexistent, r⟩) := by
  unfold loggerItemErrors
  rw [← repeats_iff (·.name) p]
  cases repeats (·.name) p
  · cases specName p.2.name
    · simp
    · simp [dangling, and_assoc, eq_comm (a := e)]
  · simp

theorem mem_specErrors_iff (inp : BuilderInput) (e : CfgError) :
    e ∈ specErrors inp ↔ Offending inp e := by
  simp only [specErrors, List.mem_append, List.mem_map, List.mem_filter, List.mem_flatMap,
    mem_withEarlier, dangling]
  simp only [mem_loggerItemErrors, repeats_iff, Bool.not_eq_true', List.contains_eq_mem,
    decide_eq_false_iff_not]
  constructor
  · rintro ((⟨p, ⟨⟨i, hi, hp⟩, hrep⟩, rfl⟩ | ⟨r, ⟨hr, hd⟩, rfl⟩) | ⟨p, ⟨i, hi, hp⟩, h⟩)
    · exact .dupAppender i p.2 hi (hp ▸ hrep)
    · exact .danglingRoot r hr hd
    · rw [hp] at h
      rcases h with ⟨h1, rfl⟩ | ⟨h1, h2, rfl⟩ | ⟨h1, h2, r, h3, h4, rfl⟩
      · exact .dupLogger i p.2 hi h1
      · exact .invalidName i p.2 hi h1 h2
      · exact .danglingLogger i p.2 r hi h1 h2 h3 h4
  · rintro (⟨i, a, hi, hm⟩ | ⟨r, hr, hd⟩ | ⟨i, l, hi, hm⟩ | ⟨i, l, hi, hm, hv⟩ |
      ⟨i, l, r, hi, hm, hv, hr, hd⟩)
    · exact Or.inl (Or.inl ⟨(_, a), ⟨⟨i, hi, rfl⟩, hm⟩, rfl⟩)
    · exact Or.inl (Or.inr ⟨r, ⟨hr, hd⟩, rfl⟩)
    · exact Or.inr ⟨(_, l), ⟨i, hi, rfl⟩, Or.inl ⟨hm, rfl⟩⟩
    · exact Or.inr ⟨(_, l), ⟨i, hi, rfl⟩, Or.inr (Or.inl ⟨hm, hv, rfl⟩)⟩
    · exact Or.inr ⟨(_, l), ⟨i, hi, rfl⟩, Or.inr (Or.inr ⟨hm, hv, r, hr, hd, rfl⟩)⟩

theorem logger_item_reported (inp : BuilderInput) (i : Nat) (l : LoggerCfg)
    (hl : inp.loggers[i]? = some l) :
    Offending inp ⟨.dupLogger, l.name⟩ ∨ Offending inp ⟨.invalidName, l.name⟩ ∨
    l.name ∉ (inp.loggers.take i).map (·.name) ∧ specName l.name = true ∧
      ∀ r ∈ l.appenders, r ∉ declared inp → Offending inp ⟨.nonexistent, r⟩ := by
  by_cases hdup : l.name ∈ (inp.loggers.take i).map (·.name)
  · exact Or.inl (.dupLogger i l hl hdup)
  · cases hv : specName l.name
    · exact Or.inr (Or.inl (.invalidName i l hl hdup hv))
    · exact Or.inr (Or.inr ⟨hdup, rfl, fun r hr hd => .danglingLogger i l r hl hdup hv hr hd⟩)

theorem mem_stripDangling {inp : BuilderInput} {refs : List Name} {a : Name} :
    a ∈ stripDangling inp refs ↔ a ∈ refs ∧ a ∈ declared inp := by
  simp [stripDangling]

theorem specLossy_valid (inp : BuilderInput) : Valid (specLossy inp).1 := by
  have hkept : ∀ refs, ∀ a ∈ stripDangling inp refs, a ∈ (specLossy inp).1.appenders :=
    fun _ a ha => (mem_firstsBy_key (fun x : AppenderDecl => x.name) inp.appenders a).mpr (mem_stripDangling.mp ha).2
  refine ⟨firstsBy_nodup _ _, ?_, fun l hl => ?_, hkept _⟩
  · rw [specLossy, List.map_map]
    exact ((List.filter_sublist).map _).nodup (firstsBy_nodup (·.name) inp.loggers)
  · obtain ⟨l0, hl0, rfl⟩ := List.mem_map.mp hl
    exact ⟨(checkLoggerName_eq_specName _).trans (List.mem_filter.mp hl0).2, hkept _⟩

theorem buildLossy_valid (inp : BuilderInput) : Valid (buildLossy inp).config := by
  have hv := specLossy_valid inp
  rwa [← (buildLossy_eq_spec inp).1] at hv

theorem stripDangling_of_declared (inp : BuilderInput) (refs : List Name)
    (h : ∀ r ∈ refs, r ∈ declared inp) : stripDangling inp refs = refs :=
  List.filter_eq_self.mpr fun r hr => List.contains_iff_mem.mpr (h r hr)

theorem specLossy_of_wellFormed (inp : BuilderInput) (h : WellFormed inp) :
    specLossy inp = (inp.toConfig, inp.appenders) := by
  obtain ⟨ha, hl, hlog, hroot⟩ := h
  have h3 : inp.loggers.filter (fun l => specName l.name) = inp.loggers :=
    List.filter_eq_self.mpr fun l hl => (hlog l hl).1
  have h4 : inp.loggers.map (fun l => { l with appenders := stripDangling inp l.appenders }) =
      inp.loggers :=
    (List.map_congr_left fun l hl => by
      rw [stripDangling_of_declared inp _ (hlog l hl).2]; rfl).trans (List.map_id _)
  simp only [specLossy, firstsBy_of_nodup _ _ ha, firstsBy_of_nodup _ _ hl, h3, h4,
    stripDangling_of_declared inp _ hroot, BuilderInput.toConfig, declared]

theorem lookupLast_sound {r : Name} {table : List Name} {base i : Nat}
    (h : lookupLast r table base = some i) : ∃ k, i = base + k ∧ table[k]? = some r := by
  induction table generalizing base with
  | nil => cases h
  | cons n rest ih =>
    rw [lookupLast] at h
    split at h
    · cases h
      obtain ⟨k, hk, hr⟩ := ih ‹_›
      exact ⟨k + 1, by omega, hr⟩
    · split at h
      · cases h
        exact ⟨0, rfl, congrArg some ‹n = r›⟩
      · cases h

theorem lookupLast_complete (r : Name) (table : List Name) (base : Nat) (h : r ∈ table) :
    ∃ i, lookupLast r table base = some i := by
  induction table generalizing base with
  | nil => cases h
  | cons n rest ih =>
    rw [lookupLast]
    split
    · exact ⟨_, rfl⟩
    · rcases List.mem_cons.mp h with rfl | hr
      · exact ⟨base, if_pos rfl⟩
      · obtain ⟨i, hi⟩ := ih (base + 1) hr
        rw [‹lookupLast r rest (base + 1) = none›] at hi
        cases hi

/-- every reference got the index of an appender with that name -/
def ResolvedTo (table : List Name) (refs : List Name) (idxs : List Nat) : Prop :=
  idxs.map (table[·]?) = refs.map some

theorem ResolvedTo.mem {table refs : List Name} {idxs : List Nat} (h : ResolvedTo table refs idxs) :
    ∀ r ∈ refs, r ∈ table := by
  intro r hr
  have hm : some r ∈ idxs.map (table[·]?) := h ▸ List.mem_map_of_mem hr
  obtain ⟨i, _, hi⟩ := List.mem_map.mp hm
  exact List.mem_of_getElem? hi

theorem ResolvedTo.lt {table refs : List Name} {idxs : List Nat} (h : ResolvedTo table refs idxs) :
    ∀ i ∈ idxs, i < table.length := by
  intro i hi
  have hm : table[i]? ∈ refs.map some := h ▸ List.mem_map_of_mem (f := (table[·]?)) hi
  obtain ⟨r, _, hr⟩ := List.mem_map.mp hm
  exact (List.getElem?_eq_some_iff.mp hr.symm).1

theorem resolveRefs_sound {table refs : List Name} {idxs : List Nat}
    (h : resolveRefs table refs = some idxs) : ResolvedTo table refs idxs := by
  induction refs generalizing idxs with
  | nil => cases h; rfl
  | cons r rest ih =>
    rw [resolveRefs] at h
    split at h
    · cases h
      obtain ⟨k, rfl, hk⟩ := lookupLast_sound ‹_›
      rw [ResolvedTo, List.map_cons, List.map_cons, Nat.zero_add, hk, ih ‹_›]
    · cases h

theorem resolveRefs_complete {table refs : List Name} (h : ∀ r ∈ refs, r ∈ table) :
    ∃ idxs, resolveRefs table refs = some idxs := by
  induction refs with
  | nil => exact ⟨[], rfl⟩
  | cons r rest ih =>
    rw [List.forall_mem_cons] at h
    obtain ⟨i, hi⟩ := lookupLast_complete r table 0 h.1
    obtain ⟨is, his⟩ := ih h.2
    exact ⟨i :: is, by rw [resolveRefs, hi, his]⟩

theorem resolveLoggers_sound {table : List Name} {ls : List LoggerCfg}
    {out : List (LoggerCfg × List Nat)} (h : resolveLoggers table ls = some out) :
    out.map (·.1) = ls ∧ ∀ p ∈ out, ResolvedTo table p.1.appenders p.2 := by
  induction ls generalizing out with
  | nil => cases h; exact ⟨rfl, nofun⟩
  | cons l rest ih =>
    rw [resolveLoggers] at h
    split at h
    · cases h
      obtain ⟨h1, h2⟩ := ih ‹_›
      exact ⟨congrArg (l :: ·) h1, List.forall_mem_cons.mpr ⟨resolveRefs_sound ‹_›, h2⟩⟩
    · cases h

theorem resolveLoggers_complete {table : List Name} {ls : List LoggerCfg}
    (h : ∀ l ∈ ls, ∀ r ∈ l.appenders, r ∈ table) : ∃ out, resolveLoggers table ls = some out := by
  induction ls with
  | nil => exact ⟨[], rfl⟩
  | cons l rest ih =>
    rw [List.forall_mem_cons] at h
    obtain ⟨is, his⟩ := resolveRefs_complete h.1
    obtain ⟨out, hout⟩ := ih h.2
    exact ⟨(l, is) :: out, by rw [resolveLoggers, his, hout]⟩

theorem install_eq_ok_iff (cfg : Config) (r : Resolved) :
    install cfg = .ok r ↔
      resolveRefs cfg.appenders cfg.rootAppenders = some r.root ∧
      resolveLoggers cfg.appenders cfg.loggers = some r.loggers := by
  rw [install, resolveAll]
  cases resolveRefs cfg.appenders cfg.rootAppenders <;>
    cases resolveLoggers cfg.appenders cfg.loggers <;> cases r <;> simp

end Log4rs.Routing
