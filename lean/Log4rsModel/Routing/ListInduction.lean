/-
Induction on a list from its end. Both chains of routing lemmas use it (`LemmasSpec`: a component path is walked
from the root; `BuilderLemmas`: an item is a first occurrence by the items before it), and they share no other
module than the model's.
-/
namespace Log4rs.Routing

theorem list_snoc_induction {α} {P : List α → Prop} (nil : P [])
    (snoc : ∀ xs x, P xs → P (xs ++ [x])) (xs : List α) : P xs := by
  have h : ∀ ys : List α, P ys.reverse := by
    intro ys
    induction ys with
    | nil => exact nil
    | cons y ys ih => rw [List.reverse_cons]; exact snoc _ _ ih
  rw [← xs.reverse_reverse]
  exact h _

end Log4rs.Routing
