import Log4rsModel.Routing.LemmasTree
import Log4rsModel.Routing.ListInduction
/-
Resolution layer of the routing proofs. `res root L p` is the (level, attachments) the statement assigns
to the component path `p` for a list `L` of loggers — walking `p` from the root: each configured prefix
replaces the level and puts its attachments in front of (additive) or instead of (not additive) what was
inherited. It is the meeting point of the two sides:
* inserting one more logger into the tree changes `find`'s answer exactly as appending it to `L` changes `res`
  (`res_snoc`, used with `fdata_graft`);
* `res` over the declared loggers is the specification's `(specLevel, chain (effective …))` (`res_eq_spec`);
* `res` depends on `L` only through look-up by component list (`res_congr`), hence not on its order.
-/
namespace Log4rs.Routing.Tree
open Log4rs Log4rs.Str

/-- a logger as the resolution sees it; `α` = appender identifiers (indices in the tree, names in the spec) -/
structure Ent (α : Type) where
  comps : List Name
  level : Nat
  additive : Bool
  apps : List α

def Ent.map {α β} (f : α → β) (e : Ent α) : Ent β :=
  { comps := e.comps, level := e.level, additive := e.additive, apps := e.apps.map f }

def lookupE {α} (L : List (Ent α)) (p : List Name) : Option (Ent α) :=
  L.find? (fun e => decide (e.comps = p))

/-- resolution along the reversed path -/
def resRev {α} (root : Nat × List α) (L : List (Ent α)) : List Name → Nat × List α
  | [] => root
  | c :: r =>
    match lookupE L (c :: r).reverse with
    | some e => (e.level, e.apps ++ (if e.additive then (resRev root L r).2 else []))
    | none => resRev root L r

def res {α} (root : Nat × List α) (L : List (Ent α)) (p : List Name) : Nat × List α :=
  resRev root L p.reverse

theorem not_prefix_of_concat {α} {q p : List α} {c : α} (h : q = p ++ [c]) : ¬ q <+: p := by
  intro hp
  have := hp.length_le
  rw [h, List.length_append] at this
  exact Nat.not_succ_le_self _ this

section
variable {α : Type}

theorem res_nil (root : Nat × List α) (L : List (Ent α)) : res root L [] = root := rfl

theorem res_concat (root : Nat × List α) (L : List (Ent α)) (p : List Name) (c : Name) :
    res root L (p ++ [c]) =
      match lookupE L (p ++ [c]) with
      | some e => (e.level, e.apps ++ (if e.additive then (res root L p).2 else []))
      | none => res root L p := by
  simp [res, resRev]

theorem res_noLoggers (root : Nat × List α) (p : List Name) : res root [] p = root := by
  induction p using list_snoc_induction with
  | nil => rfl
  | snoc p c ih => rw [res_concat]; exact ih

theorem lookupE_comps {L : List (Ent α)} {p : List Name} {e : Ent α} (h : lookupE L p = some e) :
    e.comps = p ∧ e ∈ L :=
  ⟨by simpa using List.find?_some h, List.mem_of_find?_eq_some h⟩

theorem lookupE_append (L : List (Ent α)) (e : Ent α) (p : List Name) :
    lookupE (L ++ [e]) p = (lookupE L p).or (if e.comps = p then some e else none) := by
  rw [lookupE, List.find?_append, ← lookupE, List.find?_cons]
  by_cases hc : e.comps = p <;> simp [hc]

/-- appending a logger whose path is not a prefix of (or equal to) an earlier one -/
theorem res_snoc (root : Nat × List α) (L : List (Ent α)) (e : Ent α) (hq : e.comps ≠ [])
    (hnew : ∀ e' ∈ L, ¬ e.comps <+: e'.comps) (p : List Name) :
    res root (L ++ [e]) p =
      if e.comps <+: p then (e.level, e.apps ++ (if e.additive then (res root L e.comps).2 else []))
      else res root L p := by
  -- at the new path and below it `L` has no logger
  have hnoL : ∀ p', e.comps <+: p' → lookupE L p' = none := by
    intro p' hp'
    cases h : lookupE L p' with
    | none => rfl
    | some e' => exact absurd ((lookupE_comps h).1 ▸ hp') (hnew e' (lookupE_comps h).2)
  induction p using list_snoc_induction with
  | nil => rw [if_neg (by simpa using hq)]; rfl
  | snoc p c ih =>
    rw [res_concat, lookupE_append, ih]
    by_cases hpre : e.comps <+: p ++ [c]
    · rw [if_pos hpre, hnoL _ hpre, Option.none_or]
      rcases List.prefix_concat_iff.mp hpre with heq | hpp
      · -- the path is the new logger's own: what it inherits is what `L` gives its parent path
        have hpar : res root L e.comps = res root L p := by rw [heq, res_concat, hnoL _ hpre]
        rw [if_pos heq, if_neg (not_prefix_of_concat heq), hpar]
      · -- a strict extension of it
        have hne : e.comps ≠ p ++ [c] := fun h => not_prefix_of_concat h hpp
        rw [if_neg hne, if_pos hpp]
    · have hnp : ¬ e.comps <+: p := fun h => hpre (h.trans (List.prefix_append _ _))
      have hne : e.comps ≠ p ++ [c] := fun h => hpre (h ▸ List.prefix_refl _)
      rw [if_neg hpre, if_neg hnp, if_neg hne, Option.or_none, res_concat]

theorem res_mem (root : Nat × List α) (L : List (Ent α)) (p : List Name) (a : α)
    (h : a ∈ (res root L p).2) : a ∈ root.2 ∨ ∃ e ∈ L, a ∈ e.apps := by
  induction p using list_snoc_induction with
  | nil => exact Or.inl h
  | snoc p c ih =>
    rw [res_concat] at h
    cases hl : lookupE L (p ++ [c]) with
    | none => rw [hl] at h; exact ih h
    | some e =>
      rw [hl] at h
      rcases List.mem_append.mp h with h | h
      · exact Or.inr ⟨e, (lookupE_comps hl).2, h⟩
      · cases hadd : e.additive with
        | false => simp [hadd] at h
        | true => rw [hadd, if_pos rfl] at h; exact ih h

theorem res_congr (root : Nat × List α) (L L' : List (Ent α)) (h : ∀ p, lookupE L p = lookupE L' p)
    (p : List Name) : res root L p = res root L' p := by
  induction p using list_snoc_induction with
  | nil => rfl
  | snoc p c ih => rw [res_concat, res_concat, h, ih]

theorem lookupE_eq_some_iff {L : List (Ent α)} (hnd : (L.map (·.comps)).Nodup) (p : List Name) (e : Ent α) :
    lookupE L p = some e ↔ e ∈ L ∧ e.comps = p := by
  refine ⟨fun h => ⟨(lookupE_comps h).2, (lookupE_comps h).1⟩, ?_⟩
  rintro ⟨hm, hc⟩
  induction L with
  | nil => cases hm
  | cons x xs ih =>
    rw [List.map_cons, List.nodup_cons] at hnd
    rw [lookupE, List.find?_cons]
    rcases List.mem_cons.mp hm with rfl | hm'
    · simp [hc]
    · have hx : x.comps ≠ p := fun hx => hnd.1 (hx ▸ hc ▸ List.mem_map_of_mem hm')
      simp only [hx, decide_false]
      exact ih hnd.2 hm'

/-- with unique component lists, look-up — hence resolution — is invariant under permutation -/
theorem res_perm (root : Nat × List α) {L L' : List (Ent α)} (hnd : (L.map (·.comps)).Nodup)
    (hp : L.Perm L') (p : List Name) : res root L p = res root L' p := by
  have hnd' : (L'.map (·.comps)).Nodup := (hp.map _).nodup_iff.mp hnd
  refine res_congr root L L' (fun p => Option.ext fun e => ?_) p
  rw [lookupE_eq_some_iff hnd, lookupE_eq_some_iff hnd', hp.mem_iff]

end

theorem lookupE_map {α β} (f : α → β) (L : List (Ent α)) (p : List Name) :
    lookupE (L.map (Ent.map f)) p = (lookupE L p).map (Ent.map f) := by
  rw [lookupE, List.find?_map]; rfl

theorem res_map {α β} (f : α → β) (root : Nat × List α) (L : List (Ent α)) (p : List Name) :
    res (root.1, root.2.map f) (L.map (Ent.map f)) p = ((res root L p).1, (res root L p).2.map f) := by
  induction p using list_snoc_induction with
  | nil => rfl
  | snoc p c ih =>
    rw [res_concat, res_concat, lookupE_map]
    cases h : lookupE L (p ++ [c]) with
    | none => exact ih
    | some e =>
      simp only [Option.map_some, Ent.map, List.map_append, ih]
      cases e.additive <;> simp

def entOfCfg (l : LoggerCfg) : Ent Name :=
  { comps := comps l.name, level := l.level, additive := l.additive, apps := l.appenders }

theorem lookupE_entOfCfg (ls : List LoggerCfg) (p : List Name) :
    lookupE (ls.map entOfCfg) p = (lookupLogger ls p).map entOfCfg := by
  rw [lookupE, List.find?_map]; rfl

theorem prefixesDesc_concat (p : List Name) (c : Name) :
    prefixesDesc (p ++ [c]) = (p ++ [c]) :: prefixesDesc p := by
  induction p with
  | nil => rfl
  | cons a p ih => simp [prefixesDesc, ih]

theorem lookupLogger_nil (ls : List LoggerCfg) : lookupLogger ls [] = none := by
  rw [lookupLogger, List.find?_eq_none]
  intro l _
  simpa using comps_ne_nil l.name

theorem lookupLogger_comps {ls : List LoggerCfg} {p : List Name} {l : LoggerCfg}
    (h : lookupLogger ls p = some l) : comps l.name = p := by
  simpa using List.find?_some h

theorem effectiveAt_nil (ls : List LoggerCfg) : effectiveAt ls [] = none := by
  simp [effectiveAt, prefixesDesc, lookupLogger_nil]

theorem effectiveAt_concat (ls : List LoggerCfg) (p : List Name) (c : Name) :
    effectiveAt ls (p ++ [c]) =
      match lookupLogger ls (p ++ [c]) with
      | some l => some l
      | none => effectiveAt ls p := by
  rw [effectiveAt, prefixesDesc_concat, List.findSome?_cons]
  cases lookupLogger ls (p ++ [c]) <;> rfl

theorem chain_none (cfg : Config) (n : Nat) : chain cfg n none = cfg.rootAppenders := by
  cases n <;> rfl

def levelOf (cfg : Config) : Option LoggerCfg → Nat
  | some l => l.level
  | none => cfg.rootLevel

theorem res_eq_spec (cfg : Config) (p : List Name) (fuel : Nat) (hf : p.length ≤ fuel) :
    res (cfg.rootLevel, cfg.rootAppenders) (cfg.loggers.map entOfCfg) p =
      (levelOf cfg (effectiveAt cfg.loggers p), chain cfg fuel (effectiveAt cfg.loggers p)) := by
  induction p using list_snoc_induction generalizing fuel with
  | nil => rw [res_nil, effectiveAt_nil, chain_none]; rfl
  | snoc p c ih =>
    rw [res_concat, lookupE_entOfCfg, effectiveAt_concat]
    cases fuel with
    | zero => simp at hf
    | succ f =>
      have hf' : p.length ≤ f := by simpa using hf
      cases h : lookupLogger cfg.loggers (p ++ [c]) with
      | none => exact ih (f + 1) (Nat.le_succ_of_le hf')
      | some l =>
        have hc := lookupLogger_comps h
        simp only [Option.map_some, entOfCfg, levelOf, chain, parent, hc, List.dropLast_concat, ih f hf']

theorem specLevel_eq (cfg : Config) (t : Name) : specLevel cfg t = levelOf cfg (effective cfg t) := by
  unfold specLevel levelOf
  cases effective cfg t <;> rfl

theorem spec_eq_res (cfg : Config) (t : Name) :
    (specLevel cfg t, chain cfg (comps t).length (effective cfg t)) =
      res (cfg.rootLevel, cfg.rootAppenders) (cfg.loggers.map entOfCfg) (comps t) := by
  rw [res_eq_spec cfg _ _ (Nat.le_refl _), specLevel_eq]; rfl

theorem specDeliver_eq_res (cfg : Config) (t : Name) (lvl : Nat) :
    specDeliver cfg t lvl =
      if admits (res (cfg.rootLevel, cfg.rootAppenders) (cfg.loggers.map entOfCfg) (comps t)).1 lvl
      then (res (cfg.rootLevel, cfg.rootAppenders) (cfg.loggers.map entOfCfg) (comps t)).2 else [] := by
  rw [← spec_eq_res]; rfl

theorem foldl_max_le_iff (l : List Nat) (m k : Nat) : l.foldl max m ≤ k ↔ m ≤ k ∧ ∀ x ∈ l, x ≤ k := by
  induction l generalizing m with
  | nil => simp
  | cons x l ih => simp only [List.foldl_cons, ih, Nat.max_le, List.forall_mem_cons, and_assoc]

theorem foldl_max_attained (l : List Nat) (m : Nat) : l.foldl max m = m ∨ l.foldl max m ∈ l := by
  induction l generalizing m with
  | nil => exact Or.inl rfl
  | cons x l ih =>
    rw [List.foldl_cons]
    rcases ih (max m x) with h | h
    · rcases Nat.le_total m x with hmx | hmx
      · exact Or.inr (by rw [h, Nat.max_eq_right hmx]; exact List.mem_cons_self)
      · exact Or.inl (by rw [h, Nat.max_eq_left hmx])
    · exact Or.inr (List.mem_cons_of_mem _ h)

theorem specMaxLevel_le_iff (cfg : Config) (k : Nat) :
    specMaxLevel cfg ≤ k ↔ cfg.rootLevel ≤ k ∧ ∀ l ∈ cfg.loggers, l.level ≤ k := by
  rw [specMaxLevel, foldl_max_le_iff, List.forall_mem_map]

end Log4rs.Routing.Tree
