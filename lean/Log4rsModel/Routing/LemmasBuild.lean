import Log4rsModel.Routing.LemmasSpec
/-
Build layer of the routing proofs: the stable sort, the invariant carried along the insertion sequence
(Appendix D of DESIGN.md), index resolution, and the assembled statement `build_spec` from which the
property theorems of C01 and C02 are read off; then the history machine of C02.
-/
namespace Log4rs.Routing.Tree
open Log4rs Log4rs.Str

section
variable {α : Type} (key : α → Nat)

theorem insertByKey_perm (x : α) (l : List α) : (insertByKey key x l).Perm (x :: l) := by
  induction l with
  | nil => exact List.Perm.refl _
  | cons y ys ih =>
    rw [insertByKey]
    split
    · exact (List.Perm.cons y ih).trans (List.Perm.swap x y ys)
    · exact List.Perm.refl _

theorem sortByKey_perm (l : List α) : (sortByKey key l).Perm l := by
  induction l with
  | nil => exact List.Perm.refl _
  | cons x xs ih => exact (insertByKey_perm key x _).trans (List.Perm.cons x ih)

theorem insertByKey_sorted (x : α) (l : List α) (h : l.Pairwise (fun a b => key a ≤ key b)) :
    (insertByKey key x l).Pairwise (fun a b => key a ≤ key b) := by
  induction l with
  | nil => simp [insertByKey]
  | cons y ys ih =>
    rw [insertByKey]
    rw [List.pairwise_cons] at h
    split
    · rename_i hlt
      refine List.pairwise_cons.mpr ⟨fun a ha => ?_, ih h.2⟩
      rcases List.mem_cons.mp ((insertByKey_perm key x ys).mem_iff.mp ha) with rfl | ha'
      · exact Nat.le_of_lt hlt
      · exact h.1 a ha'
    · rename_i hge
      refine List.pairwise_cons.mpr ⟨fun a ha => ?_, List.pairwise_cons.mpr h⟩
      rcases List.mem_cons.mp ha with rfl | ha'
      · exact Nat.le_of_not_lt hge
      · exact Nat.le_trans (Nat.le_of_not_lt hge) (h.1 a ha')

theorem sortByKey_sorted (l : List α) : (sortByKey key l).Pairwise (fun a b => key a ≤ key b) := by
  induction l with
  | nil => exact List.Pairwise.nil
  | cons x xs ih => exact insertByKey_sorted key x _ ih

end

def toEnt (l : RLogger) : Ent Nat :=
  { comps := comps l.name, level := l.level, additive := l.additive, apps := l.apps }

/-- `L` = loggers inserted so far, `t` = the tree they produced -/
structure BuildInv (root : Nat × List Nat) (L : List RLogger) (t : Node) : Prop where
  /-- `find` answers with the resolution over the inserted loggers -/
  data : ∀ p, fdata t p = res root (L.map toEnt) p
  /-- every node path is a component prefix of an inserted name -/
  paths : ∀ p, getNode t p ≠ none → p = [] ∨ ∃ l ∈ L, p <+: comps l.name
  /-- implied nodes only copy existing levels: the maximum is that of the root and the inserted loggers -/
  maxl : ∀ k, t.maxLevel ≤ k ↔ root.1 ≤ k ∧ ∀ l ∈ L, l.level ≤ k

theorem BuildInv.init (root : Nat × List Nat) : BuildInv root [] (Node.mk root.1 root.2 []) where
  data p := by rw [fdata_leaf]; exact (res_noLoggers root p).symm
  paths p h := by
    cases hg : getNode (Node.mk root.1 root.2 []) p with
    | none => exact absurd hg h
    | some n => exact Or.inl (getNode_leaf hg)
  maxl k := by rw [maxLevel_leaf_le_iff]; exact (and_iff_left fun l hl => absurd hl List.not_mem_nil).symm

/-- inserting a name of which no inserted name is an extension: the path is not yet a node, so the insertion
is a graft, and the `child.add("")` flag stays as it was -/
theorem BuildInv.step {root : Nat × List Nat} {L : List RLogger} {t : Node} (inv : BuildInv root L t)
    (w : Bool) (l : RLogger) (hnew : ∀ l' ∈ L, ¬ comps l.name <+: comps l'.name) (hok : EndsOk l.name) :
    BuildInv root (L ++ [l]) (addLogger (t, w) l).1 ∧ (addLogger (t, w) l).2 = w := by
  have hq : comps l.name ≠ [] := comps_ne_nil _
  have hnone : getNode t (comps l.name) = none := by
    cases h : getNode t (comps l.name) with
    | none => rfl
    | some n =>
      rcases inv.paths (comps l.name) (by simp [h]) with h0 | ⟨l', hl', hp⟩
      · exact absurd h0 hq
      · exact absurd hp (hnew l' hl')
  rw [addLogger, add, addAux_eq_graft _ t l.name l.apps l.additive l.level
    (Nat.lt_succ_of_le (Nat.le_add_right _ _)) hok hnone]
  refine ⟨⟨fun p => ?_, fun p hp => ?_, fun k => ?_⟩, Bool.or_false w⟩
  · rw [fdata_graft, fdata_leaf, inv.data, inv.data, List.map_append, List.map_cons, List.map_nil,
      res_snoc root (L.map toEnt) (toEnt l) hq (List.forall_mem_map.mpr hnew) p]
    rfl
  · rcases getNode_graft rfl _ _ p hp with h1 | h1
    · rcases inv.paths p h1 with h0 | ⟨l', hl', hpre⟩
      · exact Or.inl h0
      · exact Or.inr ⟨l', List.mem_append_left _ hl', hpre⟩
    · exact Or.inr ⟨l, by simp, h1⟩
  · rw [maxLevel_graft_le_iff _ _ _ hnone, inv.maxl, maxLevel_leaf_le_iff, List.forall_mem_append,
      List.forall_mem_singleton, and_assoc]

/-- later names are never component prefixes of (or equal to) earlier ones -/
def PrefixOrdered (S : List RLogger) : Prop :=
  S.Pairwise (fun a b => ¬ comps b.name <+: comps a.name)

theorem BuildInv.foldl (root : Nat × List Nat) (S : List RLogger) (hord : PrefixOrdered S)
    (hok : ∀ l ∈ S, EndsOk l.name) :
    BuildInv root S (S.foldl addLogger (Node.mk root.1 root.2 [], false)).1 ∧
      (S.foldl addLogger (Node.mk root.1 root.2 [], false)).2 = false := by
  induction S using list_snoc_induction with
  | nil => exact ⟨BuildInv.init root, rfl⟩
  | snoc S l ih =>
    obtain ⟨hS, _, hl⟩ := List.pairwise_append.mp hord
    obtain ⟨inv, hw⟩ := ih hS fun x hx => hok x (List.mem_append_left _ hx)
    rw [List.foldl_append, List.foldl_cons, List.foldl_nil]
    have := inv.step (S.foldl addLogger (Node.mk root.1 root.2 [], false)).2 l
      (fun l' hl' => hl l' hl' l (List.mem_singleton_self l)) (hok l (by simp))
    exact ⟨this.1, this.2.trans hw⟩

/-- sorted by byte length with distinct names ⇒ ancestors come first -/
theorem prefixOrdered_of_sorted (S : List RLogger)
    (hs : S.Pairwise (fun a b => byteLen a.name ≤ byteLen b.name))
    (hn : S.Pairwise (fun a b => a.name ≠ b.name)) : PrefixOrdered S := by
  refine (hs.and hn).imp ?_
  intro a b ⟨hle, hne⟩ hpre
  by_cases heq : comps b.name = comps a.name
  · exact hne (comps_inj heq).symm
  · exact Nat.not_lt.mpr hle (byteLen_lt_of_comps_prefix hpre heq)

/-- proof device: the name behind an index, with a default that is never used (`namesOf_eq`) -/
def nameOf (tbl : List Name) (i : Nat) : Name := tbl.getD i []

theorem nameOf_eq {tbl : List Name} {i : Nat} {a : Name} (h : tbl[i]? = some a) : nameOf tbl i = a := by
  rw [nameOf, List.getD_eq_getElem?_getD, h]; rfl

theorem namesOf_eq (tbl : List Name) (is : List Nat) (h : ∀ i ∈ is, i < tbl.length) :
    namesOf tbl is = some (is.map (nameOf tbl)) := by
  induction is with
  | nil => rfl
  | cons i is ih =>
    have hi := List.getElem?_eq_getElem (h i (by simp))
    rw [namesOf, hi, ih (fun j hj => h j (by simp [hj])), List.map_cons, nameOf_eq hi]

theorem lastIdx_getElem? {tbl : List Name} {a : Name} {i : Nat} (h : lastIdx tbl a = some i) :
    tbl[i]? = some a := by
  induction tbl generalizing i with
  | nil => cases h
  | cons x xs ih =>
    simp only [lastIdx] at h
    cases hl : lastIdx xs a with
    | some j =>
      simp only [hl, Option.some.injEq] at h
      subst h
      exact ih hl
    | none =>
      simp only [hl] at h
      split at h
      · rename_i hx; cases h; simp [hx]
      · cases h

theorem lastIdx_of_mem {tbl : List Name} {a : Name} (h : a ∈ tbl) : ∃ i, lastIdx tbl a = some i := by
  induction tbl with
  | nil => cases h
  | cons x xs ih =>
    rw [lastIdx]
    cases hl : lastIdx xs a with
    | some j => exact ⟨j + 1, rfl⟩
    | none =>
      rcases List.mem_cons.mp h with rfl | h'
      · exact ⟨0, by simp⟩
      · obtain ⟨i, hi⟩ := ih h'; rw [hl] at hi; cases hi

theorem resolve_of_mem (tbl : List Name) (refs : List Name) (h : ∀ a ∈ refs, a ∈ tbl) :
    ∃ is, resolve tbl refs = some is ∧ is.map (nameOf tbl) = refs ∧ ∀ i ∈ is, i < tbl.length := by
  induction refs with
  | nil => exact ⟨[], rfl, rfl, by simp⟩
  | cons a as ih =>
    obtain ⟨i, hi⟩ := lastIdx_of_mem (h a (by simp))
    obtain ⟨is, his, hmap, hlt⟩ := ih (fun x hx => h x (by simp [hx]))
    have hget := lastIdx_getElem? hi
    refine ⟨i :: is, by simp [resolve, hi, his], by rw [List.map_cons, hmap, nameOf_eq hget], ?_⟩
    exact List.forall_mem_cons.mpr ⟨(List.getElem?_eq_some_iff.mp hget).1, hlt⟩

/-- a resolved logger read back through the appender table -/
def unresolve (tbl : List Name) (r : RLogger) : LoggerCfg :=
  { name := r.name, level := r.level, additive := r.additive, appenders := r.apps.map (nameOf tbl) }

theorem resolveLoggers_of_mem (tbl : List Name) (ls : List LoggerCfg)
    (h : ∀ l ∈ ls, ∀ a ∈ l.appenders, a ∈ tbl) :
    ∃ rs, resolveLoggers tbl ls = some rs ∧ rs.map (unresolve tbl) = ls ∧
      ∀ r ∈ rs, ∀ i ∈ r.apps, i < tbl.length := by
  induction ls with
  | nil => exact ⟨[], rfl, rfl, by simp⟩
  | cons l ls ih =>
    obtain ⟨is, his, hmap, hlt⟩ := resolve_of_mem tbl l.appenders (h l (by simp))
    obtain ⟨rs, hrs, hm, hlts⟩ := ih (fun x hx => h x (by simp [hx]))
    refine ⟨{ name := l.name, level := l.level, additive := l.additive, apps := is } :: rs,
      by simp only [resolveLoggers, his, hrs], by simp [unresolve, hmap, hm],
      List.forall_mem_cons.mpr ⟨hlt, hlts⟩⟩

/-- the tree built from resolved loggers with distinct, well-ended names, in terms of the declaration order:
the sort only serves the insertion invariant -/
theorem buildTree_spec (rl : Nat) (ra : List Nat) (rs : List RLogger) (hnd : (rs.map (·.name)).Nodup)
    (hok : ∀ l ∈ rs, EndsOk l.name) :
    (buildTree rl ra rs).2 = false ∧
      (∀ p, fdata (buildTree rl ra rs).1 p = res (rl, ra) (rs.map toEnt) p) ∧
      ∀ k, (buildTree rl ra rs).1.maxLevel ≤ k ↔ rl ≤ k ∧ ∀ l ∈ rs, l.level ≤ k := by
  have hperm : (sortByKey (fun l : RLogger => byteLen l.name) rs).Perm rs := sortByKey_perm _ rs
  have hndS := ((hperm.map (·.name)).nodup_iff).mpr hnd
  obtain ⟨inv, hw⟩ := BuildInv.foldl (rl, ra) _
    (prefixOrdered_of_sorted _ (sortByKey_sorted _ rs) (List.pairwise_map.mp (List.nodup_iff_pairwise_ne.mp hndS)))
    fun l hl => hok l (hperm.mem_iff.mp hl)
  refine ⟨hw, fun p => ?_, fun k => ?_⟩
  · rw [buildTree, inv.data p]
    exact res_perm _ (by rw [List.map_map]; exact nodup_map_comps hndS) (hperm.map toEnt) p
  · rw [buildTree, inv.maxl]
    simp only [hperm.mem_iff]

theorem build_spec (cfg : Config) (hv : Valid cfg) :
    ∃ tree, build cfg = some tree ∧ buildWeird cfg = some false ∧
      (∀ p, ((fdata tree p).1, (fdata tree p).2.map (nameOf cfg.appenders)) =
        res (cfg.rootLevel, cfg.rootAppenders) (cfg.loggers.map entOfCfg) p) ∧
      tree.maxLevel = specMaxLevel cfg ∧
      (∀ p, ∀ i ∈ (fdata tree p).2, i < cfg.appenders.length) := by
  obtain ⟨_, hnames, hlog, hroot⟩ := hv
  obtain ⟨ra, hra, hramap, hralt⟩ := resolve_of_mem cfg.appenders cfg.rootAppenders hroot
  obtain ⟨rs, hrs, hrsmap, hrslt⟩ := resolveLoggers_of_mem cfg.appenders cfg.loggers (fun l hl => (hlog l hl).2)
  -- the declared loggers are the resolved ones read back through the table
  rw [← hrsmap, List.map_map] at hnames
  obtain ⟨hw, hdata, hmax⟩ := buildTree_spec cfg.rootLevel ra rs hnames
    fun l hl => checkLoggerName_endsOk (hlog _ (hrsmap ▸ List.mem_map_of_mem hl)).1
  refine ⟨(buildTree cfg.rootLevel ra rs).1, ?_, ?_, fun p => ?_, ?_, fun p i hi => ?_⟩
  · simp only [build, hra, hrs]
  · simp only [buildWeird, hra, hrs, hw]
  · have hmap := res_map (nameOf cfg.appenders) (cfg.rootLevel, ra) (rs.map toEnt) p
    rw [hdata p, ← hmap, hramap, ← hrsmap, List.map_map, List.map_map]
    rfl
  · have hlevels : ∀ k, (∀ l ∈ cfg.loggers, l.level ≤ k) ↔ ∀ l ∈ rs, l.level ≤ k := fun k => by
      rw [← hrsmap, List.forall_mem_map]; rfl
    refine Nat.le_antisymm ((hmax _).mpr ?_) ((specMaxLevel_le_iff cfg _).mpr ?_)
    · rw [← hlevels]; exact (specMaxLevel_le_iff cfg _).mp (Nat.le_refl _)
    · rw [hlevels]; exact (hmax _).mp (Nat.le_refl _)
  · rw [hdata p] at hi
    rcases res_mem _ _ p i hi with h0 | ⟨e, he, hie⟩
    · exact hralt i h0
    · obtain ⟨r, hr, rfl⟩ := List.mem_map.mp he
      exact hrslt r hr i hie

theorem build_find (cfg : Config) (hv : Valid cfg) :
    ∃ tree, build cfg = some tree ∧ ∀ t,
      (find tree (comps t)).level = specLevel cfg t ∧
      (find tree (comps t)).apps.map (nameOf cfg.appenders) = chain cfg (comps t).length (effective cfg t) ∧
      ∀ i ∈ (find tree (comps t)).apps, i < cfg.appenders.length := by
  obtain ⟨tree, hb, _, hdata, _, hrange⟩ := build_spec cfg hv
  refine ⟨tree, hb, fun t => ?_⟩
  obtain ⟨h1, h2⟩ := Prod.mk.inj ((hdata (comps t)).trans (spec_eq_res cfg t).symm)
  exact ⟨h1, h2, hrange (comps t)⟩

theorem appendLoop_eq (fails : Name → Bool) (as : List Name) :
    appendLoop fails as = (as, as.filter fails) := by
  induction as with
  | nil => rfl
  | cons a as ih => simp only [appendLoop, ih, List.filter_cons]

theorem logNodeF_eq (tbl : List Name) (fails : Name → Bool) (n : Node) (lvl : Nat) :
    logNodeF tbl fails n lvl = (logNode tbl n lvl).map fun ds => (ds, ds.filter fails) := by
  unfold logNodeF logNode
  split
  · cases namesOf tbl n.apps <;> simp [appendLoop_eq]
  · rfl

theorem deliverF_eq (cfg : Config) (fails : Name → Bool) (t : Name) (lvl : Nat) :
    deliverF cfg fails t lvl = (deliver cfg t lvl).map fun ds => (ds, ds.filter fails) := by
  unfold deliverF deliver
  cases build cfg with
  | none => rfl
  | some tree => simp only [Option.bind_some, logNodeF_eq]

theorem deliver_eq_spec (cfg : Config) (hv : Valid cfg) (t : Name) (lvl : Nat) :
    deliver cfg t lvl = some (specDeliver cfg t lvl) := by
  obtain ⟨tree, hb, hfind⟩ := build_find cfg hv
  obtain ⟨hlv, happs, hrange⟩ := hfind t
  simp only [deliver, hb, Option.bind_some, logNode, namesOf_eq _ _ hrange, specDeliver, hlv, happs]
  split <;> rfl

theorem maxLogLevel_eq_some {cfg : Config} {m : Nat} (h : maxLogLevel cfg = some m) :
    ∃ tree, build cfg = some tree ∧ tree.maxLevel = m :=
  Option.map_eq_some_iff.mp h

theorem enabled_le_maxLogLevel {cfg : Config} {t : Name} {lvl m : Nat}
    (he : enabled cfg t lvl = some true) (hm : maxLogLevel cfg = some m) : lvl ≤ m := by
  obtain ⟨tree, hb, rfl⟩ := maxLogLevel_eq_some hm
  rw [enabled, hb] at he
  exact Nat.le_trans (of_decide_eq_true (Option.some.inj he)) (find_level_le_maxLevel tree (comps t))

theorem deliver_above_maxLogLevel {cfg : Config} {m : Nat} (hm : maxLogLevel cfg = some m) (t : Name)
    {lvl : Nat} (h : m < lvl) : deliver cfg t lvl = some [] := by
  obtain ⟨tree, hb, rfl⟩ := maxLogLevel_eq_some hm
  have hna : admits (find tree (comps t)).level lvl = false :=
    decide_eq_false (Nat.not_le.mpr (Nat.lt_of_le_of_lt (find_level_le_maxLevel tree (comps t)) h))
  simp [deliver, hb, logNode, hna]

theorem install_inv {c : Config} {s : State} (h : install c = some s) :
    s.cfg = c ∧ maxLogLevel c = some s.globalMax := by
  unfold install at h
  unfold maxLogLevel
  cases hb : build c with
  | none => simp [hb] at h
  | some tree =>
    rw [hb] at h
    cases h
    exact ⟨rfl, rfl⟩

theorem install_of_valid (c : Config) (hc : Valid c) : ∃ s, install c = some s := by
  obtain ⟨tree, hb, _⟩ := build_spec c hc
  exact ⟨{ cfg := c, globalMax := tree.maxLevel }, by simp [install, hb]⟩

theorem step_installs (s : State) (st : Step) :
    step true s st = match st.installs with
      | some c => install c
      | none => some s := by
  cases st <;> rfl

/-- a run is decided by the configurations it installs: failed initialisation attempts drop out, and who
installed a configuration (application or reloader) plays no role -/
theorem steps_installs (s : State) (sts : List Step) :
    steps true s sts = steps true s ((sts.filterMap Step.installs).map .setConfig) := by
  induction sts generalizing s with
  | nil => rfl
  | cons st sts ih =>
    rw [steps, step_installs, List.filterMap_cons]
    cases st.installs with
    | none => exact ih s
    | some c =>
      simp only [List.map_cons, steps, step]
      cases install c with
      | none => rfl
      | some s' => exact ih s'

theorem run_congr {h h' : History} (he : installedCfgs h = installedCfgs h') : run h = run h' := by
  obtain ⟨hf, hs⟩ := List.cons.inj he
  unfold run runWith
  rw [hf]
  cases install h'.first with
  | none => rfl
  | some s0 =>
    show steps true s0 h.steps = steps true s0 h'.steps
    rw [steps_installs s0 h.steps, steps_installs s0 h'.steps, hs]

/-- the two facts carried along a history: the global maximum is the installed logger's, and the installed
configuration is the last one that was installed -/
theorem steps_inv (sts : List Step) (s0 s : State)
    (h0 : maxLogLevel s0.cfg = some s0.globalMax) (h : steps true s0 sts = some s) :
    maxLogLevel s.cfg = some s.globalMax ∧
      (s0.cfg :: sts.filterMap Step.installs).getLast? = some s.cfg := by
  induction sts generalizing s0 with
  | nil => cases h; exact ⟨h0, rfl⟩
  | cons st sts ih =>
    rw [steps, step_installs] at h
    cases hi : st.installs with
    | none =>
      simp only [hi] at h
      rw [List.filterMap_cons_none hi]
      exact ih s0 h0 h
    | some c =>
      simp only [hi] at h
      rw [List.filterMap_cons_some hi, List.getLast?_cons_cons]
      cases hin : install c with
      | none => rw [hin] at h; cases h
      | some s' =>
        rw [hin] at h
        obtain ⟨hc, hm⟩ := install_inv hin
        exact hc ▸ ih s' (hc ▸ hm) h

theorem steps_total (sts : List Step) (s0 : State)
    (hv : ∀ st ∈ sts, ∀ c, st.installs = some c → Valid c) : (steps true s0 sts).isSome = true := by
  induction sts generalizing s0 with
  | nil => rfl
  | cons st sts ih =>
    have ih' := fun s => ih s fun x hx => hv x (List.mem_cons_of_mem _ hx)
    rw [steps, step_installs]
    cases hi : st.installs with
    | none => exact ih' s0
    | some c =>
      obtain ⟨s', hs'⟩ := install_of_valid c (hv st List.mem_cons_self c hi)
      simp only [hs']
      exact ih' s'

end Log4rs.Routing.Tree
