import Log4rsModel.Routing.Filters
import Log4rsModel.Routing.BuilderLemmas
/-
Lemmas for C03. The interpreter `runChainL` is described twice: by the specification's
`specConsulted`/`specDelivered` (`runChainL_eq_spec`) and by the shape of the chain, all Neutral or a
Neutral prefix followed by the first decisive filter (`chain_split`, `runChainL_decided`). The
fan-out loop is compared with `specTraceG` through `hist` (Routing/Builder.lean): `specErrList` reads each
attachment with the attachments before it.
-/
namespace Log4rs.Routing

variable {ρ : Type}

theorem specDelivered_cons (r : ρ) (f : ρ → Response) (fs : List (ρ → Response)) :
    specDelivered r (f :: fs) =
      match f r with
      | .neutral => specDelivered r fs
      | .accept => true
      | .reject => false := by
  simp only [specDelivered, firstDecisive, List.map_cons, List.find?_cons]
  cases f r <;> rfl

theorem specConsulted_cons (r : ρ) (f : ρ → Response) (fs : List (ρ → Response)) :
    specConsulted r (f :: fs) = if f r = .neutral then specConsulted r fs + 1 else 1 := by
  simp only [specConsulted, List.map_cons, List.findIdx?_cons, List.length_cons]
  cases f r <;> simp <;> cases List.findIdx? _ _ <;> rfl

theorem runChainL_eq_spec (r : ρ) (ch : List (LFilter ρ)) :
    runChainL r ch =
      ((ch.take (specConsulted r (fns ch))).map (·.1), specDelivered r (fns ch)) := by
  induction ch with
  | nil => rfl
  | cons g rest ih =>
    simp only [runChainL, ih, fns, List.map_cons, specDelivered_cons, specConsulted_cons]
    cases g.2 r <;> rfl

theorem specConsulted_le (r : ρ) (fs : List (ρ → Response)) : specConsulted r fs ≤ fs.length := by
  induction fs with
  | nil => exact Nat.le_refl 0
  | cons f fs ih => rw [specConsulted_cons]; split <;> simp <;> omega

theorem specDelivered_prefix_no_accept (r : ρ) (pre rest : List (ρ → Response))
    (h : ∀ f ∈ pre, f r ≠ .accept) :
    specDelivered r (pre ++ rest) = (pre.all (fun f => f r = .neutral) && specDelivered r rest) := by
  induction pre with
  | nil => rfl
  | cons f fs ih =>
    rw [List.forall_mem_cons] at h
    rw [List.cons_append, specDelivered_cons, List.all_cons, ih h.2]
    cases hf : f r
    · exact absurd hf h.1
    · rfl
    · rfl

theorem runChainL_all_neutral (r : ρ) (ch : List (LFilter ρ)) (h : ∀ g ∈ ch, g.2 r = .neutral) :
    runChainL r ch = (ch.map (·.1), true) := by
  induction ch with
  | nil => rfl
  | cons g rest ih =>
    rw [List.forall_mem_cons] at h
    simp only [runChainL, h.1, ih h.2, List.map_cons]

theorem runChainL_decided (r : ρ) (pre : List (LFilter ρ)) (g : LFilter ρ) (rest : List (LFilter ρ))
    (hpre : ∀ f ∈ pre, f.2 r = .neutral) (hg : g.2 r ≠ .neutral) :
    runChainL r (pre ++ g :: rest) = ((pre ++ [g]).map (·.1), decide (g.2 r = .accept)) := by
  induction pre with
  | nil =>
    simp only [List.nil_append, runChainL]
    cases h : g.2 r
    · rfl
    · exact absurd h hg
    · rfl
  | cons f pre ih =>
    rw [List.forall_mem_cons] at hpre
    simp only [List.cons_append, runChainL, hpre.1, ih hpre.2, List.map_cons]

theorem chain_split (r : ρ) (ch : List (LFilter ρ)) :
    (∀ g ∈ ch, g.2 r = .neutral) ∨
    ∃ pre g rest, ch = pre ++ g :: rest ∧ (∀ f ∈ pre, f.2 r = .neutral) ∧ g.2 r ≠ .neutral := by
  induction ch with
  | nil => exact Or.inl (fun _ h => absurd h List.not_mem_nil)
  | cons g rest ih =>
    by_cases hg : g.2 r = .neutral
    · rcases ih with h | ⟨pre, g', rest', rfl, hpre, hg'⟩
      · exact Or.inl (List.forall_mem_cons.mpr ⟨hg, h⟩)
      · exact Or.inr ⟨g :: pre, g', rest', rfl, List.forall_mem_cons.mpr ⟨hg, hpre⟩, hg'⟩
    · exact Or.inr ⟨[], g, rest, rfl, fun _ h => absurd h List.not_mem_nil, hg⟩

theorem getElem?_of_forall_eq {α} {l : List α} {a : α} (h : ∀ b ∈ l, b = a) {j : Nat}
    (hj : j < l.length) : l[j]? = some a := by
  rw [List.getElem?_eq_getElem hj, h _ (List.getElem_mem hj)]

theorem fns_declare (fs : List (ρ → Response)) : fns (declare fs) = fs := by
  simp [fns, declare, List.map_map, Function.comp_def]

theorem labels_declare (fs : List (ρ → Response)) : (declare fs).map (·.1) = List.range fs.length := by
  simp [declare, List.map_map, Function.comp_def, List.range_eq_range']

theorem declare_append (fs gs : List (ρ → Response)) :
    declare (fs ++ gs) = declare fs ++ (gs.zipIdx fs.length).map fun p => (p.2, p.1) := by
  simp [declare, List.zipIdx_append]

theorem appendOneG_eq (i : Nat) (a : AppenderG ρ) (r : ρ) (k : Nat) :
    appendOneG i a r k =
      (specAppenderEvents i a r, if specDelivered r (fns a.chain) then a.result k else .ok) := by
  simp [appendOneG, runChainL_eq_spec, specAppenderEvents, List.map_map, Function.comp_def]

/-- the attachments that return an error, among items given with the items before them; the call
number of an attachment is the number of earlier attachments of the same appender -/
def errsOf (table : List (AppenderG ρ)) (r : ρ) (h : List (List Nat × Nat)) : List Nat :=
  (h.filter fun q => errAt table r q.2 (q.1.count q.2)).map (·.2)

theorem errsOf_cons (table : List (AppenderG ρ)) (r : ρ) (pre : List Nat) (i : Nat)
    (h : List (List Nat × Nat)) :
    errsOf table r ((pre, i) :: h) =
      (if errAt table r i (pre.count i) then [i] else []) ++ errsOf table r h := by
  simp only [errsOf, List.filter_cons]
  split <;> rfl

theorem specErrList_eq_errsOf (table : List (AppenderG ρ)) (r : ρ) (attached : List Nat) :
    specErrList table r attached = errsOf table r (hist [] attached) := by
  rw [← withEarlier_eq_hist, errsOf, withEarlier, List.filter_map, List.map_map]
  rfl

/-- no `append` of the table ever panics -/
def NoPanic (table : List (AppenderG ρ)) : Prop :=
  ∀ (j : Nat) (a : AppenderG ρ), table[j]? = some a → ∀ k, a.result k ≠ CallResult.panic

theorem attachLoopG_eq (table : List (AppenderG ρ)) (r : ρ) (hnp : NoPanic table)
    (rest pre reached : List Nat) (hrange : ∀ j ∈ rest, j < table.length)
    (hreach : ∀ j a, table[j]? = some a → specDelivered r (fns a.chain) = true →
      reached.count j = pre.count j) :
    attachLoopG table r rest reached =
      .done (rest.flatMap (specAttachEvents table r)) (errsOf table r (hist pre rest)) := by
  induction rest generalizing pre reached with
  | nil => rfl
  | cons idx rest ih =>
    rw [List.forall_mem_cons] at hrange
    obtain ⟨a, hget⟩ : ∃ a, table[idx]? = some a := ⟨_, List.getElem?_eq_getElem hrange.1⟩
    simp only [attachLoopG, hget, appendOneG_eq, List.flatMap_cons, hist, errsOf_cons, specAttachEvents, errAt,
      runChainL_eq_spec]
    cases hd : specDelivered r (fns a.chain)
    · -- a rejecting appender is not counted: no delivering `j` is `idx`
      simp only [Bool.false_eq_true, if_false, Bool.false_and]
      rw [ih (pre ++ [idx]) reached hrange.2 fun j b hb hdb => by
        have hji : idx ≠ j := fun e => by rw [← e, hget] at hb; cases hb; rw [hd] at hdb; cases hdb
        simp [List.count_append, hreach j b hb hdb, hji]]
      rfl
    · simp only [if_true, Bool.true_and, hreach idx a hget hd]
      rw [ih (pre ++ [idx]) (idx :: reached) hrange.2 fun j b hb hdb => by
        simp [List.count_cons, List.count_append, hreach j b hb hdb]]
      cases he : a.result (pre.count idx)
      · rfl
      · rfl
      · exact absurd he (hnp idx a hget _)

theorem fanoutG_eq_spec (table : List (AppenderG ρ)) (nl : Nat) (attached : List Nat)
    (lvlOf : ρ → Nat) (r : ρ) (hnp : NoPanic table) (h : ∀ j ∈ attached, j < table.length) :
    fanoutG table nl attached lvlOf r = .returned (specTraceG table nl attached lvlOf r) := by
  have := attachLoopG_eq table r hnp attached [] [] h (by intros; rfl)
  simp only [fanoutG, specTraceG, this, specErrList_eq_errsOf]
  split <;> rfl

theorem viaHandler_configured : viaHandler .configured = id := by
  funext e; cases e <;> rfl

theorem LogResult.map_id (res : LogResult) : res.map id = res := by
  cases res <;> simp [LogResult.map]

theorem reconfigureWith_handler (kept : Bool) (s : Shared ρ)
    (cfgs : List (List (AppenderG ρ) × Nat × List Nat)) :
    (s.reconfigureWith kept cfgs).handler =
      if kept = true ∨ cfgs = [] then s.handler else .default := by
  induction cfgs generalizing s with
  | nil => simp [Shared.reconfigureWith]
  | cons c cs ih =>
    rw [Shared.reconfigureWith, ih]
    cases kept <;> simp [Shared.setConfigWith]

theorem mem_specAttachEvents {table : List (AppenderG ρ)} {r : ρ} {j : Nat} {e : Event}
    (h : e ∈ specAttachEvents table r j) :
    (∃ l, e = .filter j l) ∨
    (e = .append j ∧ ∃ a, table[j]? = some a ∧ specDelivered r (fns a.chain) = true) := by
  unfold specAttachEvents at h
  split at h
  · rw [specAppenderEvents, List.mem_append] at h
    rcases h with h | h
    · obtain ⟨f, _, rfl⟩ := List.mem_map.mp h
      exact Or.inl ⟨_, rfl⟩
    · split at h
      · exact Or.inr ⟨List.mem_singleton.mp h, _, ‹_›, ‹_›⟩
      · cases h
  · cases h

theorem specAttachEvents_app (table : List (AppenderG ρ)) (r : ρ) (j : Nat) :
    ∀ e ∈ specAttachEvents table r j, e.app = j := by
  intro e he
  rcases mem_specAttachEvents he with ⟨l, rfl⟩ | ⟨rfl, _⟩ <;> rfl

theorem project_append (i : Nat) (xs ys : List Event) :
    project i (xs ++ ys) = project i xs ++ project i ys := by simp [project]

theorem project_attach (table : List (AppenderG ρ)) (r : ρ) (i j : Nat) :
    project i (specAttachEvents table r j) = if j = i then specAttachEvents table r j else [] := by
  split
  · exact List.filter_eq_self.mpr fun e he => by simp [specAttachEvents_app table r j e he, *]
  · exact List.filter_eq_nil_iff.mpr fun e he => by simp [specAttachEvents_app table r j e he, *]

theorem project_flatMap (table : List (AppenderG ρ)) (r : ρ) (i : Nat) (attached : List Nat) :
    project i (attached.flatMap (specAttachEvents table r)) =
      (List.replicate (attached.count i) (specAttachEvents table r i)).flatten := by
  induction attached with
  | nil => rfl
  | cons j rest ih =>
    rw [List.flatMap_cons, project_append, ih, project_attach, List.count_cons]
    split <;> simp [*, List.replicate_succ]

theorem project_handlers (i : Nat) (L : List Nat) :
    project i (L.map Event.handler) = List.replicate (L.count i) (Event.handler i) := by
  rw [project, List.filter_map]
  -- the handler calls of appender `i` are the entries of `L` equal to `i`
  exact (congrArg _ (List.filter_beq i)).trans List.map_replicate

/-- how many of the calls number `c, c+1, …, c+n-1` of appender `i` return an error -/
def errCount (table : List (AppenderG ρ)) (r : ρ) (i c n : Nat) : Nat :=
  ((List.range' c n).filter (errAt table r i)).length

theorem errsOf_count (table : List (AppenderG ρ)) (r : ρ) (i : Nat) (pre rest : List Nat) :
    (errsOf table r (hist pre rest)).count i = errCount table r i (pre.count i) (rest.count i) := by
  induction rest generalizing pre with
  | nil => simp [hist, errsOf, errCount]
  | cons j rest ih =>
    simp only [hist, errsOf_cons, List.count_append, ih (pre ++ [j])]
    by_cases hj : j = i
    · subst hj
      simp only [List.count_cons_self, List.count_nil, errCount, List.range'_succ, List.filter_cons]
      by_cases he : errAt table r j (List.count j pre) = true <;> simp [he] <;> omega
    · simp only [List.count_cons]
      split <;> simp [hj]

theorem project_specTraceG (table : List (AppenderG ρ)) (nl : Nat) (attached : List Nat)
    (lvlOf : ρ → Nat) (r : ρ) (i : Nat) (hadm : admits nl (lvlOf r) = true) :
    project i (specTraceG table nl attached lvlOf r) =
      (List.replicate (attached.count i) (specAttachEvents table r i)).flatten ++
      List.replicate (errCount table r i 0 (attached.count i)) (Event.handler i) := by
  simp only [specTraceG, hadm, if_true, project_append, project_flatMap, project_handlers,
    specErrList_eq_errsOf, errsOf_count, List.count_nil]

theorem project_specTraceG_congr (t t' : List (AppenderG ρ)) (nl : Nat) (attached : List Nat)
    (lvlOf : ρ → Nat) (r : ρ) (i : Nat) (h : t[i]? = t'[i]?) :
    project i (specTraceG t nl attached lvlOf r) = project i (specTraceG t' nl attached lvlOf r) := by
  by_cases hadm : admits nl (lvlOf r) = true
  · have he : errAt t r i = errAt t' r i := funext fun k => by simp only [errAt, h]
    simp only [project_specTraceG _ _ _ _ _ _ hadm, specAttachEvents, errCount, he, h]
  · simp [specTraceG, hadm]

theorem foldl_push {α} (acc d : List α) : d.foldl (fun acc f => acc ++ [f]) acc = acc ++ d := by
  induction d generalizing acc with
  | nil => simp
  | cons x xs ih => simp [ih]

theorem builderVec_fold (calls : List (BuilderCall ρ)) (acc : List (ρ → Response)) :
    calls.foldl BuilderCall.step acc = acc ++ calls.flatMap BuilderCall.declared := by
  induction calls generalizing acc with
  | nil => simp
  | cons c cs ih =>
    cases c with
    | filter f => simp [ih, BuilderCall.step, BuilderCall.declared]
    | filters fs =>
      simp only [List.foldl_cons, BuilderCall.step, ih, List.flatMap_cons, BuilderCall.declared]
      rw [foldl_push]; simp

/-- the labelled entries that deserialize, in document order -/
def validEntries : List (Nat × FilterEntry ρ) → List (LFilter ρ)
  | [] => []
  | (l, .ok f) :: rest => (l, f) :: validEntries rest
  | (_, .bad) :: rest => validEntries rest

def badCount : List (Nat × FilterEntry ρ) → Nat
  | [] => 0
  | (_, .ok _) :: rest => badCount rest
  | (_, .bad) :: rest => badCount rest + 1

theorem configChain_fold (doc : List (Nat × FilterEntry ρ)) (acc : List (LFilter ρ) × Nat) :
    doc.foldl configStep acc = (acc.1 ++ validEntries doc, acc.2 + badCount doc) := by
  induction doc generalizing acc with
  | nil => simp [validEntries, badCount]
  | cons e rest ih =>
    obtain ⟨l, e⟩ := e
    cases e with
    | ok f => simp [ih, validEntries, badCount, configStep]
    | bad => simp [ih, validEntries, badCount, configStep]; omega

theorem validEntries_all_ok (fs : List (ρ → Response)) (n : Nat) :
    validEntries (((fs.map FilterEntry.ok).zipIdx n).map fun p => (p.2, p.1)) =
      (fs.zipIdx n).map (fun p => (p.2, p.1)) ∧
    badCount (((fs.map FilterEntry.ok).zipIdx n).map fun p => (p.2, p.1)) = 0 := by
  induction fs generalizing n with
  | nil => simp [validEntries, badCount]
  | cons f rest ih =>
    obtain ⟨i1, i2⟩ := ih (n + 1)
    simp [validEntries, badCount, i1, i2]

theorem validEntries_labels_sublist (es : List (Nat × FilterEntry ρ)) :
    ((validEntries es).map (·.1)).Sublist (es.map (·.1)) := by
  induction es with
  | nil => exact .slnil
  | cons e rest ih =>
    obtain ⟨l, _ | _⟩ := e
    · exact ih.cons_cons l
    · exact ih.cons l

end Log4rs.Routing
