import Log4rsModel.Routing.LemmasSpec
/-
Declarative layer of the routing proofs: what `effectiveAt`, `parent`, `chain` *are*, stated without
reference to the programs that compute them; permutation of attachment lists.
-/
namespace Log4rs.Routing.Tree
open Log4rs Log4rs.Str

theorem effectiveAt_spec (ls : List LoggerCfg) (p : List Name) :
    match effectiveAt ls p with
    | some l => l ∈ ls ∧ comps l.name <+: p ∧
        ∀ l' ∈ ls, comps l'.name <+: p → (comps l'.name).length ≤ (comps l.name).length
    | none => ∀ l ∈ ls, ¬ comps l.name <+: p := by
  induction p using list_snoc_induction with
  | nil =>
    rw [effectiveAt_nil]
    intro l _ h
    exact comps_ne_nil l.name (List.prefix_nil.mp h)
  | snoc p c ih =>
    rw [effectiveAt_concat]
    cases hl : lookupLogger ls (p ++ [c]) with
    | some l =>
      have hc := lookupLogger_comps hl
      refine ⟨List.mem_of_find?_eq_some hl, hc ▸ List.prefix_refl _, ?_⟩
      intro l' _ hp
      rw [hc]; exact hp.length_le
    | none =>
      have hno : ∀ l ∈ ls, comps l.name ≠ p ++ [c] := by
        intro l hm
        simpa using List.find?_eq_none.mp hl l hm
      simp only
      cases he : effectiveAt ls p with
      | some l =>
        rw [he] at ih
        refine ⟨ih.1, ih.2.1.trans (List.prefix_append _ _), ?_⟩
        intro l' hm hp
        rcases List.prefix_concat_iff.mp hp with h1 | h1
        · exact absurd h1 (hno l' hm)
        · exact ih.2.2 l' hm h1
      | none =>
        rw [he] at ih
        intro l hm hp
        rcases List.prefix_concat_iff.mp hp with h1 | h1
        · exact hno l hm h1
        · exact ih l hm h1

theorem effectiveAt_length {ls : List LoggerCfg} {p : List Name} {l : LoggerCfg}
    (h : effectiveAt ls p = some l) : (comps l.name).length ≤ p.length := by
  have := effectiveAt_spec ls p
  rw [h] at this
  exact this.2.1.length_le

theorem prefix_dropLast_iff {α} (x q : List α) (hq : q ≠ []) : x <+: q.dropLast ↔ x <+: q ∧ x ≠ q := by
  obtain ⟨q', c, rfl⟩ : ∃ q' c, q = q' ++ [c] := ⟨q.dropLast, q.getLast hq, (List.dropLast_concat_getLast hq).symm⟩
  rw [List.dropLast_concat, List.prefix_concat_iff]
  constructor
  · exact fun h => ⟨Or.inr h, fun he => not_prefix_of_concat he h⟩
  · rintro ⟨h | h, hne⟩
    · exact absurd h hne
    · exact h

theorem chain_is_visited (cfg : Config) (n : Nat) (o : Option LoggerCfg) :
    chain cfg n o = ((visited cfg n o).map (attached cfg)).flatten := by
  induction n generalizing o with
  | zero => cases o <;> simp [chain, visited, attached]
  | succ n ih =>
    cases o with
    | none => simp [chain, visited, attached]
    | some l =>
      simp only [chain, visited]
      cases l.additive
      · simp [attached]
      · simp [attached, ih]

theorem visited_ne_nil (cfg : Config) (n : Nat) (o : Option LoggerCfg) : visited cfg n o ≠ [] := by
  cases n <;> cases o <;> simp [visited]

theorem visited_head (cfg : Config) (n : Nat) (o : Option LoggerCfg) : (visited cfg n o).head? = some o := by
  cases n <;> cases o <;> simp [visited]

theorem singleton_no_next {α} {x b : α} {i : Nat} (h : [x][i + 1]? = some b) : False := by
  rw [List.getElem?_cons_succ, List.getElem?_nil] at h
  cases h

/-- every step of the walk goes from an *additive* logger to its parent, whatever the bound -/
theorem visited_adj (cfg : Config) (n : Nat) (o : Option LoggerCfg) (i : Nat) (a b : Option LoggerCfg)
    (h1 : (visited cfg n o)[i]? = some a) (h2 : (visited cfg n o)[i + 1]? = some b) :
    ∃ l, a = some l ∧ l.additive = true ∧ b = parent cfg l := by
  induction n generalizing o i with
  | zero => cases o <;> exact (singleton_no_next h2).elim
  | succ n ih =>
    cases o with
    | none => exact (singleton_no_next h2).elim
    | some l =>
      rw [visited] at h1 h2
      cases hadd : l.additive with
      | false => rw [hadd] at h2; exact (singleton_no_next h2).elim
      | true =>
        rw [hadd, if_pos rfl] at h1 h2
        cases i with
        | zero =>
          rw [List.getElem?_cons_succ, ← List.head?_eq_getElem?, visited_head] at h2
          exact ⟨l, (Option.some.inj h1).symm, hadd, (Option.some.inj h2).symm⟩
        | succ i =>
          rw [List.getElem?_cons_succ] at h1 h2
          exact ih _ i h1 h2

/-- with a bound of at least the number of components of the start, the walk ends at the root or at a
non-additive logger: a parent has fewer components than its child -/
theorem visited_last (cfg : Config) (n : Nat) (o : Option LoggerCfg)
    (hn : ∀ l, o = some l → (comps l.name).length ≤ n) :
    (visited cfg n o).getLast? = some none ∨
      ∃ l, (visited cfg n o).getLast? = some (some l) ∧ l.additive = false := by
  induction n generalizing o with
  | zero =>
    cases o with
    | none => exact Or.inl rfl
    | some l => exact absurd (List.eq_nil_of_length_eq_zero (Nat.le_zero.mp (hn l rfl))) (comps_ne_nil l.name)
  | succ n ih =>
    cases o with
    | none => exact Or.inl rfl
    | some l =>
      rw [visited]
      cases hadd : l.additive with
      | false => exact Or.inr ⟨l, rfl, hadd⟩
      | true =>
        have hpar : ∀ q, parent cfg l = some q → (comps q.name).length ≤ n := by
          intro q hq
          have h1 := effectiveAt_length hq
          rw [List.length_dropLast] at h1
          exact Nat.le_trans h1 (Nat.sub_le_of_le_add (hn l rfl))
        rw [if_pos rfl]
        cases hv : visited cfg n (parent cfg l) with
        | nil => exact absurd hv (visited_ne_nil cfg n _)
        | cons x xs => rw [List.getLast?_cons_cons, ← hv]; exact ih _ hpar

theorem eq_of_nodup_names {ls : List LoggerCfg} (hnd : (ls.map (·.name)).Nodup) {l l' : LoggerCfg}
    (hl : l ∈ ls) (hl' : l' ∈ ls) (hn : l.name = l'.name) : l = l' := by
  induction ls with
  | nil => cases hl
  | cons x xs ih =>
    simp only [List.map_cons, List.nodup_cons] at hnd
    rcases List.mem_cons.mp hl with rfl | h1 <;> rcases List.mem_cons.mp hl' with rfl | h2
    · rfl
    · exact absurd (hn ▸ List.mem_map_of_mem (f := (·.name)) h2) hnd.1
    · exact absurd (hn ▸ List.mem_map_of_mem (f := (·.name)) h1) hnd.1
    · exact ih hnd.2 h1 h2

theorem chain_fuel (cfg : Config) (p : List Name) (n m : Nat) (hn : p.length ≤ n) (hm : p.length ≤ m) :
    chain cfg n (effectiveAt cfg.loggers p) = chain cfg m (effectiveAt cfg.loggers p) :=
  (Prod.mk.inj ((res_eq_spec cfg p n hn).symm.trans (res_eq_spec cfg p m hm))).2

theorem lookupE_attachPerm {ls ls' : List LoggerCfg} (h : AttachPermL ls ls') (p : List Name) :
    match lookupE (ls.map entOfCfg) p, lookupE (ls'.map entOfCfg) p with
    | some e, some e' => e.level = e'.level ∧ e.additive = e'.additive ∧ e.apps.Perm e'.apps
    | none, none => True
    | _, _ => False := by
  induction h with
  | nil => simp [lookupE]
  | @cons l l' ls ls' hn hlv ha hp _ ih =>
    simp only [List.map_cons, lookupE, List.find?_cons, entOfCfg, hn] at ih ⊢
    by_cases hc : comps l'.name = p
    · simp only [hc, decide_true]
      exact ⟨hlv, ha, hp⟩
    · simp only [hc, decide_false]
      exact ih

theorem res_attachPerm {ls ls' : List LoggerCfg} (h : AttachPermL ls ls') (lvl : Nat) (ra ra' : List Name)
    (hr : ra.Perm ra') (p : List Name) :
    (res (lvl, ra) (ls.map entOfCfg) p).1 = (res (lvl, ra') (ls'.map entOfCfg) p).1 ∧
      (res (lvl, ra) (ls.map entOfCfg) p).2.Perm (res (lvl, ra') (ls'.map entOfCfg) p).2 := by
  induction p using list_snoc_induction with
  | nil => exact ⟨rfl, hr⟩
  | snoc p c ih =>
    rw [res_concat, res_concat]
    have hl := lookupE_attachPerm h (p ++ [c])
    cases h1 : lookupE (ls.map entOfCfg) (p ++ [c]) <;> cases h2 : lookupE (ls'.map entOfCfg) (p ++ [c]) <;>
      rw [h1, h2] at hl
    · exact ih
    · exact absurd hl id
    · exact absurd hl id
    · rename_i e e'
      obtain ⟨hlv, hadd, hperm⟩ := hl
      refine ⟨hlv, ?_⟩
      simp only
      rw [← hadd]
      cases e.additive
      · simpa using hperm
      · simpa using hperm.append ih.2

end Log4rs.Routing.Tree
