import Log4rsModel.Routing.LemmasStr
/-
Tree layer of the routing proofs. `graft new q node` puts the node `new` at the component path `q` below
`node`, creating the missing intermediate nodes as copies of their parent; `ConfiguredLogger::add` is a
`graft` of a leaf whenever the inserted name does not end in `"::"` and its path is not yet a node
(`addAux_eq_graft`) — and then the `child.add("")` branch is not taken. For a graft: what `find` returns
afterwards (`fdata_graft`), which paths are nodes afterwards (`getNode_graft`), and the upper bounds of the
maximum level (`maxLevel_graft_le_iff`).
-/
namespace Log4rs.Routing.Tree
open Log4rs Log4rs.Str

/-- the node at exactly this path, if there is one -/
def getNode : Node → List Name → Option Node
  | node, [] => some node
  | node, c :: cs =>
    match lookup c node.children with
    | some child => getNode child cs
    | none => none

/-- (level, appender indices) of the node `find` stops at -/
def fdata (node : Node) (p : List Name) : Nat × List Nat := ((find node p).level, (find node p).apps)

/-- `get_mut(k)` + assignment when the key is present, `insert(k, n)` when it is not -/
def putChild (k : Name) (n : Node) (cs : List (Name × Node)) : List (Name × Node) :=
  match lookup k cs with
  | some _ => setChild k n cs
  | none => cs ++ [(k, n)]

/-- the child a path component leads to; where there is none yet, the copy of the parent that `add` creates -/
def childOr (node : Node) (c : Name) : Node :=
  (lookup c node.children).getD (Node.mk node.level node.apps [])

def graft (new : Node) : List Name → Node → Node
  | [], _ => new
  | c :: cs, node => Node.mk node.level node.apps (putChild c (graft new cs (childOr node c)) node.children)

@[simp] theorem Node.level_mk (l : Nat) (a : List Nat) (cs : List (Name × Node)) : (Node.mk l a cs).level = l := rfl
@[simp] theorem Node.apps_mk (l : Nat) (a : List Nat) (cs : List (Name × Node)) : (Node.mk l a cs).apps = a := rfl
@[simp] theorem Node.children_mk (l : Nat) (a : List Nat) (cs : List (Name × Node)) :
    (Node.mk l a cs).children = cs := rfl

theorem lookup_append_single (k c : Name) (n : Node) (cs : List (Name × Node)) :
    lookup k (cs ++ [(c, n)]) =
      match lookup k cs with
      | some x => some x
      | none => if c = k then some n else none := by
  induction cs with
  | nil => rfl
  | cons e cs ih =>
    simp only [List.cons_append, lookup]
    split
    · rfl
    · exact ih

theorem lookup_setChild (k c : Name) (n : Node) (cs : List (Name × Node)) :
    lookup k (setChild c n cs) = if k = c then (lookup c cs).map (fun _ => n) else lookup k cs := by
  induction cs with
  | nil => simp [lookup, setChild]
  | cons e cs ih =>
    by_cases h1 : e.1 = c <;> by_cases h2 : k = c
    · simp [setChild, lookup, h1, h2]
    · simp [setChild, lookup, h1, h2, Ne.symm h2]
    · subst h2; simpa [setChild, lookup, h1] using ih
    · simp [setChild, lookup, h1, h2, ih]

theorem lookup_putChild (k c : Name) (n : Node) (cs : List (Name × Node)) :
    lookup k (putChild c n cs) = if k = c then some n else lookup k cs := by
  unfold putChild
  cases hl : lookup c cs with
  | some x => simp only [lookup_setChild, hl, Option.map_some]
  | none =>
    rw [lookup_append_single]
    by_cases hk : k = c
    · subst hk; simp [hl]
    · rw [if_neg hk, if_neg (Ne.symm hk)]; cases lookup k cs <;> rfl

theorem lookup_mem {k : Name} {n : Node} {cs : List (Name × Node)} (h : lookup k cs = some n) : (k, n) ∈ cs := by
  induction cs with
  | nil => cases h
  | cons e cs ih =>
    rw [lookup] at h
    split at h
    · rename_i hk; cases h; subst hk; exact List.mem_cons_self
    · exact List.mem_cons_of_mem _ (ih h)

theorem forall_mem_setChild {Q : Node → Prop} {c : Name} {n ch : Node} {cs : List (Name × Node)}
    (h : lookup c cs = some ch) (hd : Q n → Q ch) :
    (∀ e ∈ setChild c n cs, Q e.2) ↔ Q n ∧ ∀ e ∈ cs, Q e.2 := by
  induction cs with
  | nil => cases h
  | cons e cs ih =>
    rw [lookup] at h
    rw [setChild]
    split at h
    · cases h
      rw [if_pos ‹_›]
      simp only [List.forall_mem_cons]
      exact ⟨fun ⟨h1, h2⟩ => ⟨h1, hd h1, h2⟩, fun ⟨h1, _, h2⟩ => ⟨h1, h2⟩⟩
    · rw [if_neg ‹_›]
      simp only [List.forall_mem_cons, ih h]
      exact ⟨fun ⟨h1, h2, h3⟩ => ⟨h2, h1, h3⟩, fun ⟨h1, h2, h3⟩ => ⟨h2, h1, h3⟩⟩

theorem fdata_nil (node : Node) : fdata node [] = (node.level, node.apps) := rfl

theorem fdata_cons (node : Node) (c : Name) (cs : List Name) :
    fdata node (c :: cs) =
      match lookup c node.children with
      | some child => fdata child cs
      | none => (node.level, node.apps) := by
  cases h : lookup c node.children <;> simp [fdata, find, h]

theorem getNode_cons (node : Node) (c : Name) (cs : List Name) :
    getNode node (c :: cs) =
      match lookup c node.children with
      | some child => getNode child cs
      | none => none := rfl

theorem find_leaf (l : Nat) (a : List Nat) (p : List Name) : find (Node.mk l a []) p = Node.mk l a [] := by
  cases p <;> rfl

theorem fdata_leaf (l : Nat) (a : List Nat) (p : List Name) : fdata (Node.mk l a []) p = (l, a) := by
  rw [fdata, find_leaf]; rfl

theorem getNode_leaf {l : Nat} {a : List Nat} {p : List Name} {n : Node}
    (h : getNode (Node.mk l a []) p = some n) : p = [] := by
  cases p with
  | nil => rfl
  | cons c cs => cases h

theorem fdata_childOr (node : Node) (c : Name) (cs : List Name) :
    fdata (childOr node c) cs = fdata node (c :: cs) := by
  rw [fdata_cons, childOr]
  cases lookup c node.children with
  | some child => rfl
  | none => exact fdata_leaf _ _ _

theorem getNode_childOr (node : Node) (c : Name) {cs : List Name} (h : cs ≠ []) :
    getNode (childOr node c) cs = getNode node (c :: cs) := by
  rw [getNode_cons, childOr]
  cases lookup c node.children with
  | some child => rfl
  | none =>
    cases hg : getNode (Node.mk node.level node.apps []) cs with
    | none => exact hg
    | some n => exact absurd (getNode_leaf hg) h

theorem fdata_graft (new : Node) (q : List Name) (node : Node) (p : List Name) :
    fdata (graft new q node) p = if q <+: p then fdata new (p.drop q.length) else fdata node p := by
  induction q generalizing node p with
  | nil => simp [graft]
  | cons c cs ih =>
    cases p with
    | nil => simp [graft, fdata_nil]
    | cons k ps =>
      rw [graft, fdata_cons, Node.children_mk, lookup_putChild]
      by_cases hk : k = c
      · subst hk
        simp only [if_true, ih, fdata_childOr, List.cons_prefix_cons, true_and, List.length_cons, List.drop_succ_cons]
      · have hp : ¬ c :: cs <+: k :: ps := fun h => hk (List.cons_prefix_cons.mp h).1.symm
        rw [if_neg hk, if_neg hp, fdata_cons]
        rfl

theorem getNode_graft {new : Node} (hnew : new.children = []) (q : List Name) (node : Node) (p : List Name)
    (h : getNode (graft new q node) p ≠ none) : getNode node p ≠ none ∨ p <+: q := by
  induction q generalizing node p with
  | nil =>
    cases p with
    | nil => exact Or.inr (List.prefix_refl _)
    | cons k ps => simp [graft, getNode_cons, hnew, lookup] at h
  | cons c cs ih =>
    cases p with
    | nil => exact Or.inl (by simp [getNode])
    | cons k ps =>
      rw [graft, getNode_cons, Node.children_mk, lookup_putChild] at h
      by_cases hk : k = c
      · subst hk
        rw [if_pos rfl] at h
        rcases ih _ _ h with h1 | h1
        · by_cases hps : ps = []
          · exact Or.inr (hps ▸ List.prefix_append [k] cs)
          · exact Or.inl (getNode_childOr node k hps ▸ h1)
        · exact Or.inr (List.cons_prefix_cons.mpr ⟨rfl, h1⟩)
      · rw [if_neg hk] at h
        exact Or.inl h

theorem addAux_of_rest (fuel : Nat) (node : Node) (path : Name) (apps : List Nat) (additive : Bool) (level : Nat)
    (hr : (splitFirst path).2 ≠ []) :
    addAux (fuel + 1) node path apps additive level =
      ((Node.mk node.level node.apps (putChild (splitFirst path).1
          (addAux fuel (childOr node (splitFirst path).1) (splitFirst path).2 apps additive level).1 node.children)),
        (addAux fuel (childOr node (splitFirst path).1) (splitFirst path).2 apps additive level).2) := by
  have he : (splitFirst path).2.isEmpty = false := by simpa using hr
  rw [addAux]
  unfold putChild childOr
  cases lookup (splitFirst path).1 node.children <;> simp [he]

theorem addAux_eq_graft (fuel : Nat) (node : Node) (path : Name) (apps : List Nat) (additive : Bool)
    (level : Nat) (hf : path.length < fuel) (hok : EndsOk path) (hnone : getNode node (comps path) = none) :
    addAux fuel node path apps additive level =
      (graft (Node.mk level (apps ++ (if additive then (fdata node (comps path)).2 else [])) []) (comps path) node,
        false) := by
  induction fuel generalizing node path with
  | zero => exact absurd hf (Nat.not_lt_zero _)
  | succ fuel ih =>
    rw [comps_eq] at hnone ⊢
    cases hfs : findSep path with
    | none =>
      -- last component: by `hnone` it has no node yet
      have hsf : splitFirst path = (path, []) := by rw [splitFirst_eq, hfs]
      rw [hfs] at hnone
      cases hl : lookup path node.children with
      | some child => simp [hl, getNode] at hnone
      | none => simp [addAux, hsf, graft, putChild, fdata_cons, hl]
    | some pr =>
      obtain ⟨p, r⟩ := pr
      obtain ⟨hr0, hr⟩ := hok.rest hfs
      have hsf : splitFirst path = (p, r) := by rw [splitFirst_eq, hfs]
      have hlen : r.length < fuel :=
        Nat.lt_of_lt_of_le (Nat.lt_of_succ_lt (findSep_length hfs)) (Nat.le_of_lt_succ hf)
      rw [hfs] at hnone
      have hnone' : getNode (childOr node p) (comps r) = none := by
        rw [getNode_childOr node p (comps_ne_nil r)]; exact hnone
      rw [addAux_of_rest _ _ _ _ _ _ (by rw [hsf]; exact hr0), hsf, ih _ r hlen hr hnone', fdata_childOr]
      rfl

theorem depth_mk (l : Nat) (a : List Nat) (cs : List (Name × Node)) : (Node.mk l a cs).depth = depthList cs := by
  rw [Node.depth]

theorem lookup_depth {cs : List (Name × Node)} {c : Name} {child : Node} (h : lookup c cs = some child) :
    child.depth + 1 ≤ depthList cs := by
  induction cs with
  | nil => cases h
  | cons e cs ih =>
    rw [lookup] at h
    rw [depthList]
    split at h
    · cases h; exact Nat.le_max_left _ _
    · exact Nat.le_trans (ih h) (Nat.le_max_right _ _)

theorem splitFirst_length (path : Name) :
    (splitFirst path).2.length ≤ path.length ∧
      ((splitFirst path).2 ≠ [] → (splitFirst path).2.length + 2 ≤ path.length) := by
  rw [splitFirst_eq]
  cases h : findSep path with
  | none => exact ⟨Nat.zero_le _, fun h => absurd rfl h⟩
  | some pr =>
    have := findSep_length h
    exact ⟨Nat.le_of_succ_le (Nat.le_of_succ_le this), fun _ => this⟩

/-- the fuel left for the recursive call suffices: into a child the depth shrinks, … -/
theorem fuel_child {r p d D f : Nat} (hr : r ≤ p) (hd : d + 1 ≤ D) (hf : p + D + 1 ≤ f + 1) :
    r + d + 1 ≤ f := by
  rw [Nat.add_assoc]
  exact Nat.le_trans (Nat.add_le_add hr hd) (Nat.le_of_succ_le_succ hf)

/-- … and below a fresh node the path does -/
theorem fuel_fresh {r p D f : Nat} (hr : r + 2 ≤ p) (hf : p + D + 1 ≤ f + 1) : r + 0 + 1 ≤ f :=
  Nat.le_trans (Nat.le_trans (Nat.le_of_succ_le hr) (Nat.le_add_right p D)) (Nat.le_of_succ_le_succ hf)

/-- any two fuels at or above `path length + depth + 1` give the same result: the `0` arm of `addAux` is
never what `add` returns, whatever the tree and the path (valid or not) -/
theorem addAux_fuel (f g : Nat) (node : Node) (path : Name) (apps : List Nat) (additive : Bool) (level : Nat)
    (hf : path.length + node.depth + 1 ≤ f) (hg : path.length + node.depth + 1 ≤ g) :
    addAux f node path apps additive level = addAux g node path apps additive level := by
  induction f generalizing g node path with
  | zero => exact absurd hf (Nat.not_succ_le_zero _)
  | succ f ih =>
    cases g with
    | zero => exact absurd hg (Nat.not_succ_le_zero _)
    | succ g =>
      obtain ⟨hl1, hl2⟩ := splitFirst_length path
      cases node with
      | mk nl na ncs =>
      rw [depth_mk] at hf hg
      simp only [addAux, Node.children_mk, Node.level_mk, Node.apps_mk]
      cases hlk : lookup (splitFirst path).1 ncs with
      | some child =>
        have hd := lookup_depth hlk
        simp only
        rw [ih g child _ (fuel_child hl1 hd hf) (fuel_child hl1 hd hg)]
      | none =>
        simp only
        cases he : (splitFirst path).2.isEmpty with
        | true => rfl
        | false =>
          have h2 := hl2 (by simpa using he)
          rw [if_neg Bool.false_ne_true, if_neg Bool.false_ne_true,
            ih g (Node.mk nl na []) _ (fuel_fresh h2 hf) (fuel_fresh h2 hg)]

theorem maxLevel_mk (l : Nat) (a : List Nat) (cs : List (Name × Node)) :
    (Node.mk l a cs).maxLevel = maxLevelList cs l := by
  rw [Node.maxLevel]

theorem maxLevelList_le_iff (cs : List (Name × Node)) (m k : Nat) :
    maxLevelList cs m ≤ k ↔ m ≤ k ∧ ∀ e ∈ cs, e.2.maxLevel ≤ k := by
  induction cs generalizing m with
  | nil => simp [maxLevelList]
  | cons e cs ih => simp only [maxLevelList, ih, Nat.max_le, List.forall_mem_cons, and_assoc]

theorem maxLevel_le_iff (node : Node) (k : Nat) :
    node.maxLevel ≤ k ↔ node.level ≤ k ∧ ∀ e ∈ node.children, e.2.maxLevel ≤ k := by
  cases node with
  | mk l a cs => rw [maxLevel_mk]; exact maxLevelList_le_iff cs l k

theorem maxLevel_leaf_le_iff (l : Nat) (a : List Nat) (k : Nat) : (Node.mk l a []).maxLevel ≤ k ↔ l ≤ k := by
  rw [maxLevel_le_iff]
  exact ⟨fun h => h.1, fun h => ⟨h, fun e he => absurd he List.not_mem_nil⟩⟩

theorem level_le_maxLevel (node : Node) : node.level ≤ node.maxLevel :=
  ((maxLevel_le_iff node _).mp (Nat.le_refl _)).1

theorem lookup_maxLevel_le {node child : Node} {c : Name} (h : lookup c node.children = some child) :
    child.maxLevel ≤ node.maxLevel :=
  ((maxLevel_le_iff node _).mp (Nat.le_refl _)).2 _ (lookup_mem h)

/-- implied nodes only copy existing levels -/
theorem maxLevel_graft_le_iff (new : Node) (q : List Name) (node : Node) (hnone : getNode node q = none)
    (k : Nat) : (graft new q node).maxLevel ≤ k ↔ node.maxLevel ≤ k ∧ new.maxLevel ≤ k := by
  induction q generalizing node with
  | nil => cases hnone
  | cons c cs ih =>
    rw [graft, maxLevel_le_iff, maxLevel_le_iff node, Node.children_mk, Node.level_mk, putChild, childOr]
    rw [getNode_cons] at hnone
    cases hl : lookup c node.children with
    | some child =>
      rw [hl] at hnone
      have hg := ih child hnone
      simp only [Option.getD_some]
      rw [forall_mem_setChild (Q := fun n => n.maxLevel ≤ k) hl (fun h => (hg.mp h).1), hg]
      exact ⟨fun ⟨h1, ⟨_, h2⟩, h3⟩ => ⟨⟨h1, h3⟩, h2⟩,
        fun ⟨⟨h1, h3⟩, h2⟩ => ⟨h1, ⟨h3 _ (lookup_mem hl), h2⟩, h3⟩⟩
    | none =>
      -- the grafted node, or the chain of copies above it, is appended: a copy carries the parent's level
      have hg : node.level ≤ k →
          ((graft new cs (Node.mk node.level node.apps [])).maxLevel ≤ k ↔ new.maxLevel ≤ k) := by
        intro hlv
        cases cs with
        | nil => exact Iff.rfl
        | cons c' cs' => rw [ih _ rfl, maxLevel_leaf_le_iff]; exact and_iff_right hlv
      simp only [Option.getD_none, List.forall_mem_append, List.forall_mem_singleton]
      exact ⟨fun ⟨h1, h3, h2⟩ => ⟨⟨h1, h3⟩, (hg h1).mp h2⟩,
        fun ⟨⟨h1, h3⟩, h2⟩ => ⟨h1, h3, (hg h1).mpr h2⟩⟩

theorem find_level_le_maxLevel (node : Node) (p : List Name) : (find node p).level ≤ node.maxLevel := by
  induction p generalizing node with
  | nil => exact level_le_maxLevel node
  | cons c cs ih =>
    rw [find]
    cases hl : lookup c node.children with
    | none => exact level_le_maxLevel node
    | some child => exact Nat.le_trans (ih child) (lookup_maxLevel_le hl)

end Log4rs.Routing.Tree
